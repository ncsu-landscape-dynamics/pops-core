/-
  Core helpers shared by all model files (core Lean only, no Mathlib).
  * `ErrKind`: the four standard exception classes the library documents.
  * `Rat` rounding: `rceil`, `rfloor`, `lround` (half away from zero, as C `lround`).
-/
namespace Pops

/-- The exception classes the correspondence distinguishes (messages are never compared). -/
inductive ErrKind where
  | invalid_argument
  | logic_error
  | runtime_error
  | out_of_range
deriving DecidableEq, Repr, Inhabited

def ErrKind.name : ErrKind → String
  | .invalid_argument => "invalid_argument"
  | .logic_error => "logic_error"
  | .runtime_error => "runtime_error"
  | .out_of_range => "out_of_range"

/-- `std::ceil` on an exact rational. -/
def rceil (q : Rat) : Int := q.ceil
/-- `std::floor` on an exact rational. -/
def rfloor (q : Rat) : Int := q.floor
/-- `std::lround` / `std::round`: nearest integer, halves away from zero. -/
def lround (q : Rat) : Int :=
  if 0 ≤ q then (q + 1/2).floor else -((-q + 1/2).floor)

/-- `f` applied `n` times. -/
def iter {α : Type} (f : α → α) : Nat → α → α
  | 0, a => a
  | n+1, a => iter f n (f a)

theorem iter_succ_outer {α : Type} (f : α → α) (n : Nat) (a : α) :
    iter f (n+1) a = f (iter f n a) := by
  induction n generalizing a with
  | zero => rfl
  | succ k ih => simp only [iter] at *; exact ih (f a)

def sumL (l : List Int) : Int := l.foldl (· + ·) 0

theorem foldl_add_init (l : List Int) (a : Int) : l.foldl (· + ·) a = a + l.foldl (· + ·) 0 := by
  induction l generalizing a with
  | nil => simp
  | cons x xs ih => simp only [List.foldl_cons]; rw [ih (a + x), ih (0 + x)]; omega

@[simp] theorem sumL_nil : sumL [] = 0 := rfl
@[simp] theorem sumL_cons (x : Int) (xs : List Int) : sumL (x :: xs) = x + sumL xs := by
  show List.foldl (· + ·) (0 + x) xs = _
  rw [foldl_add_init, Int.zero_add]; rfl
@[simp] theorem sumL_append (a b : List Int) : sumL (a ++ b) = sumL a + sumL b := by
  induction a with
  | nil => exact (Int.zero_add _).symm
  | cons x xs ih => rw [List.cons_append, sumL_cons, sumL_cons, ih, Int.add_assoc]

end Pops
