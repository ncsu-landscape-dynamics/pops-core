/-
  C13, real-number facts (Mathlib, single modules): the radial geometry and the samplers of
  Model/KernRadial.lean instantiated at `TF.real` (Analysis/DetReal.lean).
  * rounding: `TF.real.lround` is odd, sign preserving, and agrees with the rational `lround`
  * geometry: cosine and sine of the eight coded compass angles are the north / east signs times a
    positive factor (`compass_vector`), hence the signs of the row and column offsets
  * von Mises: the coded threshold and the two mirror angles over the reals
  * the ten constructor guards together; counting the uniform values of the natural / anthropogenic mix
-/
import PopsModel.Analysis.DetReal
import PopsModel.Lemmas.KernRadial
import Mathlib.Analysis.SpecialFunctions.Trigonometric.Basic
import Mathlib.Tactic.Ring
import Mathlib.Tactic.FieldSimp
import Mathlib.Tactic.NormNum
import Mathlib.Tactic.Linarith
import Mathlib.Tactic.Positivity

namespace Pops
open Real

/-- `TF.real.lround` spelled out. -/
noncomputable def lroundR (x : ℝ) : ℤ := if 0 ≤ x then ⌊x + 1 / 2⌋ else -⌊-x + 1 / 2⌋

theorem real_lround_eq (x : ℝ) : TF.real.lround x = lroundR x := rfl

theorem lroundR_zero : lroundR 0 = 0 := by
  rw [lroundR, if_pos le_rfl, zero_add, Int.floor_eq_iff]; norm_num

theorem lroundR_neg (x : ℝ) : lroundR (-x) = -lroundR x := by
  rcases lt_trichotomy x 0 with h | rfl | h
  · rw [lroundR, lroundR, if_pos (neg_nonneg.mpr h.le), if_neg (not_le.mpr h), neg_neg]
  · rw [neg_zero, lroundR_zero, neg_zero]
  · rw [lroundR, lroundR, if_neg (not_le.mpr (neg_neg_of_pos h)), if_pos h.le, neg_neg]

theorem lroundR_nonneg {x : ℝ} (h : 0 ≤ x) : 0 ≤ lroundR x := by
  rw [lroundR, if_pos h]; exact Int.floor_nonneg.mpr (add_nonneg h (by norm_num))

theorem lroundR_nonpos {x : ℝ} (h : x ≤ 0) : lroundR x ≤ 0 := by
  have := lroundR_nonneg (x := -x) (by linarith)
  rw [lroundR_neg] at this; omega

/-- The real rounding restricted to rationals is the rational `lround` of Model/Basic.lean (the one
    the driver applies to the exact value of the floating-point quotient). -/
theorem lroundR_ratCast (q : ℚ) : lroundR (q : ℝ) = lround q := by
  have key : ∀ r : ℚ, 0 ≤ r → lroundR (r : ℝ) = lround r := fun r hr => by
    rw [lroundR, lround, if_pos hr, if_pos (Rat.cast_nonneg.mpr hr),
      show (r : ℝ) + 1 / 2 = ((r + 1 / 2 : ℚ) : ℝ) by push_cast; ring, Rat.floor_cast]; rfl
  by_cases h : 0 ≤ q
  · exact key q h
  · have := key (-q) (by grind)
    rwa [Rat.cast_neg, lroundR_neg, lround_neg, neg_inj] at this

/-- Rounding is within half a unit: for `x >= 0` it is Mathlib's `round`, the rest by oddness. -/
theorem lroundR_close (x : ℝ) : |(lroundR x : ℝ) - x| ≤ 1 / 2 := by
  have key : ∀ y : ℝ, 0 ≤ y → |(lroundR y : ℝ) - y| ≤ 1 / 2 := fun y hy => by
    rw [lroundR, if_pos hy, ← round_eq, abs_sub_comm]; exact abs_sub_round y
  by_cases h : 0 ≤ x
  · exact key x h
  · have := key (-x) (neg_nonneg.mpr (not_le.mp h).le)
    rwa [lroundR_neg, Int.cast_neg, neg_sub_neg, abs_sub_comm] at this

theorem radialTarget_real (row col : ℤ) (d theta ns ew : ℝ) :
    radialTarget TF.real row col d theta ns ew =
      (row - lroundR (d * cos theta / ns), col + lroundR (d * sin theta / ew)) := rfl

theorem directionMu_real (d : Direction) : directionMu TF.real d = (d.degrees.toNat : ℝ) * π / 180 :=
  congrArg (_ / ·) Nat.cast_ofNat

/-- The common factor `m` is 1 on the axes and `√2 / 2` on the diagonals. -/
theorem compass_vector (d : Direction) (hd : d ≠ .none) :
    ∃ m : ℝ, 0 < m ∧ (d.northSign = 0 ∨ d.eastSign = 0 → m = 1) ∧
      cos (directionMu TF.real d) = d.northSign * m ∧ sin (directionMu TF.real d) = d.eastSign * m := by
  have hq : (0 : ℝ) < √2 / 2 := by positivity
  have diag {a b : ℤ} (ha : a ≠ 0) (hb : b ≠ 0) : a = 0 ∨ b = 0 → √2 / 2 = 1 := fun h => (h.elim ha hb).elim
  have p1 (m : ℝ) : ((1 : ℤ) : ℝ) * m = m := by rw [Int.cast_one, one_mul]
  have m1 (m : ℝ) : ((-1 : ℤ) : ℝ) * m = -m := by rw [Int.cast_neg, Int.cast_one, neg_one_mul]
  have z (m : ℝ) : ((0 : ℤ) : ℝ) * m = 0 := by rw [Int.cast_zero, zero_mul]
  rw [directionMu_real]
  -- `erw`: the degrees and signs of a concrete direction are numerals only after unfolding
  cases d
  case none => exact absurd rfl hd
  case N =>
    have e : ((0 : ℕ) : ℝ) * π / 180 = 0 := by rw [Nat.cast_zero, zero_mul, zero_div]
    exact ⟨1, one_pos, fun _ => rfl, by erw [e, cos_zero, p1], by erw [e, sin_zero, z]⟩
  case NE =>
    have e : ((45 : ℕ) : ℝ) * π / 180 = π / 4 := by push_cast; ring
    exact ⟨_, hq, diag (by decide) (by decide), by erw [e, cos_pi_div_four, p1], by erw [e, sin_pi_div_four, p1]⟩
  case E =>
    have e : ((90 : ℕ) : ℝ) * π / 180 = π / 2 := by push_cast; ring
    exact ⟨1, one_pos, fun _ => rfl, by erw [e, cos_pi_div_two, z], by erw [e, sin_pi_div_two, p1]⟩
  case SE =>
    have e : ((135 : ℕ) : ℝ) * π / 180 = π / 4 + π / 2 := by push_cast; ring
    exact ⟨_, hq, diag (by decide) (by decide), by erw [e, cos_add_pi_div_two, sin_pi_div_four, m1],
      by erw [e, sin_add_pi_div_two, cos_pi_div_four, p1]⟩
  case S =>
    have e : ((180 : ℕ) : ℝ) * π / 180 = π := by push_cast; ring
    exact ⟨1, one_pos, fun _ => rfl, by erw [e, cos_pi, m1], by erw [e, sin_pi, z]⟩
  case SW =>
    have e : ((225 : ℕ) : ℝ) * π / 180 = π / 4 + π := by push_cast; ring
    exact ⟨_, hq, diag (by decide) (by decide), by erw [e, cos_add_pi, cos_pi_div_four, m1],
      by erw [e, sin_add_pi, sin_pi_div_four, m1]⟩
  case W =>
    have e : ((270 : ℕ) : ℝ) * π / 180 = π / 2 + π := by push_cast; ring
    exact ⟨1, one_pos, fun _ => rfl, by erw [e, cos_add_pi, cos_pi_div_two, neg_zero, z],
      by erw [e, sin_add_pi, sin_pi_div_two, m1]⟩
  case NW =>
    have e : ((315 : ℕ) : ℝ) * π / 180 = π / 4 + π / 2 + π := by push_cast; ring
    exact ⟨_, hq, diag (by decide) (by decide),
      by erw [e, cos_add_pi, cos_add_pi_div_two, sin_pi_div_four, neg_neg, p1],
      by erw [e, sin_add_pi, sin_add_pi_div_two, cos_pi_div_four, m1]⟩

theorem sign_of_mul_pos {s : ℤ} {m x : ℝ} (hm : 0 < m) (hx : x = s * m) :
    (s = 1 → 0 < x) ∧ (s = -1 → x < 0) ∧ (s = 0 → x = 0) := by
  subst hx
  refine ⟨fun h => ?_, fun h => ?_, fun h => ?_⟩ <;> subst h
  · rwa [Int.cast_one, one_mul]
  · rwa [Int.cast_neg, Int.cast_one, neg_one_mul, neg_lt_zero]
  · rw [Int.cast_zero, zero_mul]

theorem lroundR_offset_sign {s : ℤ} {c dist res : ℝ} (hdist : 0 ≤ dist) (hres : 0 < res)
    (hc : (s = 1 → 0 < c) ∧ (s = -1 → c < 0) ∧ (s = 0 → c = 0)) :
    (s = 1 → 0 ≤ lroundR (dist * c / res)) ∧ (s = -1 → lroundR (dist * c / res) ≤ 0) ∧
    (s = 0 → lroundR (dist * c / res) = 0) :=
  ⟨fun h => lroundR_nonneg (div_nonneg (mul_nonneg hdist (hc.1 h).le) hres.le),
   fun h => lroundR_nonpos (div_nonpos_of_nonpos_of_nonneg (mul_nonpos_of_nonneg_of_nonpos hdist (hc.2.1 h).le) hres.le),
   fun h => by rw [hc.2.2 h, mul_zero, zero_div, lroundR_zero]⟩

theorem two_pi_real : TF.real.mul (TF.real.ofNat 2) TF.real.pi = 2 * π :=
  congrArg (· * π) Nat.cast_ofNat

theorem half_real : TF.real.div (TF.real.ofNat 1) (TF.real.ofNat 2) = 1 / 2 :=
  congrArg₂ (· / ·) Nat.cast_one Nat.cast_ofNat

theorem vonMisesEps_real : vonMisesEps TF.real = 1 / 1000000 :=
  congrArg₂ (· / ·) Nat.cast_one Nat.cast_ofNat

theorem leb_eps_real {kappa : ℝ} (h : 1 / 1000000 < kappa) : TF.real.leb kappa (vonMisesEps TF.real) = false := by
  rw [vonMisesEps_real]; exact decide_eq_false (not_le.mpr h)

/-- `kappa <= 1e-6` (as coded): the angle is `2 pi U` for the single uniform value `U` consumed. -/
theorem vonMises_small_real (mu kappa u : ℝ) (rest : List ℝ) (h : kappa ≤ 1 / 1000000) :
    vonMises TF.real mu kappa (u :: rest) = some (2 * π * u, rest) := by
  rw [vonMises_small_kappa TF.real mu kappa u rest (by rw [vonMisesEps_real]; exact decide_eq_true h),
    two_pi_real]
  rfl

/-- No direction configured: uniform angle, whatever concentration was configured. -/
theorem vonMises_none_real (mu kappa u : ℝ) (rest : List ℝ) :
    vonMises TF.real mu (directionKappa TF.real .none kappa) (u :: rest) = some (2 * π * u, rest) := by
  rw [directionKappa_none]
  exact vonMises_small_real mu _ u rest ((Nat.cast_zero (R := ℝ)).trans_le (by norm_num))

/-- `fmod(x, 2 pi)` differs from `x` by a whole number of turns. -/
theorem fmod_real_turns (x : ℝ) : ∃ k : ℤ, TF.real.fmod x (2 * π) = x - 2 * π * k := by
  simp only [TF.real]
  by_cases h : 0 ≤ x / (2 * π)
  · exact ⟨⌊x / (2 * π)⌋, by rw [if_pos h]⟩
  · exact ⟨⌈x / (2 * π)⌉, by rw [if_neg h]⟩

theorem vonMises_real_of_loop (mu kappa f u3 : ℝ) (us rest : List ℝ) (h : 1 / 1000000 < kappa)
    (hloop : vonMisesLoop TF.real kappa (vonMisesR TF.real kappa) us = some (f, u3 :: rest)) :
    ∃ k : ℤ, vonMises TF.real mu kappa us =
      some ((if 1 / 2 < u3 then mu + arccos f else mu - arccos f) - 2 * π * k, rest) := by
  obtain ⟨k, hk⟩ := fmod_real_turns (if 1 / 2 < u3 then mu + arccos f else mu - arccos f)
  refine ⟨k, ?_⟩
  rw [vonMises_mirror TF.real mu kappa f u3 us rest (leb_eps_real h) hloop, ← hk, half_real, two_pi_real]
  by_cases hu : 1 / 2 < u3
  · have hl : TF.real.ltb (1 / 2) u3 = true := decide_eq_true hu
    rw [if_pos hu, hl, if_pos rfl]; rfl
  · have hl : TF.real.ltb (1 / 2) u3 = false := decide_eq_false hu
    rw [if_neg hu, hl, if_neg Bool.false_ne_true]; rfl

/-- `kappa > 1e-6`: the angle is `mu + arccos f` or `mu - arccos f` up to whole turns, the sign being
    decided by `u3 > 1/2` for a further uniform value `u3` (a fair draw), with the same `f`. -/
theorem vonMises_mirror_real (mu kappa theta : ℝ) (us rest : List ℝ) (h : 1 / 1000000 < kappa)
    (hv : vonMises TF.real mu kappa us = some (theta, rest)) :
    ∃ (f u3 : ℝ) (k : ℤ), (1 / 2 < u3 ∧ theta = mu + arccos f - 2 * π * k) ∨
                           (u3 ≤ 1 / 2 ∧ theta = mu - arccos f - 2 * π * k) := by
  obtain ⟨f, u3, hl⟩ := vonMises_loop_of_some TF.real mu kappa theta us rest (leb_eps_real h) hv
  obtain ⟨k, hk⟩ := vonMises_real_of_loop mu kappa f u3 us rest h hl
  rw [hv, Option.some.injEq, Prod.mk.injEq] at hk
  refine ⟨f, u3, k, ?_⟩
  by_cases hu : 1 / 2 < u3
  · rw [if_pos hu] at hk; exact Or.inl ⟨hu, hk.1⟩
  · rw [if_neg hu] at hk; exact Or.inr ⟨not_lt.mp hu, hk.1⟩

/-- The ten constructor guards together: the radial kernel is constructed iff scale and shape are
    positive (the rational guard `radialCtorOk` of the factory model). -/
theorem radial_make_real (ew ns : ℝ) (t : DispersalKernelType) (scale : ℝ) (dir : Direction) (kappa shape : ℝ) :
    (RadialKernel.make TF.real ew ns t scale dir kappa shape).toBool = true ↔ 0 < scale ∧ 0 < shape := by
  -- the ten class guards in the order of `Law.all`: each asks for a positive or a nonzero scale or shape
  have h : (Law.all.all fun l => lawCtorOk TF.real l scale shape) = true ↔ 0 < scale ∧ 0 < shape := by
    simp only [Law.all, List.all_cons, List.all_nil, lawCtorOk, TF.real, Nat.cast_zero, Bool.and_true,
      Bool.and_eq_true, Bool.not_eq_true', Bool.or_eq_false_iff, decide_eq_false_iff_not, not_le]
    exact ⟨fun h => ⟨h.1, h.2.2.1.1⟩,
      fun ⟨h1, h2⟩ => ⟨h1, h1, ⟨h2, h1⟩, h1.ne', h1, h2.ne', h1.ne', ⟨h1, h2⟩, ⟨h1, h2⟩, h1⟩⟩
  rw [← h, RadialKernel.make]
  split <;> simp only [Except.toBool, *]

theorem length_filter_le_range (n m : Nat) : ((List.range n).filter fun k => decide (m ≤ k)).length = n - m := by
  induction n with
  | zero => simp
  | succ n ih =>
    rw [List.range_succ, List.filter_append, List.length_append, ih]
    by_cases h : m ≤ n
    · simp [h]; omega
    · simp [h]; omega

/-- Of the `n` equally spaced values `u = k/n` of a uniform draw, exactly `n - m` select the
    anthropogenic kernel when the natural share is `m/n`: probability `1 - m/n`. -/
theorem mix_count (n m : ℕ) (hn : 0 < n) :
    mixAnthroCount true true n ((m : ℚ) / (n : ℚ)) = n - m := by
  unfold mixAnthroCount
  have hpos : (0 : ℚ) < n := by exact_mod_cast hn
  have : ∀ k : ℕ, mixUsesAnthropogenic true true ((k : ℚ) / n) ((m : ℚ) / n) = decide (m ≤ k) := by
    intro k
    rw [Bool.eq_iff_iff, mix_iff, decide_eq_true_iff]
    simp only [true_and]
    rw [div_le_div_iff_of_pos_right hpos]
    exact_mod_cast Iff.rfl
  simp only [this]
  exact length_filter_le_range n m

end Pops
