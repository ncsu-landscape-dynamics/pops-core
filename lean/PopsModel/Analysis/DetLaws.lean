/-
  C14: the quantile of each closed-form distance law is the inverse of the cumulative distribution
  of the SAME density. The objects are the generic definitions of Model/KernLaws.lean (the syntax
  the driver executes at `TF.float`) instantiated at `TF.real`. (Mathlib, single modules.)

  Per law (Cauchy, exponential, Weibull, logistic, hyperbolic secant):
    * `...Cdf_real`, `...Icdf_real`, `...Pdf_real`: the model's formula in ordinary notation, the
      `sigma == 1` / `s == 1` branches of the code folded into the general formula,
    * `..._icdf_cdf` : `icdf (cdf x) = x` on the support,
    * `..._cdf_icdf` : `cdf (icdf p) = p` for `0 < p < 1`,
    * `..._hasDerivAt`: `HasDerivAt cdf (pdf x) x` - `cdf` is an antiderivative of the coded density.
  F21 (open): the power-law `icdf` is not the inverse of the cdf of the coded density, nor of the
  unshifted Pareto density (`powerlaw_counterexample`, `powerlaw_counterexample_pareto`).
  Last, the two facts about `⌈dmax / res⌉` behind the window dimensions.
-/
import PopsModel.Analysis.DetReal
import PopsModel.Model.Det
import Mathlib.Analysis.SpecialFunctions.Trigonometric.ArctanDeriv
import Mathlib.Analysis.SpecialFunctions.Pow.Deriv
import Mathlib.Analysis.SpecialFunctions.ExpDeriv
import Mathlib.Analysis.SpecialFunctions.Trigonometric.DerivHyp
import Mathlib.Tactic.FieldSimp
import Mathlib.Tactic.Ring
import Mathlib.Tactic.Linarith
import Mathlib.Tactic.NormNum

namespace Pops.Det
open Pops Real

/-! ### Cauchy -/

theorem cauchyCdf_real (s x : ℝ) : cauchyCdf TF.real s x = 1 / 2 + arctan (x / s) / π := by
  simp only [cauchyCdf, TF.real, Nat.cast_one, Nat.cast_ofNat]

theorem cauchyIcdf_real (s p : ℝ) : cauchyIcdf TF.real s p = s * tan (π * (p - 1 / 2)) := by
  simp only [cauchyIcdf, TF.real, Nat.cast_one, Nat.cast_ofNat]

theorem cauchyPdf_real (s x : ℝ) : cauchyPdf TF.real s x = 1 / (s * π * (1 + (x / s) ^ 2)) := by
  simp only [cauchyPdf, TF.real, Nat.cast_one, Nat.cast_ofNat, rpow_two]

theorem cauchy_icdf_cdf (s : ℝ) (hs : s ≠ 0) (x : ℝ) :
    cauchyIcdf TF.real s (cauchyCdf TF.real s x) = x := by
  rw [cauchyIcdf_real, cauchyCdf_real, add_sub_cancel_left, mul_div_cancel₀ _ pi_ne_zero, tan_arctan,
    mul_div_cancel₀ _ hs]

theorem cauchy_cdf_icdf (s : ℝ) (hs : s ≠ 0) (p : ℝ) (h0 : 0 < p) (h1 : p < 1) :
    cauchyCdf TF.real s (cauchyIcdf TF.real s p) = p := by
  have hlo : -(π / 2) < π * (p - 1 / 2) := by
    rw [mul_sub, mul_one_div, lt_sub_iff_add_lt, neg_add_cancel]; exact mul_pos pi_pos h0
  have hhi : π * (p - 1 / 2) < π / 2 := by
    rw [mul_sub, mul_one_div, sub_lt_iff_lt_add, add_halves]; exact mul_lt_of_lt_one_right pi_pos h1
  rw [cauchyIcdf_real, cauchyCdf_real, mul_div_cancel_left₀ _ hs, arctan_tan hlo hhi,
    mul_div_cancel_left₀ _ pi_ne_zero, add_sub_cancel]

theorem cauchy_hasDerivAt (s x : ℝ) :
    HasDerivAt (cauchyCdf TF.real s) (cauchyPdf TF.real s x) x := by
  rw [funext (cauchyCdf_real s), cauchyPdf_real]
  exact ((((hasDerivAt_id' x).div_const s).arctan.div_const π).const_add (1 / 2)).congr_deriv
    (by rw [div_mul_div_comm, div_div, one_mul, mul_comm _ s, mul_right_comm])

/-! ### Exponential -/

theorem exponentialCdf_real (b x : ℝ) : exponentialCdf TF.real b x = 1 - exp (-x / b) := by
  simp only [exponentialCdf, TF.real, Nat.cast_one]

theorem exponentialIcdf_real (b p : ℝ) : exponentialIcdf TF.real b p = -b * log (1 - p) := by
  simp only [exponentialIcdf, TF.real, Nat.cast_one]

theorem exponentialPdf_real (b x : ℝ) : exponentialPdf TF.real b x = 1 / b * exp (-x / b) := by
  simp only [exponentialPdf, TF.real, Nat.cast_one]

theorem exponential_icdf_cdf (b : ℝ) (hb : b ≠ 0) (x : ℝ) :
    exponentialIcdf TF.real b (exponentialCdf TF.real b x) = x := by
  rw [exponentialIcdf_real, exponentialCdf_real, sub_sub_cancel, log_exp, neg_div, neg_mul_neg,
    mul_div_cancel₀ _ hb]

theorem exponential_cdf_icdf (b : ℝ) (hb : b ≠ 0) (p : ℝ) (h1 : p < 1) :
    exponentialCdf TF.real b (exponentialIcdf TF.real b p) = p := by
  rw [exponentialIcdf_real, exponentialCdf_real, neg_mul, neg_neg, mul_div_cancel_left₀ _ hb,
    exp_log (sub_pos.mpr h1), sub_sub_cancel]

theorem exponential_hasDerivAt (b : ℝ) (x : ℝ) :
    HasDerivAt (exponentialCdf TF.real b) (exponentialPdf TF.real b x) x := by
  rw [funext (exponentialCdf_real b), exponentialPdf_real]
  exact (((hasDerivAt_neg' x).div_const b).exp.const_sub 1).congr_deriv (by ring)

/-! ### Weibull (`a` = shape, `b` = scale) -/

theorem weibullCdf_real (a b x : ℝ) : weibullCdf TF.real a b x = 1 - exp (-(x / b) ^ a) := by
  simp only [weibullCdf, TF.real, Nat.cast_one]

theorem weibullIcdf_real (a b p : ℝ) : weibullIcdf TF.real a b p = b * (-log (1 - p)) ^ (1 / a) := by
  simp only [weibullIcdf, TF.real, Nat.cast_one]

theorem weibullPdf_real (a b x : ℝ) :
    weibullPdf TF.real a b x = a / b * (x / b) ^ (a - 1) * exp (-(x / b) ^ a) := by
  simp only [weibullPdf, TF.real, Nat.cast_one]

theorem weibull_icdf_cdf (a b : ℝ) (ha : a ≠ 0) (hb : 0 < b) (x : ℝ) (hx : 0 ≤ x) :
    weibullIcdf TF.real a b (weibullCdf TF.real a b x) = x := by
  rw [weibullIcdf_real, weibullCdf_real, sub_sub_cancel, log_exp, neg_neg,
    ← rpow_mul (div_nonneg hx hb.le), mul_one_div_cancel ha, rpow_one, mul_div_cancel₀ _ hb.ne']

theorem weibull_cdf_icdf (a b : ℝ) (ha : a ≠ 0) (hb : 0 < b) (p : ℝ) (h0 : 0 < p) (h1 : p < 1) :
    weibullCdf TF.real a b (weibullIcdf TF.real a b p) = p := by
  have hL : 0 ≤ -log (1 - p) :=
    neg_nonneg.mpr (log_nonpos (sub_pos.mpr h1).le (sub_le_self 1 h0.le))
  rw [weibullIcdf_real, weibullCdf_real, mul_div_cancel_left₀ _ hb.ne', ← rpow_mul hL,
    one_div_mul_cancel ha, rpow_one, neg_neg, exp_log (sub_pos.mpr h1), sub_sub_cancel]

theorem weibull_hasDerivAt (a b : ℝ) (hb : 0 < b) (x : ℝ) (hx : 0 < x) :
    HasDerivAt (weibullCdf TF.real a b) (weibullPdf TF.real a b x) x := by
  rw [funext (weibullCdf_real a b), weibullPdf_real]
  exact (((((hasDerivAt_id' x).div_const b).rpow_const (p := a) (Or.inl (div_pos hx hb).ne')).fun_neg).exp.const_sub
    1).congr_deriv (by ring)

/-! ### Logistic -/

theorem logisticCdf_real (s x : ℝ) : logisticCdf TF.real s x = 1 / (1 + exp (-x / s)) := by
  simp only [logisticCdf, TF.real, Nat.cast_one]

theorem logisticIcdf_real (s p : ℝ) : logisticIcdf TF.real s p = s * log (p / (1 - p)) := by
  simp only [logisticIcdf, TF.real, Nat.cast_one]

/-- The branch `s == 1` of the code is the general formula at `s = 1`. -/
theorem logisticPdf_real (s x : ℝ) :
    logisticPdf TF.real s x = exp (-x / s) / (s * (1 + exp (-x / s)) ^ 2) := by
  simp only [logisticPdf, TF.real, Nat.cast_one, Nat.cast_ofNat, rpow_two, decide_eq_true_eq]
  split
  · next h => rw [h, div_one, one_mul]
  · rfl

theorem logistic_odds (y : ℝ) : 1 / (1 + exp (-y)) / (1 - 1 / (1 + exp (-y))) = exp y := by
  have hne : 1 + exp (-y) ≠ 0 := (add_pos one_pos (exp_pos _)).ne'
  rw [one_sub_div hne, add_sub_cancel_left, div_div_div_cancel_right₀ hne, exp_neg, one_div, inv_inv]

theorem logistic_icdf_cdf (s : ℝ) (hs : s ≠ 0) (x : ℝ) :
    logisticIcdf TF.real s (logisticCdf TF.real s x) = x := by
  rw [logisticIcdf_real, logisticCdf_real, neg_div, logistic_odds, log_exp, mul_div_cancel₀ _ hs]

theorem logistic_cdf_icdf (s : ℝ) (hs : s ≠ 0) (p : ℝ) (h0 : 0 < p) (h1 : p < 1) :
    logisticCdf TF.real s (logisticIcdf TF.real s p) = p := by
  have h1p : 0 < 1 - p := sub_pos.mpr h1
  rw [logisticIcdf_real, logisticCdf_real, neg_div, mul_div_cancel_left₀ _ hs, exp_neg,
    exp_log (div_pos h0 h1p), inv_div, one_add_div h0.ne', add_sub_cancel, one_div_div, div_one]

theorem logistic_hasDerivAt (s x : ℝ) :
    HasDerivAt (logisticCdf TF.real s) (logisticPdf TF.real s x) x := by
  rw [funext (logisticCdf_real s), logisticPdf_real]
  have hne : 1 + exp (-x / s) ≠ 0 := (add_pos one_pos (exp_pos _)).ne'
  exact ((hasDerivAt_const x (1 : ℝ)).div (((hasDerivAt_neg' x).div_const s).exp.const_add 1)
    hne).congr_deriv (by generalize 1 + exp (-x / s) = D; ring)

/-! ### Hyperbolic secant -/

theorem hypsecCdf_real (σ x : ℝ) :
    hypsecCdf TF.real σ x = 2 / π * arctan (exp (π * x / (2 * σ))) := by
  simp only [hypsecCdf, TF.real, Nat.cast_ofNat]

/-- The branch `sigma == 1` of the code is the general formula at `σ = 1`. -/
theorem hypsecIcdf_real (σ p : ℝ) :
    hypsecIcdf TF.real σ p = log (tan (π / 2 * p)) * (2 * σ) / π := by
  simp only [hypsecIcdf, TF.real, Nat.cast_ofNat, Nat.cast_one, decide_eq_true_eq]
  split
  · next h => rw [h, mul_one, mul_div_assoc, mul_comm]
  · rw [mul_comm p π, mul_div_right_comm π p 2]

theorem hypsecPdf_real (σ x : ℝ) :
    hypsecPdf TF.real σ x = 1 / (2 * σ) * (1 / cosh (π * x / (2 * σ))) := by
  simp only [hypsecPdf, TF.real, Nat.cast_ofNat, Nat.cast_one, decide_eq_true_eq]
  split
  · next h => rw [h, mul_one]
  · rfl

theorem hypsec_icdf_cdf (σ : ℝ) (hσ : σ ≠ 0) (x : ℝ) :
    hypsecIcdf TF.real σ (hypsecCdf TF.real σ x) = x := by
  have h2σ : 2 * σ ≠ 0 := mul_ne_zero two_ne_zero hσ
  rw [hypsecIcdf_real, hypsecCdf_real, ← mul_assoc (π / 2), div_mul_div_cancel₀' pi_ne_zero,
    div_self two_ne_zero, one_mul, tan_arctan, log_exp, div_mul_cancel₀ _ h2σ,
    mul_div_cancel_left₀ _ pi_ne_zero]

theorem hypsec_cdf_icdf (σ : ℝ) (hσ : σ ≠ 0) (p : ℝ) (h0 : 0 < p) (h1 : p < 1) :
    hypsecCdf TF.real σ (hypsecIcdf TF.real σ p) = p := by
  have h2σ : 2 * σ ≠ 0 := mul_ne_zero two_ne_zero hσ
  have hlo : 0 < π / 2 * p := mul_pos (half_pos pi_pos) h0
  have hhi : π / 2 * p < π / 2 := mul_lt_of_lt_one_right (half_pos pi_pos) h1
  rw [hypsecIcdf_real, hypsecCdf_real, mul_div_cancel₀ _ pi_ne_zero, mul_div_cancel_right₀ _ h2σ,
    exp_log (tan_pos_of_pos_of_lt_pi_div_two hlo hhi),
    arctan_tan (lt_trans (neg_lt_zero.mpr (half_pos pi_pos)) hlo) hhi, ← mul_assoc,
    div_mul_div_cancel₀' two_ne_zero, div_self pi_ne_zero, one_mul]

theorem hypsec_hasDerivAt (σ : ℝ) (hσ : σ ≠ 0) (x : ℝ) :
    HasDerivAt (hypsecCdf TF.real σ) (hypsecPdf TF.real σ x) x := by
  rw [funext (hypsecCdf_real σ), hypsecPdf_real]
  have he : 0 < exp (π * x / (2 * σ)) := exp_pos _
  refine ((((hasDerivAt_id' x).const_mul π).div_const (2 * σ)).exp.arctan.const_mul (2 / π)).congr_deriv ?_
  rw [cosh_eq, exp_neg]
  field_simp
  ring

/-! ### F21: the power-law quantile is not the inverse of the cdf of its density -/

theorem powerlawIcdf_real (α xm p : ℝ) : powerlawIcdf TF.real α xm p = (p / xm) ^ (-α + 1) := by
  simp only [powerlawIcdf, TF.real, Nat.cast_one]

theorem powerlawCdf_real (α xm x : ℝ) : powerlawCdf TF.real α xm x = 1 - ((x + xm) / xm) ^ (1 - α) := by
  simp only [powerlawCdf, TF.real, Nat.cast_one]

theorem powerlawPdf_real (α xm x : ℝ) :
    powerlawPdf TF.real α xm x = (α - 1) / xm * ((x + xm) / xm) ^ (-α) := by
  simp only [powerlawPdf, TF.real, Nat.cast_one]

theorem powerlawIcdf_two_one (p : ℝ) : powerlawIcdf TF.real 2 1 p = p⁻¹ := by
  rw [powerlawIcdf_real, div_one, show (-2 : ℝ) + 1 = -1 by norm_num, rpow_neg_one]

/-- `alpha = 2, xmin = 1, p = 1/2`: `icdf = 2`, but the cdf of the coded (shifted) density at 2 is 2/3. -/
theorem powerlaw_counterexample :
    powerlawIcdf TF.real 2 1 (1 / 2) = 2 ∧ powerlawCdf TF.real 2 1 2 = 2 / 3 ∧
      powerlawCdf TF.real 2 1 (powerlawIcdf TF.real 2 1 (1 / 2)) ≠ 1 / 2 := by
  have h1 : powerlawIcdf TF.real 2 1 (1 / 2) = 2 := by rw [powerlawIcdf_two_one]; norm_num
  have h2 : powerlawCdf TF.real 2 1 2 = 2 / 3 := by
    rw [powerlawCdf_real, show (1 : ℝ) - 2 = -1 by norm_num, rpow_neg_one]; norm_num
  refine ⟨h1, h2, ?_⟩
  rw [h1, h2]; norm_num

/-- Nor of the unshifted Pareto density on `[xmin, ∞)`: `p = 1/4` gives `icdf = 4`, Pareto cdf 3/4. -/
theorem powerlaw_counterexample_pareto :
    powerlawIcdf TF.real 2 1 (1 / 4) = 4 ∧ paretoCdf TF.real 2 1 (powerlawIcdf TF.real 2 1 (1 / 4)) = 3 / 4 := by
  have h1 : powerlawIcdf TF.real 2 1 (1 / 4) = 4 := by rw [powerlawIcdf_two_one]; norm_num
  refine ⟨h1, ?_⟩
  rw [h1]
  simp only [paretoCdf, TF.real, Nat.cast_one]
  rw [show (1 : ℝ) - 2 = -1 by norm_num, rpow_neg_one]; norm_num

/-! ### Window: `ceil (max_distance / res)` cells on each side -/

theorem ceil_cells (dmax res : ℝ) (hres : 0 < res) :
    dmax ≤ (⌈dmax / res⌉ : ℝ) * res ∧ ((⌈dmax / res⌉ : ℝ) - 1) * res < dmax :=
  ⟨(div_le_iff₀ hres).mp (Int.le_ceil _),
    (lt_div_iff₀ hres).mp (sub_lt_iff_lt_add.mpr (Int.ceil_lt_add_one _))⟩

/-- C++ integer division: the centre `(2 h + 1) / 2` of an axis with `h ≥ 0` is cell `h`. -/
theorem tdiv_centre (h : ℤ) (h0 : 0 ≤ h) : Int.tdiv (h * 2 + 1) 2 = h := by
  rw [Int.tdiv_eq_ediv_of_nonneg (by omega)]; omega

end Pops.Det
