/-
  C14: the invariant behind the allotment theorems of Props/C14Approx.lean and Props/C14.lean, over ℚ,
  about the executable model definitions `argmaxScan`, `pickStep`, `runPicks` of Model/DetPick.lean
  (scan-order arg-max as the C++ does) instantiated with the rational comparison and subtraction.
  (Mathlib, single modules.)

  The window `p` is non-negative and sums to `1 + ε`: the C++ divides doubles by their sum, so the
  stored weights sum to 1 only up to rounding; `ε = 0` is the exactly normalised window.

  Function level (any choice among the maximal cells): four inductive invariants
    rel  : remaining share = p_c - k_c * δ          tot : the remaining shares sum to ∑ p - t * δ
    low  : every remaining share > -δ                near: a cell picked at least once is within δ below every other
  The sum of `p` enters in two places only: a pick lands on a positive remaining share as long as
  `t δ < ∑ p` (for `δ = 1/N` and `t < N`: `-1 < N ε`), and after the `N` picks no remaining share
  exceeds `max (1/N) ε`. So for `-1 < N ε ≤ 1` the bounds are those of the exact case. That cells of
  equal weight differ by at most one pick follows from `rel` and `near` (`count_le_succ_of_weight_eq`).
  List level: `argmaxScan` returns a true maximum whenever some cell exceeds the initial value
  (`-(2^31 - 1)` in the C++; here any `init ≤ -1`), and one `pickStep` is one `pickAt` on the views.
-/
import PopsModel.Lemmas.Det
import Mathlib.Algebra.BigOperators.Fin
import Mathlib.Algebra.BigOperators.Group.Finset.Basic
import Mathlib.Algebra.Order.BigOperators.Group.Finset
import Mathlib.Algebra.BigOperators.Ring.Finset
import Mathlib.Algebra.Order.Field.Rat
import Mathlib.Algebra.Order.Field.Basic
import Mathlib.Tactic.Linarith
import Mathlib.Tactic.Ring
import Mathlib.Tactic.FieldSimp
import Mathlib.Tactic.Positivity

namespace Pops.Det
open Finset

/-- The rational instance of the comparison `probability_copy(i, j) > max`. -/
def ltQ : ℚ → ℚ → Bool := fun a b => decide (a < b)
/-- The rational instance of `-=`. -/
def subQ : ℚ → ℚ → ℚ := fun a b => a - b

variable {n : ℕ}

structure St (n : ℕ) where
  r : Fin n → ℚ
  k : Fin n → ℕ

def pickAt (c0 : Fin n) (δ : ℚ) (s : St n) : St n :=
  { r := Function.update s.r c0 (s.r c0 - δ), k := Function.update s.k c0 (s.k c0 + 1) }

section pickAt
variable (c0 : Fin n) (δ : ℚ) (s : St n)

theorem pickAt_r_self : (pickAt c0 δ s).r c0 = s.r c0 - δ := Function.update_self ..
theorem pickAt_k_self : (pickAt c0 δ s).k c0 = s.k c0 + 1 := Function.update_self ..
variable {c0} {c : Fin n} (hc : c ≠ c0)
include hc
theorem pickAt_r_of_ne : (pickAt c0 δ s).r c = s.r c := Function.update_of_ne hc ..
theorem pickAt_k_of_ne : (pickAt c0 δ s).k c = s.k c := Function.update_of_ne hc ..

end pickAt

structure PInv (p : Fin n → ℚ) (δ : ℚ) (t : ℕ) (s : St n) : Prop where
  rel : ∀ c, s.r c = p c - s.k c * δ
  tot : ∑ c, s.r c = ∑ c, p c - t * δ
  low : ∀ c, -δ < s.r c
  near : ∀ c d, 1 ≤ s.k d → s.r c - δ ≤ s.r d

variable {p : Fin n → ℚ} {δ : ℚ} {t : ℕ} {s : St n}

theorem inv_init (p : Fin n → ℚ) (hp0 : ∀ c, 0 ≤ p c) (δ : ℚ) (hδ : 0 < δ) :
    PInv p δ 0 { r := p, k := fun _ => 0 } where
  rel c := by rw [Nat.cast_zero, zero_mul, sub_zero]
  tot := by rw [Nat.cast_zero, zero_mul, sub_zero]
  low c := lt_of_lt_of_le (neg_lt_zero.mpr hδ) (hp0 c)
  near c d hd := absurd hd (Nat.not_succ_le_zero 0)

theorem inv_pickAt (hδ : 0 < δ) (h : PInv p δ t s) (c0 : Fin n) (hmax : ∀ c, s.r c ≤ s.r c0)
    (hpos : 0 < s.r c0) : PInv p δ (t + 1) (pickAt c0 δ s) where
  rel c := by
    rcases eq_or_ne c c0 with rfl | hc
    · rw [pickAt_r_self, pickAt_k_self, h.rel c]; push_cast; ring
    · rw [pickAt_r_of_ne δ s hc, pickAt_k_of_ne δ s hc]; exact h.rel c
  tot := by
    show ∑ c, Function.update s.r c0 (s.r c0 - δ) c = _
    rw [sum_update_of_mem (mem_univ _), sdiff_singleton_eq_erase, sum_erase_eq_sub (mem_univ _), h.tot]
    push_cast; ring
  low c := by
    rcases eq_or_ne c c0 with rfl | hc
    · rw [pickAt_r_self, ← zero_sub δ]; exact sub_lt_sub_right hpos δ
    · rw [pickAt_r_of_ne δ s hc]; exact h.low c
  near c d hd := by
    -- no remaining share grows, so only the picked cell `d = c0` needs the maximality
    have hle : (pickAt c0 δ s).r c ≤ s.r c := by
      rcases eq_or_ne c c0 with rfl | hc
      · rw [pickAt_r_self]; exact sub_le_self _ hδ.le
      · rw [pickAt_r_of_ne δ s hc]
    rcases eq_or_ne d c0 with rfl | hd0
    · rw [pickAt_r_self]; exact sub_le_sub_right (hle.trans (hmax c)) δ
    · rw [pickAt_r_of_ne δ s hd0]; rw [pickAt_k_of_ne δ s hd0] at hd
      exact (sub_le_sub_right hle δ).trans (h.near c d hd)

theorem max_pos (h : PInv p δ t s) (ht : t * δ < ∑ c, p c) (c0 : Fin n) (hmax : ∀ c, s.r c ≤ s.r c0) :
    0 < s.r c0 := by
  by_contra hneg
  have hle : ∑ c, s.r c ≤ 0 := sum_nonpos fun c _ => le_trans (hmax c) (not_lt.mp hneg)
  rw [h.tot] at hle
  exact not_le.mpr ht (sub_nonpos.mp hle)

/-- A cell two picks ahead of one of equal weight would be more than `δ` below it. -/
theorem count_le_succ_of_weight_eq (hδ : 0 < δ) (h : PInv p δ t s) (c d : Fin n) (hp : p c = p d) :
    s.k c ≤ s.k d + 1 := by
  by_contra hgt
  have hk : (s.k d : ℚ) + 2 ≤ s.k c := by exact_mod_cast not_le.mp hgt
  have hn := h.near d c (by omega)
  rw [h.rel c, h.rel d, hp] at hn
  linarith only [hn, mul_le_mul_of_nonneg_right hk hδ.le, hδ]

theorem share_le_max (h : PInv p δ t s) (hp0 : ∀ c, 0 ≤ p c) (c : Fin n) :
    s.r c ≤ max δ (∑ c, p c - t * δ) := by
  by_contra hgt
  obtain ⟨hg1, hg2⟩ := max_lt_iff.mp (not_le.mp hgt)
  have hall : ∀ d, 0 ≤ s.r d := fun d => by
    rcases Nat.eq_zero_or_pos (s.k d) with hk | hk
    · rw [h.rel d, hk, Nat.cast_zero, zero_mul, sub_zero]; exact hp0 d
    · exact (sub_nonneg.mpr hg1.le).trans (h.near c d hk)
  have := single_le_sum (f := s.r) (fun d _ => hall d) (mem_univ c)
  rw [h.tot] at this
  exact not_le.mpr hg2 this

section
variable {N : ℕ} (hN : 1 ≤ N) (h : PInv p (1 / N) t s)
include hN h

theorem excess_eq (c : Fin n) : (s.k c : ℚ) - N * p c = -(N * s.r c) := by
  have hN0 : (N : ℚ) ≠ 0 := by exact_mod_cast Nat.one_le_iff_ne_zero.mp hN
  rw [h.rel c, mul_sub, mul_comm _ (1 / (N : ℚ)), ← mul_assoc, mul_one_div_cancel hN0]; ring

theorem upper_of_inv (c : Fin n) : (s.k c : ℚ) - N * p c < 1 := by
  have hNpos : (0 : ℚ) < N := by exact_mod_cast hN
  have := mul_lt_mul_of_pos_left (h.low c) hNpos
  rw [mul_neg, mul_one_div_cancel hNpos.ne'] at this
  rw [excess_eq hN h c]; exact neg_lt.mpr this

end

theorem quota_of_inv (hp0 : ∀ c, 0 ≤ p c) {ε : ℚ} (hp : ∑ c, p c = 1 + ε) {N : ℕ} (hN : 1 ≤ N)
    (h : PInv p (1 / N) N s) (c : Fin n) :
    (s.k c : ℚ) - N * p c < 1 ∧ -(max 1 (N * ε)) ≤ (s.k c : ℚ) - N * p c := by
  have hNpos : (0 : ℚ) < N := by exact_mod_cast hN
  refine ⟨upper_of_inv hN h c, ?_⟩
  have hr := share_le_max h hp0 c
  rw [hp, mul_one_div_cancel hNpos.ne', add_sub_cancel_left] at hr
  have := mul_le_mul_of_nonneg_left hr hNpos.le
  rw [mul_max_of_nonneg _ _ hNpos.le, mul_one_div_cancel hNpos.ne'] at this
  rw [excess_eq hN h c]; exact neg_le_neg this

/-! ### The scan of the executable model finds a true maximum -/

/-- Cell `j` holds a maximum of `l`, and that maximum exceeds `m`. -/
structure IsMaxAbove (l : List ℚ) (m : ℚ) (j : ℕ) : Prop where
  lt : j < l.length
  above : m < l.getD j 0
  max : ∀ c, c < l.length → l.getD c 0 ≤ l.getD j 0

theorem getD_cons_le {x m : ℚ} {xs : List ℚ} (hx : x ≤ m) (hall : ∀ c, c < xs.length → xs.getD c 0 ≤ m) :
    ∀ c, c < (x :: xs).length → (x :: xs).getD c 0 ≤ m
  | 0, _ => hx
  | c + 1, hc => hall c (Nat.lt_of_succ_lt_succ hc)

theorem IsMaxAbove.cons {x m : ℚ} {xs : List ℚ} {j : ℕ} (hx : x ≤ m) (h : IsMaxAbove xs m j) :
    IsMaxAbove (x :: xs) m (j + 1) :=
  ⟨Nat.succ_lt_succ h.lt, h.above, getD_cons_le (hx.trans h.above.le) h.max⟩

/-- `i` is the index of the head of `l` in the whole window. -/
theorem argmaxGo_spec (l : List ℚ) : ∀ (i : ℕ) (mx : ℚ) (best : Option ℕ),
    ((∀ c, c < l.length → l.getD c 0 ≤ mx) ∧ argmaxGo ltQ l i mx best = best) ∨
    ∃ j, IsMaxAbove l mx j ∧ argmaxGo ltQ l i mx best = some (i + j) := by
  induction l with
  | nil => exact fun i mx best => .inl ⟨fun c hc => absurd hc (Nat.not_lt_zero c), rfl⟩
  | cons x xs ih =>
    intro i mx best
    have shift : ∀ j, i + 1 + j = i + (j + 1) := fun j => by omega
    by_cases hx : mx < x
    · have hgo : argmaxGo ltQ (x :: xs) i mx best = argmaxGo ltQ xs (i + 1) x (some i) := by
        simp only [argmaxGo, ltQ, hx, decide_true, if_true]
      rw [hgo]
      rcases ih (i + 1) x (some i) with ⟨hall, hr⟩ | ⟨j, hj, hr⟩
      · exact .inr ⟨0, ⟨Nat.zero_lt_succ _, hx, getD_cons_le le_rfl hall⟩, hr⟩
      · exact .inr ⟨j + 1, ⟨Nat.succ_lt_succ hj.lt, hx.trans hj.above, (hj.cons le_rfl).max⟩, shift j ▸ hr⟩
    · have hgo : argmaxGo ltQ (x :: xs) i mx best = argmaxGo ltQ xs (i + 1) mx best := by
        simp only [argmaxGo, ltQ, hx, decide_false, Bool.false_eq_true, if_false]
      rw [hgo]
      rcases ih (i + 1) mx best with ⟨hall, hr⟩ | ⟨j, hj, hr⟩
      · exact .inl ⟨getD_cons_le (not_lt.mp hx) hall, hr⟩
      · exact .inr ⟨j + 1, hj.cons (not_lt.mp hx), shift j ▸ hr⟩

theorem argmaxScan_spec (l : List ℚ) (init : ℚ) (hex : ∃ c, c < l.length ∧ init < l.getD c 0) :
    ∃ j, IsMaxAbove l init j ∧ argmaxScan ltQ init l = some j := by
  rcases argmaxGo_spec l 0 init none with ⟨hall, _⟩ | ⟨j, hj, hr⟩
  · obtain ⟨c, hc, hlt⟩ := hex
    exact absurd (hall c hc) (not_le.mpr hlt)
  · exact ⟨j, hj, by rw [argmaxScan, hr, Nat.zero_add]⟩

/-! ### One `pickStep` of the list model is one `pickAt` on the views -/

def view (s : Allot ℚ) : St n := { r := fun c => s.copy.getD c 0, k := fun c => s.counts.getD c 0 }

theorem getD_modify_update {α : Type} {m : ℕ} (l : List α) (hl : l.length = m) (f : α → α) (d : α)
    (j : Fin m) :
    (fun c : Fin m => (l.modify j f).getD c d) =
      Function.update (fun c : Fin m => l.getD c d) j (f (l.getD j d)) := by
  funext c
  have hc : c.1 < l.length := hl ▸ c.2
  simp only [List.getD_eq_getElem?_getD, List.getElem?_modify, List.getElem?_eq_getElem hc,
    Function.update_apply, Fin.val_inj, eq_comm (a := j)]
  split
  · next e => subst e; rw [List.getElem?_eq_getElem hc]; rfl
  · rfl

structure LInv (p : List ℚ) (δ : ℚ) (t : ℕ) (s : Allot ℚ) : Prop where
  lenCopy : s.copy.length = p.length
  lenCounts : s.counts.length = p.length
  inv : PInv (n := p.length) (fun c => p.getD c 0) δ t (view s)

theorem sum_view (p : List ℚ) : ∑ c : Fin p.length, p.getD c 0 = p.sum := by
  rw [← Fin.sum_univ_getElem]
  exact sum_congr rfl fun c _ => by simp

theorem view_nonneg {p : List ℚ} (hp0 : ∀ x ∈ p, 0 ≤ x) (c : Fin p.length) : 0 ≤ p.getD c 0 :=
  List.getElem_eq_getD (h := c.2) 0 ▸ hp0 _ (List.getElem_mem c.2)

theorem linv_fresh (p : List ℚ) (hp0 : ∀ x ∈ p, 0 ≤ x) (δ : ℚ) (hδ : 0 < δ) :
    LInv p δ 0 (Allot.fresh p) := by
  refine ⟨rfl, List.length_replicate, ?_⟩
  have hv : view (n := p.length) (Allot.fresh p) = { r := fun c => p.getD c 0, k := fun _ => 0 } := by
    simp only [view, Allot.fresh, St.mk.injEq, true_and]
    funext c
    simp [List.getD_eq_getElem?_getD, c.2]
  rw [hv]; exact inv_init _ (view_nonneg hp0) δ hδ

theorem view_modify {m : ℕ} (s : Allot ℚ) (hr : s.copy.length = m) (hk : s.counts.length = m) (δ : ℚ)
    (j : Fin m) :
    view (n := m) { copy := s.copy.modify j (subQ · δ), counts := s.counts.modify j (· + 1) } =
      pickAt j δ (view s) := by
  show St.mk _ _ = St.mk _ _
  rw [getD_modify_update _ hr, getD_modify_update _ hk]
  rfl

theorem picks_lt_total {N t : ℕ} {ε : ℚ} (hN : 1 ≤ N) (hε : -1 < N * ε) (ht : t < N) :
    (t : ℚ) * (1 / N) < 1 + ε := by
  have hNpos : (0 : ℚ) < N := by exact_mod_cast hN
  have h1 : (t : ℚ) + 1 ≤ N := by exact_mod_cast ht
  rw [mul_one_div, div_lt_iff₀ hNpos]
  linarith

section
variable {p : List ℚ} {ε : ℚ} (hp : p.sum = 1 + ε) {N : ℕ} (hN : 1 ≤ N) (hε : -1 < N * ε)
  {init : ℚ} (hinit : init ≤ -1)
include hp hN hε hinit

theorem linv_step (t : ℕ) (ht : t < N) (s : Allot ℚ) (h : LInv p (1 / N) t s) :
    LInv p (1 / N) (t + 1) (pickStep ltQ subQ init (1 / N) s).1 ∧
      (pickStep ltQ subQ init (1 / N) s).2.isSome := by
  have hN1 : (1 : ℚ) ≤ N := by exact_mod_cast hN
  have hNpos : (0 : ℚ) < N := lt_of_lt_of_le one_pos hN1
  have hδ : (0 : ℚ) < 1 / N := one_div_pos.mpr hNpos
  have hsum : (t : ℚ) * (1 / N) < p.sum := hp ▸ picks_lt_total hN hε ht
  -- the window is not empty (its sum is positive) and every remaining share exceeds the initial value
  have hne : 0 < p.length := List.length_pos_iff.mpr fun h0 => by
    rw [h0, List.sum_nil] at hsum
    exact not_le.mpr hsum (mul_nonneg t.cast_nonneg hδ.le)
  have hlow : -(1 / (N : ℚ)) < s.copy.getD 0 0 := h.inv.low ⟨0, hne⟩
  obtain ⟨j, hj, hscan⟩ := argmaxScan_spec s.copy init ⟨0, h.lenCopy ▸ hne,
    lt_of_le_of_lt (hinit.trans (neg_le_neg ((div_le_one hNpos).mpr hN1))) hlow⟩
  have hjn : j < p.length := h.lenCopy ▸ hj.lt
  have hstep : pickStep ltQ subQ init (1 / N) s =
      ({ copy := s.copy.modify j (subQ · (1 / N)), counts := s.counts.modify j (· + 1) }, some j) := by
    simp only [pickStep, hscan]
  rw [hstep]
  refine ⟨⟨(List.length_modify ..).trans h.lenCopy, (List.length_modify ..).trans h.lenCounts, ?_⟩, rfl⟩
  have hmax : ∀ c : Fin p.length, (view (n := p.length) s).r c ≤ (view (n := p.length) s).r ⟨j, hjn⟩ :=
    fun c => hj.max c (lt_of_lt_of_eq c.2 h.lenCopy.symm)
  rw [view_modify s h.lenCopy h.lenCounts (1 / N) ⟨j, hjn⟩]
  exact inv_pickAt hδ h.inv _ hmax (max_pos h.inv ((sum_view p).symm ▸ hsum) _ hmax)

theorem linv_run (hp0 : ∀ x ∈ p, 0 ≤ x) :
    ∀ t, t ≤ N → LInv p (1 / N) t (runPicks ltQ subQ init (1 / N) t (Allot.fresh p))
  | 0, _ => linv_fresh p hp0 (1 / N) (one_div_pos.mpr (by exact_mod_cast hN))
  | t + 1, ht =>
    (linv_step hp hN hε hinit t ht _ (linv_run hp0 t (Nat.le_of_succ_le ht))).1

end

/-- The exactly normalised window is the case `ε = 0`. -/
theorem exact_window {p : List ℚ} (hp : p.sum = 1) (N : ℕ) : p.sum = 1 + 0 ∧ (-1 : ℚ) < N * 0 :=
  ⟨hp.trans (add_zero 1).symm, by rw [mul_zero]; exact neg_one_lt_zero⟩

theorem quotaBound_of {N : ℕ} {p : List ℚ} {k : List ℕ} {eps : ℚ}
    (h : ∀ c, c < p.length → excess N p k c ≤ 1 + eps ∧ -(1 + eps) ≤ excess N p k c) :
    QuotaBound N p k eps = true :=
  List.all_eq_true.mpr fun c hc =>
    Bool.and_eq_true_iff.mpr ⟨decide_eq_true (h c (List.mem_range.mp hc)).1,
      decide_eq_true (h c (List.mem_range.mp hc)).2⟩

theorem quotaUpper_of {N : ℕ} {p : List ℚ} {k : List ℕ} {eps : ℚ}
    (h : ∀ c, c < p.length → excess N p k c < 1 + eps) : QuotaUpper N p k eps = true :=
  List.all_eq_true.mpr fun c hc => decide_eq_true (h c (List.mem_range.mp hc))

theorem near1_iff {a b : ℕ} : near1 a b = true ↔ a ≤ b + 1 ∧ b ≤ a + 1 := by
  simp only [near1, Bool.and_eq_true, decide_eq_true_eq]

theorem equalShareBound_iff {p : List ℚ} {k : List ℕ} : EqualShareBound p k = true ↔
    ∀ c, c < p.length → ∀ d, d < p.length → p.getD c 0 = p.getD d 0 →
      near1 (k.getD c 0) (k.getD d 0) = true := by
  simp only [EqualShareBound, List.all_eq_true, List.mem_range, Bool.or_eq_true, Bool.not_eq_true',
    beq_eq_false_iff_ne, ne_eq, ← imp_iff_not_or]

theorem mirror_of_equal_share (rows cols : ℕ) (p : List ℚ) (k : List ℕ) (hlen : p.length = rows * cols)
    (hsym : ∀ c, c < rows * cols → ∀ d ∈ mirrorCells rows cols c, p.getD c 0 = p.getD d 0)
    (he : EqualShareBound p k = true) : MirrorBound rows cols k = true :=
  List.all_eq_true.mpr fun c hc => List.all_eq_true.mpr fun d hd =>
    have hc := List.mem_range.mp hc
    equalShareBound_iff.mp he c (hlen ▸ hc) d (hlen ▸ mirrorCells_lt hc hd) (hsym c hc d hd)

end Pops.Det
