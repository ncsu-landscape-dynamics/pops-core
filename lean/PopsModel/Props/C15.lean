/-
  C15  Network trips start at nodes, stay on the network, honour cost, snap and clip.
  Property theorems only; helper lemmas are in PopsModel/Lemmas/Net{Walk,Load,Geom}.lean.
  Model: PopsModel/Model/Net{,Parse,Walk,Pred}.lean (mirror of include/pops/network.hpp and
  network_kernel.hpp). Random choices are not modelled as draws: `walk` / `teleport` return every
  result reachable under some choice, and the theorems hold for each of them.
-/
import PopsModel.Lemmas.NetWalk
import PopsModel.Lemmas.NetLoad
import PopsModel.Lemmas.NetGeom
import PopsModel.Lemmas.KernElig
namespace Pops
open Pops.Net

/-- A trip needs a node in the start cell: without one `walk`, `teleport` and the kernel (in every
    mode) throw `invalid_argument`, and the kernel reports the cell as not eligible. -/
theorem C15_start_needs_node (n : Net) (c : Cell) (h : n.hasNodeAt c = false) :
    (∀ d jump, n.walk c d jump = [.err .invalid_argument]) ∧
    (∀ k, n.teleport c k = [.err .invalid_argument]) ∧
    (∀ tele jump d, n.kernelCall tele jump c d = [.err .invalid_argument]) ∧
    n.isCellEligible c = false := by
  have hn : n.nodesAt c = [] := by
    simpa [Net.hasNodeAt, List.isEmpty_iff] using h
  refine ⟨?_, ?_, ?_, h⟩
  · intro d jump; simp [Net.walk, Net.walkG, hn]
  · intro k; simp [Net.teleport, hn]
  · intro tele jump d
    cases tele <;> simp [Net.kernelCall, Net.walk, Net.walkG, Net.teleport, hn]

/-- Conversely a cell with a node is eligible and no trip from it is rejected for a missing node
    (a non-negative distance never yields an exception; see also `C15_cost`). -/
theorem C15_start_with_node (n : Net) (c : Cell) (h : n.hasNodeAt c = true) :
    n.isCellEligible c = true ∧ n.nodesAt c ≠ [] := by
  refine ⟨h, ?_⟩
  intro h0; simp [Net.hasNodeAt, h0] at h

/-- Every result of `walk` has a derivation from a node of the start cell (with `next_node`'s
    preference, with the visited list starting empty), unless fuel ran out. -/
theorem C15_walk_derivation (n : Net) (pref : Bool) (c : Cell) (d : Rat) (jump : Bool) (o : Outcome)
    (h : o ∈ n.walkG pref c d jump) :
    o = .diverge ∨ (n.nodesAt c = [] ∧ o = .err .invalid_argument) ∨
      ∃ nd ∈ n.nodesAt c, Trip n pref jump c nd [] d o := by
  unfold Net.walkG at h
  split at h
  · next hn => right; left; exact ⟨hn, by simpa using h⟩
  · obtain ⟨nd, hnd, ho⟩ := List.mem_flatMap.mp h
    rcases walkFrom_sound n pref jump c _ nd [] d o ho with h1 | h1
    · left; exact h1
    · right; right; exact ⟨nd, hnd, h1⟩

/-- The trip never leaves the loaded network: every cell `walk` can return is the start cell or a
    cell of a stored segment - for every distance, with and without snapping, under every random
    choice. -/
theorem C15_stays_on_network (n : Net) (hne : ∀ e ∈ n.segs, e.2.cells ≠ []) (c : Cell) (d : Rat)
    (jump : Bool) (x : Cell) (h : .at x ∈ n.walk c d jump) : onNetwork n c x = true := by
  rcases C15_walk_derivation n true c d jump _ h with h1 | ⟨_, h1⟩ | ⟨nd, _, ht⟩
  · exact absurd h1 (by simp)
  · exact absurd h1 (by simp)
  · exact ht.on_network hne x rfl

/-- Termination: with positive segment costs the loop of `walk` ends within
    `floor(distance / minimum cost) + 1` iterations - the model's fuel is never exhausted. -/
theorem C15_terminates (n : Net) (hpos : ∀ e ∈ n.segs, 0 < e.2.cost) (c : Cell) (d : Rat)
    (jump : Bool) : Outcome.diverge ∉ n.walk c d jump ∧ Outcome.diverge ∉ n.walkRelaxed c d jump := by
  have key : ∀ pref, Outcome.diverge ∉ n.walkG pref c d jump := by
    intro pref h
    unfold Net.walkG at h
    split at h
    · simp at h
    · obtain ⟨nd, _, ho⟩ := List.mem_flatMap.mp h
      exact walkFrom_no_diverge n pref jump c n.minCost (fun e he => minCost_le he) _ nd [] d
        (lt_walkFuel_mul (minCost_pos hpos) d) ho
  exact ⟨key true, key false⟩

/-- Cost accounting (walking without snapping). For a network whose segments have at least two
    cells and positive cost, every result of `walk` from a cell with a node is a cell (never an
    exception for `d ≥ 0`, never a read past the end of a segment), obtained by a derivation that
    consumes whole segments while the remaining distance exceeds their cost and stops on the
    first segment whose cost is not exceeded. -/
theorem C15_cost (n : Net) (hwf : n.WF) (c : Cell) (d : Rat) (hd : 0 ≤ d)
    (hnode : n.hasNodeAt c = true) (o : Outcome) (h : o ∈ n.walk c d false) :
    (∃ x, o = .at x) ∧ ∃ nd ∈ n.nodesAt c, Trip n false false c nd [] d o := by
  rcases C15_walk_derivation n true c d false o h with h1 | ⟨h1, _⟩ | ⟨nd, hnd, ht⟩
  · rw [h1] at h; exact absurd h (C15_terminates n hwf.costPos c d false).1
  · exact absurd h1 (C15_start_with_node n c hnode).2
  · exact ⟨ht.ends_at_cell hwf hd, nd, hnd, ht.relax⟩

/-- The stopping index: on the last segment `v` with remaining distance `0 ≤ d ≤ cost(v)` the
    trip ends at cell number `round(d / cost_per_cell)` of the segment seen in travel direction,
    and that index is at most `|v| - 1` (so distance 0 is the node just left, the full cost is the
    far node). -/
theorem C15_cost_index (n : Net) (hwf : n.WF) (a b : NodeId) (v : SegView)
    (hs : n.getSegment a b = some v) (d : Rat) (hd0 : 0 ≤ d) (hd : d ≤ v.cost) :
    ∃ (i : Nat) (x : Cell), (i : Int) = lround (d / v.costPerCell) ∧ i ≤ v.cells.length - 1 ∧
      v.cells[i]? = some x ∧ Net.finish false v d = .at x := by
  obtain ⟨e, he, hseg, hlen, _⟩ := view_cells hs
  exact finish_walk (hseg ▸ hlen) (hseg ▸ hwf.twoCells e he) (hseg ▸ hwf.costPos e he) hd0 hd

/-- Snapping. On the last segment the result is the node just left when less than half of the
    segment's cost remains to be travelled, and the far node from exactly half on; consequently
    every cell a snapped walk returns holds a node. -/
theorem C15_jump (n : Net) (hne : ∀ e ∈ n.segs, e.2.cells ≠ []) :
    (∀ (v : SegView) (d : Rat),
        Net.finish true v d = if d < v.cost / 2 then .at v.front else .at v.back) ∧
    (∀ (c : Cell) (d : Rat) (x : Cell), .at x ∈ n.walk c d true → isNodeCell n x = true) := by
  refine ⟨finish_jump, ?_⟩
  intro c d x h
  rcases C15_walk_derivation n true c d true _ h with h1 | ⟨_, h1⟩ | ⟨nd, hnd, ht⟩
  · exact absurd h1 (by simp)
  · exact absurd h1 (by simp)
  · exact ht.jump_ends_at_node hne (hasNodeAt_iff.mpr ⟨nd, hnd⟩) x rfl

/-- `next_node` prefers unvisited neighbours while one exists: it returns a neighbour (the node
    itself only if it has none), and never a visited one if some neighbour is unvisited. Every hop
    of `walk` is such a choice, made with the list of all nodes the trip has left so far
    (`C15_walk_derivation` with `pref = true`: the derivation's `visited` grows by the node just left). -/
theorem C15_prefers_unvisited (n : Net) (node m : NodeId) (visited : List NodeId)
    (h : m ∈ n.nextNodes true node visited) :
    (m ∈ n.neighbours node ∨ (n.neighbours node = [] ∧ m = node)) ∧
    ((∃ u ∈ n.neighbours node, u ∉ visited) → m ∉ visited) ∧
    (∀ (c : Cell) (d : Rat) (jump : Bool) (o : Outcome), o ∈ n.walk c d jump → o ≠ .diverge →
      n.nodesAt c ≠ [] → ∃ nd ∈ n.nodesAt c, Trip n true jump c nd [] d o) := by
  refine ⟨(mem_nextNodes h).imp And.left id, ?_, ?_⟩
  · rintro ⟨u, hu, hui⟩
    rcases mem_nextNodes h with ⟨_, h2⟩ | ⟨hnb, _⟩
    · exact h2 rfl u hu hui
    · rw [hnb] at hu; cases hu
  · intro c d jump o ho hdiv hnodes
    rcases C15_walk_derivation n true c d jump o ho with h1 | ⟨h1, _⟩ | h1
    · exact absurd h1 hdiv
    · exact absurd h1 hnodes
    · exact h1

/-- Teleporting ends on a node adjacent to a node of the start cell: the returned cell holds a
    node `m` that is a neighbour of some node `a` of the start cell (`m = a` only if `a` has no
    edge, which cannot happen after `load`). With several steps the result is still a node cell.
    Which neighbour is drawn is `discrete_distribution`'s law over the edge probabilities (trusted);
    the model only excludes zero-weight neighbours. -/
theorem C15_teleport_adjacent (n : Net) (c x : Cell) :
    (.at x ∈ n.teleport c 1 → teleportAdjacent n c x = true) ∧
    (∀ k, .at x ∈ n.teleport c k → isNodeCell n x = true) ∧
    (∀ tele jump d, tele = true → .at x ∈ n.kernelCall tele jump c d → teleportAdjacent n c x = true) := by
  have hcell : ∀ k, .at x ∈ n.teleport c k →
      ∃ a ∈ n.nodesAt c, ∃ m ∈ n.teleportNodes k a, m ∈ n.nodesAt x := by
    intro k h
    unfold Net.teleport at h
    split at h
    · simp at h
    · obtain ⟨a, ha, h⟩ := List.mem_flatMap.mp h
      obtain ⟨m, hm, h⟩ := List.mem_map.mp h
      cases hy : n.nodeCell m with
      | none => rw [hy] at h; cases h
      | some y => rw [hy] at h; cases h; exact ⟨a, ha, m, hm, nodeCell_mem hy⟩
  have hadj : .at x ∈ n.teleport c 1 → teleportAdjacent n c x = true := by
    intro h
    obtain ⟨a, ha, m, hm, hmx⟩ := hcell 1 h
    simp only [Net.teleportNodes, List.mem_flatMap, List.mem_singleton] at hm
    obtain ⟨m', hm', rfl⟩ := hm
    simp only [teleportAdjacent, List.any_eq_true, Bool.or_eq_true, Bool.and_eq_true,
      List.contains_iff_mem, List.isEmpty_iff, beq_iff_eq]
    exact ⟨a, ha, m, hmx, mem_teleportTargets hm'⟩
  refine ⟨hadj, ?_, ?_⟩
  · intro k h
    obtain ⟨_, _, m, _, hmx⟩ := hcell k h
    exact hasNodeAt_iff.mpr ⟨m, hmx⟩
  · intro tele jump d ht h
    subst ht
    exact hadj (by simpa [Net.kernelCall] using h)

/-- The kernel forwards its movement mode: walking kernels call `walk` with the drawn distance AND
    their snapping flag (defect F12, repaired: a kernel that does not pass the flag on), teleporting kernels
    call `teleport` with one step; eligibility is the presence of a node. Hence all trip theorems
    hold for `NetworkDispersalKernel::operator()` as well. -/
theorem C15_kernel_forwards (n : Net) (c : Cell) (d : Rat) (jump : Bool) :
    n.kernelCall false jump c d = n.walk c d jump ∧
    n.kernelCall true jump c d = n.teleport c 1 ∧
    n.isCellEligible c = n.hasNodeAt c := ⟨rfl, rfl, rfl⟩

/-- The coded clipping test on a record, spelled out: both end cells have
    `0 ≤ row ≤ max_row` and `0 ≤ col ≤ max_col`, where `(max_row, max_col)` is the cell of the
    south-east corner COORDINATE, i.e. `floor((north-south)/ns_res)`, `floor((east-west)/ew_res)` -
    one more than the last row / column of the raster when the box is a whole number of cells. -/
theorem C15_load_clip_rule (g : Grid) (r : Rec) :
    (r.kept g = true ↔
      (0 ≤ r.seg.front.1 ∧ r.seg.front.1 ≤ g.maxRow ∧ 0 ≤ r.seg.front.2 ∧ r.seg.front.2 ≤ g.maxCol) ∧
      (0 ≤ r.seg.back.1 ∧ r.seg.back.1 ≤ g.maxRow ∧ 0 ≤ r.seg.back.2 ∧ r.seg.back.2 ≤ g.maxCol)) ∧
    g.maxRow = rfloor ((g.north - g.south) / g.nsRes) ∧
    g.maxCol = rfloor ((g.east - g.west) / g.ewRes) := by
  refine ⟨?_, rfl, rfl⟩
  rw [Rec.kept_iff, cellOut_eq_false, cellOut_eq_false]

/-- Clipping as coded. After a successful `load` the stored segment of a node pair is the segment
    of the FIRST input record with that pair whose two end cells pass the coded test
    (`C15_load_clip_rule`); a pair is stored iff such a record exists; whole edges only. -/
theorem C15_load_clip (g : Grid) (text : List Char) (allow : Bool) (net : Net)
    (h : load g text allow = .ok net) :
    ∃ hd data rs, splitHeader (getlines '\n' text) = .ok (hd, data) ∧
      parseRecords g hd.hasCost hd.hasProb data = .ok rs ∧
      (∀ k, net.findSeg k = firstKept g k rs) ∧
      (∀ k, (∃ s, net.findSeg k = some s) ↔ ∃ r ∈ rs, r.key = k ∧ r.kept g = true) ∧
      (∀ e ∈ net.segs, ∃ r ∈ rs, r.kept g = true ∧ e = (r.key, r.seg)) := by
  obtain ⟨hd, data, rs, h1, h2, _, _, hsegs⟩ := loadSegments_ok (load_ok h).1
  have hfind : ∀ k, net.findSeg k = firstKept g k rs := by
    intro k; rw [findSeg_eq_lookup, hsegs]; exact lookup_storeRecords g k rs
  refine ⟨hd, data, rs, h1, h2, hfind, ?_, ?_⟩
  · intro k
    rw [hfind k]
    constructor
    · rintro ⟨s, hs⟩
      obtain ⟨r, hr, hk, hkey, _⟩ := firstKept_some hs
      exact ⟨r, hr, hkey, hk⟩
    · rintro ⟨r, hr, hkey, hk⟩
      exact firstKept_isSome hr hk hkey
  · intro e he; rw [hsegs] at he; exact mem_storeRecords he

/-- One direction of the ideal rule holds: an edge whose two end points lie inside the study area
    (closed box, the library's own `xy_out_of_bbox`) is never clipped. -/
theorem C15_load_clip_inside_kept (g : Grid) (hew : 0 < g.ewRes) (hns : 0 < g.nsRes)
    (hc hp : Bool) (line : List Char) (r : Rec) (h : parseRecord g hc hp line = .ok r)
    (hin : r.inside g = true) : r.kept g = true := by
  obtain ⟨_, _, _, _, _, _, _, _, _, hb⟩ := parseRecord_ok h
  obtain ⟨_, _, hf, hl⟩ := buildRec_cells hb
  simp only [Rec.inside, Bool.and_eq_true, Bool.not_eq_true'] at hin
  rw [Rec.kept_iff, hf, hl]
  exact ⟨inside_not_cellOut g hew hns _ _ hin.1, inside_not_cellOut g hew hns _ _ hin.2⟩

/-- The other direction fails by less than one cell: the end points of a kept edge lie in the study
    area extended by one cell size beyond the east and south edges. This is the exact region of
    finding F17 (`Rec.f17`). -/
theorem C15_load_clip_region (g : Grid) (hew : 0 < g.ewRes) (hns : 0 < g.nsRes)
    (hc hp : Bool) (line : List Char) (r : Rec) (h : parseRecord g hc hp line = .ok r)
    (hk : r.kept g = true) :
    (g.west ≤ r.first.1 ∧ r.first.1 < g.east + g.ewRes ∧ g.south - g.nsRes < r.first.2 ∧ r.first.2 ≤ g.north) ∧
    (g.west ≤ r.last.1 ∧ r.last.1 < g.east + g.ewRes ∧ g.south - g.nsRes < r.last.2 ∧ r.last.2 ≤ g.north) := by
  obtain ⟨_, _, _, _, _, _, _, _, _, hb⟩ := parseRecord_ok h
  obtain ⟨_, _, hf, hl⟩ := buildRec_cells hb
  rw [Rec.kept_iff, hf, hl] at hk
  exact ⟨not_cellOut_region g hew hns _ _ hk.1, not_cellOut_region g hew hns _ _ hk.2⟩

/-- The ideal clipping rule of the property text: "keeps exactly the edges whose two end nodes lie
    inside the study area". -/
def C15_load_clip_ideal : Prop :=
  ∀ (g : Grid) (hc hp : Bool) (line : List Char) (r : Rec), 0 < g.ewRes → 0 < g.nsRes →
    g.west < g.east → g.south < g.north → parseRecord g hc hp line = .ok r →
    (r.kept g = true ↔ r.inside g = true)

/-- Witness of finding F17. -/
def f17Grid : Grid := ⟨10, 0, 10, 0, 1, 1⟩
def f17Line : List Char := "1,2,9.5;5.5;10.5;5.5".toList
def f17Rec : Rec := ⟨(1, 2), ⟨[(4, 9), (4, 10)], 1, 0, 0⟩, (19/2, 11/2), (21/2, 11/2)⟩

theorem C15_F17_witness :
    parseRecord f17Grid false false f17Line = .ok f17Rec ∧
    f17Rec.kept f17Grid = true ∧ f17Rec.inside f17Grid = false ∧ f17Rec.f17 f17Grid = true ∧
    f17Grid.xyOut (21/2) (11/2) = true := by
  have h1 : (parseRecord f17Grid false false f17Line).toOption = some f17Rec := by
    -- characters first: `String.toList` on a literal evaluates in quadratic time
    unfold f17Line; with_reducible rw [String.toList_ofList]; decide +kernel
  refine ⟨?_, by decide +kernel, by decide +kernel, by decide +kernel, by decide +kernel⟩
  cases hp : parseRecord f17Grid false false f17Line with
  | error e => rw [hp] at h1; simp [Except.toOption] at h1
  | ok r => rw [hp] at h1; simp only [Except.toOption, Option.some.injEq] at h1; rw [h1]

/-- Finding F17 (open): the ideal rule does NOT hold - in the box `[0,10] x [0,10]` with unit cells
    the edge `1,2,9.5;5.5;10.5;5.5` is kept although node 2 lies at `x = 10.5 > east`. -/
theorem C15_load_clip_ideal_fails : ¬ C15_load_clip_ideal := by
  intro h
  obtain ⟨hp, hk, hin, _, _⟩ := C15_F17_witness
  have := (h f17Grid false false f17Line f17Rec (by decide +kernel) (by decide +kernel)
    (by decide +kernel) (by decide +kernel) hp).mp hk
  rw [hin] at this
  exact absurd this (by simp)

/-- Every stored edge can be travelled in both directions: adjacency is symmetric, `b` is a
    neighbour of `a` exactly when `get_segment(a, b)` finds a segment, and (unless both orders of
    the pair were given as separate input records) the two directions see the same segment - same
    cost, cells in reverse order. -/
theorem C15_load_symmetric (n : Net) (a b : NodeId) :
    (b ∈ n.neighbours a ↔ a ∈ n.neighbours b) ∧
    (b ∈ n.neighbours a ↔ ∃ v, n.getSegment a b = some v) ∧
    (∀ e ∈ n.segs, e.1 = (a, b) → b ∈ n.neighbours a ∧ a ∈ n.neighbours b) ∧
    (∀ v, n.getSegment a b = some v → (n.findSeg (a, b) = none ∨ n.findSeg (b, a) = none) →
      ∃ v', n.getSegment b a = some v' ∧ v'.seg = v.seg ∧ v'.cost = v.cost ∧
        v'.cells = v.cells.reverse) := by
  refine ⟨?_, ?_, ?_, ?_⟩
  · rw [mem_neighbours, mem_neighbours]
    constructor <;> rintro ⟨e, he, h⟩ <;> exact ⟨e, he, h.symm.imp And.symm And.symm⟩
  · constructor
    · exact getSegment_of_neighbour
    · rintro ⟨v, hv⟩
      obtain ⟨e, he, _, hk⟩ := getSegment_some hv
      apply mem_neighbours.mpr
      refine ⟨e, he, ?_⟩
      rcases hk with ⟨hk, _⟩ | ⟨hk, _⟩
      · left; rw [hk]; exact ⟨rfl, rfl⟩
      · right; rw [hk]; exact ⟨rfl, rfl⟩
  · intro e he hk
    constructor
    · exact mem_neighbours.mpr ⟨e, he, Or.inl (by rw [hk]; exact ⟨rfl, rfl⟩)⟩
    · exact mem_neighbours.mpr ⟨e, he, Or.inr (by rw [hk]; exact ⟨rfl, rfl⟩)⟩
  · intro v hv hnone
    unfold Net.getSegment at hv ⊢
    cases h2 : n.findSeg (a, b) with
    | some s =>
      rw [h2] at hv
      cases hv
      rw [hnone.resolve_left (by rw [h2]; exact nofun)]
      exact ⟨⟨s.cells.reverse, s⟩, rfl, rfl, rfl, rfl⟩
    | none =>
      rw [h2] at hv
      cases h3 : n.findSeg (b, a) with
      | none => rw [h3] at hv; cases hv
      | some s =>
        rw [h3] at hv
        cases hv
        exact ⟨⟨s.cells, s⟩, rfl, rfl, rfl, (List.reverse_reverse _).symm⟩

/-- Merging and cost. A successfully parsed record has at least two cells; consecutive points
    falling into one cell are stored once (no two consecutive equal cells, except the completed
    one-cell segment `[c, c]`); the cells are exactly the cells of the points, first cell = cell of
    the first point (node 1), last cell = cell of the last point (node 2). Its cost is the stated
    one (non-zero cost column) or `(cells - 1) * (ew_res + ns_res) / 2` without a cost column. -/
theorem C15_load_merge (g : Grid) (hc hp : Bool) (line : List Char) (r : Rec)
    (h : parseRecord g hc hp line = .ok r) :
    2 ≤ r.seg.cells.length ∧ mergedOK r.seg.cells = true ∧
    r.seg.front = g.xyToRowCol r.first.1 r.first.2 ∧ r.seg.back = g.xyToRowCol r.last.1 r.last.2 ∧
    (∃ pts : List (Rat × Rat), 2 ≤ pts.length ∧
      r.seg.cells = (let m := mergeCells (pts.map fun p => g.xyToRowCol p.1 p.2);
                     if m.length = 1 then m ++ m else m)) ∧
    (hc = false → r.seg.cost = (r.seg.steps : Rat) * g.distancePerCell) ∧
    (hc = true → r.seg.total ≠ 0 → r.seg.cost = r.seg.total) ∧
    1 ≤ r.key.1 ∧ 1 ≤ r.key.2 ∧ 0 ≤ r.seg.prob := by
  obtain ⟨id1, id2, prob, total, pts, h1, h2, h3, h4, hb⟩ := parseRecord_ok h
  obtain ⟨c1, c2, c3, c4⟩ := buildRec_cells hb
  obtain ⟨b1, b2, b3, b4, b5, _, _, b8⟩ := buildRec_ok hb
  refine ⟨c1, c2, c3, c4, ⟨pts, b1, b8⟩, ?_, ?_, by rw [b2]; exact h1, by rw [b2]; exact h2,
    by rw [b5]; exact h3⟩
  · intro hcf
    subst hcf
    simp only [Segment.cost, b4, h4 rfl, ne_eq, not_true_eq_false, if_false, b3]
    simp
  · intro _ ht
    simp [Segment.cost, ht]

/-- The loaded network is well formed: every stored segment has at least two cells, and without a
    cost column (positive resolutions) every cost is positive - so the trip theorems apply. -/
theorem C15_load_wf (g : Grid) (text : List Char) (allow : Bool) (net : Net)
    (h : load g text allow = .ok net) :
    (∀ e ∈ net.segs, 2 ≤ e.2.cells.length ∧ mergedOK e.2.cells = true) ∧
    (∀ hd data, splitHeader (getlines '\n' text) = .ok (hd, data) → hd.hasCost = false →
      0 < g.distancePerCell → net.WF) := by
  obtain ⟨hd, data, rs, h1, h2, _, _, hmem⟩ := C15_load_clip g text allow net h
  have hrec : ∀ e ∈ net.segs, ∃ l r, parseRecord g hd.hasCost hd.hasProb l = .ok r ∧ e = (r.key, r.seg) := by
    intro e he
    obtain ⟨r, hr, _, hre⟩ := hmem e he
    obtain ⟨l, _, hl⟩ := (parseRecords_ok h2).2 r hr
    exact ⟨l, r, hl, hre⟩
  have hcells : ∀ e ∈ net.segs, 2 ≤ e.2.cells.length ∧ mergedOK e.2.cells = true := by
    intro e he
    obtain ⟨l, r, hl, rfl⟩ := hrec e he
    obtain ⟨m1, m2, _⟩ := C15_load_merge g _ _ l r hl
    exact ⟨m1, m2⟩
  refine ⟨hcells, fun hd' data' h1' hcf hdpc => ⟨fun e he => (hcells e he).1, fun e he => ?_⟩⟩
  rw [h1] at h1'
  cases h1'
  obtain ⟨l, r, hl, rfl⟩ := hrec e he
  obtain ⟨m1, _, _, _, _, m6, _⟩ := C15_load_merge g _ _ l r hl
  rw [show (r.key, r.seg).2.cost = r.seg.cost from rfl, m6 hcf]
  exact Rat.mul_pos (Rat.natCast_pos.mpr (by unfold Segment.steps; omega)) hdpc

/-- Malformed records are rejected with the documented exception class. `f i` is the `i`-th
    comma-separated text of the line (empty if missing); the geometry column is number
    `2 + [probability column] + [cost column]`.
    * node id text without digits -> `invalid_argument`, beyond `int` -> `out_of_range`
      (class of `std::stoi`), either id below 1 -> `runtime_error`;
    * probability / cost / coordinate text: class of `std::stod` (`invalid_argument` /
      `out_of_range`); a negative probability -> `invalid_argument`;
    * no coordinate pair or only one -> `runtime_error`;
    * the first malformed line aborts the whole `load` with its class; an input without any kept
      edge -> `runtime_error` unless `allow_empty`. -/
theorem C15_load_rejects (g : Grid) (hc hp : Bool) (line : List Char) :
    let f : Nat → List Char := fun i => (getlines ',' line).getD i []
    let gi : Nat := (if hp then 3 else 2) + (if hc then 1 else 0)
    (∀ e, nodeIdFromText (f 0) = .error e → parseRecord g hc hp line = .error e) ∧
    (∀ i1 e, nodeIdFromText (f 0) = .ok i1 → nodeIdFromText (f 1) = .error e →
        parseRecord g hc hp line = .error e) ∧
    (∀ i1 i2, nodeIdFromText (f 0) = .ok i1 → nodeIdFromText (f 1) = .ok i2 → (i1 < 1 ∨ i2 < 1) →
        parseRecord g hc hp line = .error .runtime_error) ∧
    (∀ i1 i2 e, nodeIdFromText (f 0) = .ok i1 → nodeIdFromText (f 1) = .ok i2 → ¬ (i1 < 1 ∨ i2 < 1) →
        hp = true → probabilityFromText (f 2) = .error e → parseRecord g hc hp line = .error e) ∧
    (∀ i1 i2 p e, nodeIdFromText (f 0) = .ok i1 → nodeIdFromText (f 1) = .ok i2 → ¬ (i1 < 1 ∨ i2 < 1) →
        optProbability hp (f 2) = .ok p → hc = true → costFromText (f (if hp then 3 else 2)) = .error e →
        parseRecord g hc hp line = .error e) ∧
    (∀ i1 i2 p t e, nodeIdFromText (f 0) = .ok i1 → nodeIdFromText (f 1) = .ok i2 → ¬ (i1 < 1 ∨ i2 < 1) →
        optProbability hp (f 2) = .ok p → optCost hc (f (if hp then 3 else 2)) = .ok t →
        parsePoints (getlines ';' (f gi)) = .error e → parseRecord g hc hp line = .error e) ∧
    (∀ i1 i2 p t pts, nodeIdFromText (f 0) = .ok i1 → nodeIdFromText (f 1) = .ok i2 → ¬ (i1 < 1 ∨ i2 < 1) →
        optProbability hp (f 2) = .ok p → optCost hc (f (if hp then 3 else 2)) = .ok t →
        parsePoints (getlines ';' (f gi)) = .ok pts → pts.length < 2 →
        parseRecord g hc hp line = .error .runtime_error) := by
  intro f gi
  have hgi : (if hc = true then (if hp = true then 3 else 2) + 1 else (if hp = true then 3 else 2)) = gi := by
    cases hc <;> cases hp <;> rfl
  simp only [f]
  unfold parseRecord
  refine ⟨?_, ?_, ?_, ?_, ?_, ?_, ?_⟩
  · intro e h1
    simp only [bind, Except.bind, h1]
  · intro i1 e h1 h2
    simp only [bind, Except.bind, h1, h2]
  · intro i1 i2 h1 h2 h3
    simp only [bind, Except.bind, h1, h2, if_pos h3]
  · intro i1 i2 e h1 h2 h3 hpt h4
    subst hpt
    simp only [bind, Except.bind, h1, h2, if_neg h3, optProbability, if_true, h4]
  · intro i1 i2 p e h1 h2 h3 h4 hct h5
    subst hct
    simp only [bind, Except.bind, h1, h2, if_neg h3, h4, optCost, if_true, h5]
  · intro i1 i2 p t e h1 h2 h3 h4 h5 h6
    simp only [bind, Except.bind, h1, h2, if_neg h3, h4, h5, hgi, h6]
  · intro i1 i2 p t pts h1 h2 h3 h4 h5 h6 hlen
    simp only [bind, Except.bind, h1, h2, if_neg h3, h4, h5, hgi, h6]
    unfold buildRec
    simp only
    split
    · rfl
    · rfl

/-- Classification of the number texts (the classes `std::stoi` / `std::stod` document) on the
    spellings the harness feeds, a negative probability, the header rules, and the effect of one
    malformed line on the whole load. -/
theorem C15_load_rejects_texts :
    nodeIdFromText "".toList = .error .invalid_argument ∧
    nodeIdFromText "abc".toList = .error .invalid_argument ∧
    nodeIdFromText "\"1\"".toList = .error .invalid_argument ∧
    nodeIdFromText "99999999999".toList = .error .out_of_range ∧
    nodeIdFromText "0".toList = .ok 0 ∧ nodeIdFromText "-3".toList = .ok (-3) ∧
    nodeIdFromText " 2x".toList = .ok 2 ∧
    stod "".toList = .error .invalid_argument ∧ stod "abc".toList = .error .invalid_argument ∧
    stod "'5'".toList = .error .invalid_argument ∧
    stod "1e400".toList = .error .out_of_range ∧ stod "1e-400".toList = .error .out_of_range ∧
    stod "2.5e1".toList = .ok 25 ∧ stod "7.125;3".toList = .ok (57/8) ∧
    probabilityFromText "-0.5".toList = .error .invalid_argument ∧
    probabilityFromText "0.25".toList = .ok (1/4) ∧
    (∀ g hc hp pre l post e, (∀ l' ∈ pre, ∃ r, parseRecord g hc hp l' = .ok r) →
        parseRecord g hc hp l = .error e → parseRecords g hc hp (pre ++ l :: post) = .error e) ∧
    (∀ g text net, loadSegments g text = .ok net → net.segs = [] →
        load g text false = .error .runtime_error ∧ load g text true = .ok net) := by
  refine ⟨by decide +kernel, by decide +kernel, by decide +kernel, by decide +kernel,
    by decide +kernel, by decide +kernel, by decide +kernel, by decide +kernel, by decide +kernel,
    by decide +kernel, by decide +kernel, by decide +kernel, by decide +kernel, by decide +kernel,
    by decide +kernel, by decide +kernel, ?_, ?_⟩
  · intro g hc hp pre l post e; exact parseRecords_error pre l post e
  · intro g text net h hs; simp [load, h, hs, bind, Except.bind]

/-- Header detection (`stream_has_columns`): which first lines are headers, which columns they
    announce, and which orders are rejected with `runtime_error`. -/
theorem C15_load_header :
    headerColumns "node_1,node_2,geometry".toList = .ok ⟨true, false, false⟩ ∧
    headerColumns "node_1,node_2,cost,geometry".toList = .ok ⟨true, true, false⟩ ∧
    headerColumns "node_1,node_2,probability,geometry".toList = .ok ⟨true, false, true⟩ ∧
    headerColumns "node_1,node_2,probability,cost,geometry".toList = .ok ⟨true, true, true⟩ ∧
    headerColumns "1,2,21.5;7.5;22.25;7.25".toList = .ok ⟨false, false, false⟩ ∧
    headerColumns "".toList = .ok ⟨true, false, false⟩ ∧
    headerColumns "node_1,node_2,cost,probability,geometry".toList = .error .runtime_error ∧
    headerColumns "node_1,node_2,geometry,probability".toList = .error .runtime_error ∧
    headerColumns "node_1,cost,node_2,geometry".toList = .error .runtime_error ∧
    headerColumns "node_1,node_2,geometry,x,cost".toList = .error .runtime_error := by
  repeat with_reducible rw [String.toList_ofList]
  decide +kernel

/-! ## The hypotheses are satisfiable: a concrete network

  Box `[20,30] x [0,10]`, unit cells; a triangle 1-2-3 with a dead end 3-4; node 5 lies outside
  the box, so the edge 4-5 is clipped. Repeated points in one cell are merged. -/

def exGrid : Grid := ⟨10, 0, 30, 20, 1, 1⟩
def exText : List Char :=
  "1,2,21.5;7.5;21.75;7.5;23.5;7.5\n2,3,23.5;7.5;23.5;5.5\n3,1,23.5;5.5;22.5;6.5;21.5;7.5\n3,4,23.5;5.5;26.5;5.5\n4,5,26.5;5.5;33.5;5.5\n".toList
def exNet : Net :=
  { grid := exGrid, hasProb := false,
    segs := [((1, 2), ⟨[(2, 1), (2, 3)], 1, 0, 0⟩), ((2, 3), ⟨[(2, 3), (4, 3)], 1, 0, 0⟩),
             ((3, 1), ⟨[(4, 3), (3, 2), (2, 1)], 1, 0, 0⟩), ((3, 4), ⟨[(4, 3), (4, 6)], 1, 0, 0⟩)] }

example : (load exGrid exText).toOption.map (·.segs) = some exNet.segs := by
  unfold exText; with_reducible rw [String.toList_ofList]; decide +kernel

/-- `exNet` satisfies the hypotheses of the trip theorems. -/
example : exNet.WF := by
  exact .of_check exNet (by decide +kernel)

/-- Trips on `exNet`: from node 1's cell with distance 5/4 a walk ends on either branch (past node 2
    on segment 2-3, or on the middle cell of segment 1-3), with 3/2 both branches meet at node 3, snapped it ends on a node; a cell without node is rejected; the
    start cell has a node; teleporting from node 4's cell ends on node 3's cell. -/
example :
    exNet.hasNodeAt (2, 1) = true ∧ exNet.hasNodeAt (0, 0) = false ∧
    .at (2, 3) ∈ exNet.walk (2, 1) (5/4) false ∧ .at (3, 2) ∈ exNet.walk (2, 1) (5/4) false ∧
    (∀ o ∈ exNet.walk (2, 1) (5/4) false, o = .at (2, 3) ∨ o = .at (3, 2)) ∧
    (∀ o ∈ exNet.walk (2, 1) (3/2) false, o = .at (4, 3)) ∧
    (∀ o ∈ exNet.walk (2, 1) (1/2) true, o = .at (2, 3) ∨ o = .at (2, 1)) ∧
    exNet.walk (0, 0) 1 false = [.err .invalid_argument] ∧
    (∀ o ∈ exNet.walk (2, 1) (-1) false, o = .err .invalid_argument) ∧
    exNet.teleport (4, 6) 1 = [.at (4, 3)] ∧
    exNet.nextNodes true 3 [1, 2] = [4] ∧ exNet.nextNodes true 4 [3] = [3] := by
  decide +kernel

def errorOf {α : Type} : Except ErrKind α → Option ErrKind
  | .error e => some e
  | .ok _ => none

-- A malformed record (second line has one coordinate pair), a bad node id, an input without kept edge.
example :
    errorOf (load exGrid "1,2,21.5;7.5;23.5;7.5\n2,3,23.5;7.5\n".toList) = some .runtime_error ∧
    errorOf (load exGrid "1,2,21.5;7.5;23.5;7.5\nx,3,23.5;7.5;23.5;5.5\n".toList) = some .invalid_argument ∧
    errorOf (load exGrid "1,2,51.5;7.5;53.5;7.5\n".toList) = some .runtime_error ∧
    errorOf (load exGrid "1,2,51.5;7.5;53.5;7.5\n".toList true) = none := by
  repeat with_reducible rw [String.toList_ofList]
  decide +kernel

/-- **Movement mode wiring** (anthropogenic_kernel.hpp:60-69). When the anthropogenic kernel name
    maps to the network kernel, `create_anthro_kernel` builds a network kernel whose flags and
    distance bounds are those the configuration asks for (`ConfigWiring`): teleporting iff
    `network_movement` is "teleport"; otherwise walking with a cost drawn between
    `network_min_distance` and `network_max_distance`, snapping to the nearer node iff it is "jump".
    Hence a call of the built kernel is `teleport` (one step, adjacent node: `C15_teleport_adjacent`)
    in the first case and `walk` with that snapping flag (`C15_cost`, `C15_jump`) in the second. -/
theorem C15_network_movement_wiring (c : KernelConfig)
    (ht : kernelTypeFromString c.anthroKernelType = .ok .network) :
    ∃ d w, createAnthroKernel c = .ok d ∧ d.cls = .network ∧ d.wiring? = some w ∧ ConfigWiring c w ∧
      ∀ (n : Net) (cell : Cell) (dist : Rat),
        n.kernelCall w.teleport w.jump cell dist =
          if c.networkMovement = "teleport" then n.teleport cell 1
          else n.walk cell dist (decide (c.networkMovement = "jump")) := by
  have hb := createAnthro_network c ht
  by_cases hm : c.networkMovement = "teleport"
  · refine ⟨.networkTeleport, _, by simpa [hm] using hb, rfl, rfl, ?_, ?_⟩
    · simp [ConfigWiring, hm]
    · intro n cell dist; simp [hm, Net.kernelCall]
  · refine ⟨.networkWalk c.networkMinDistance c.networkMaxDistance (decide (c.networkMovement = "jump")), _,
      by simpa [hm] using hb, rfl, rfl, ?_, ?_⟩
    · simp [ConfigWiring, hm]
    · intro n cell dist; simp [hm, Net.kernelCall]

/-- The three movement modes on a configuration that names the network kernel. -/
example (c : KernelConfig) (ht : kernelTypeFromString c.anthroKernelType = .ok .network)
    (hm : c.networkMovement = "jump") :
    createAnthroKernel c = .ok (.networkWalk c.networkMinDistance c.networkMaxDistance true) := by
  rw [createAnthro_network c ht]; simp [hm]

example : ConfigWiring { (default : KernelConfig) with networkMovement := "teleport" }
      { teleport := true, jump := false, min := 0, max := 1 } ∧
    ¬ ConfigWiring { (default : KernelConfig) with networkMovement := "walk", networkMinDistance := 2, networkMaxDistance := 5 }
      { teleport := true, jump := false, min := 0, max := 1 } ∧
    ConfigWiring { (default : KernelConfig) with networkMovement := "walk", networkMinDistance := 2, networkMaxDistance := 5 }
      { teleport := false, jump := false, min := 2, max := 5 } := by
  refine ⟨?_, ?_, ?_⟩ <;> simp [ConfigWiring]

end Pops
