/-
  C17, general form (complements Props/C17.lean):

  * `C17_departures_general` / `C17_overpopulation_general`: the first phase of
    `MoveOverpopulatedPests::action`, and the whole action, over ANY suitable-cell list and ANY list
    of kernel results, as a closed function of the PRE-state: who leaves (the suitable cells that
    satisfy the departure rule before the action, in suitable-cell order, each taking the next kernel
    result), how many (`leavingCount` of the cell before the action), where to (one target per
    source), what is recorded as outside dispersers (the old list, then `leavingCount` copies of the
    real target coordinates per source sent outside, in order) and what arrives (the sources with an
    inside target, in order, each with its count; arrivals are applied after ALL departures).
  * `C17_suitable_extended` (+ `_moves`), `C17_suitable_has_hosts`: "the destination joins the list of suitable
    cells" - the list `HostPool::move_hosts_from_to` maintains.

  The spec functions (`overPairs`, `overOutside`, `overPending`, `overDeparted`, `suitAfterMove`,
  `suitAlongMoves`, `SuitCovers`, `insertIfAbsent`) are in Model/OverpopSpec.lean.

  Hypothesis on the suitable list: its FLAT indices are duplicate-free. This follows from the list
  being duplicate-free with all cells inside the raster (`C17_idx_nodup_of_inside`), and it cannot be
  dropped (`C17_departures_dup_counterexample`).
-/
import PopsModel.Model.OverpopSpec
import PopsModel.Lemmas.C17General
import PopsModel.Lemmas.NonVacuousHost
import PopsModel.Model.SuitList
namespace Pops

/-- A duplicate-free list of cells inside the raster has duplicate-free flat indices (the form of
    the hypothesis used below). -/
theorem C17_idx_nodup_of_inside (g : Grid) (suit : List (Int × Int)) (hnd : suit.Nodup)
    (hin : ∀ rc ∈ suit, g.isOutside rc.1 rc.2 = false) :
    (suit.map fun rc => g.idx rc.1 rc.2).Nodup :=
  act_idx_nodup_of_inside g suit hnd hin

/-- First phase, general: for any suitable-cell list with duplicate-free flat indices, any landscape,
    any list of kernel results `ts` and any moves already pending, with
    `pairs = zip (the suitable cells departing in the PRE-state `cells`) ts`:
    the landscape becomes `overDeparted` (each source of `pairs` loses its count, see
    `C17_departed_cells`), the outside-disperser list becomes the old list ++ `overOutside`
    (for each pair, in order, whose target is outside: `leavingCount` copies of the target), the
    unused kernel results are `ts.drop pairs.length`, and the pending arrivals are the old ones ++
    `overPending` (for each pair, in order, whose target is inside: (target, `leavingCount`)).
    Every count and every departure decision on the right-hand side is computed in `cells`. -/
theorem C17_departures_general (g : Grid) (thr leaving : Rat) (suit : List (Int × Int)) (cells : List Cell)
    (p : PestState) (ts : List (Int × Int)) (moves0 : List (Int × Int × Int))
    (hnd : (suit.map fun rc => g.idx rc.1 rc.2).Nodup) :
    departGo g thr leaving suit cells p ts moves0 =
      (overDeparted g leaving cells (overPairs g thr suit cells ts),
       { p with outside := p.outside ++ overOutside g leaving cells (overPairs g thr suit cells ts) },
       ts.drop (overPairs g thr suit cells ts).length,
       moves0 ++ overPending g leaving cells (overPairs g thr suit cells ts)) :=
  over_departGo_ref g thr leaving cells suit cells p ts moves0 hnd (fun _ _ => rfl)

/-- The whole action: all arrivals (`arriveAll`, in the order the moves were collected) are applied
    to the landscape in which ALL departures have already taken place; the outside-disperser list
    and the unused kernel results are those of the first phase. -/
theorem C17_overpopulation_general (g : Grid) (thr leaving : Rat) (suit : List (Int × Int)) (cells : List Cell)
    (p : PestState) (ts : List (Int × Int))
    (hnd : (suit.map fun rc => g.idx rc.1 rc.2).Nodup) :
    overpopulationStep g suit cells p thr leaving ts =
      (arriveAll g (overPending g leaving cells (overPairs g thr suit cells ts))
         (overDeparted g leaving cells (overPairs g thr suit cells ts)),
       { p with outside := p.outside ++ overOutside g leaving cells (overPairs g thr suit cells ts) },
       ts.drop (overPairs g thr suit cells ts).length) := by
  unfold overpopulationStep
  rw [C17_departures_general g thr leaving suit cells p ts [] hnd]
  simp only [List.nil_append]

/-- Who the pairs are: the sources are the first `ts.length` departing cells of the PRE-state (in
    suitable-cell order), the targets the first kernel results, one each; every source is a suitable
    cell that satisfies the departure rule in the pre-state and lies inside the landscape; and a
    source has exactly one pair - all its leavers go together to one target. -/
theorem C17_pairs (g : Grid) (thr : Rat) (suit : List (Int × Int)) (cells : List Cell)
    (ts : List (Int × Int)) (hnd : (suit.map fun rc => g.idx rc.1 rc.2).Nodup) :
    (overPairs g thr suit cells ts).map (·.1) = (overDeparting g thr suit cells).take ts.length ∧
    (overPairs g thr suit cells ts).map (·.2) = ts.take (overDeparting g thr suit cells).length ∧
    (∀ pr ∈ overPairs g thr suit cells ts, pr.1 ∈ suit ∧
        departs thr (cells[g.idx pr.1.1 pr.1.2]!) = true ∧ g.idx pr.1.1 pr.1.2 < cells.length) ∧
    (∀ pr ∈ overPairs g thr suit cells ts, ∀ pr' ∈ overPairs g thr suit cells ts,
        g.idx pr.1.1 pr.1.2 = g.idx pr'.1.1 pr'.1.2 → pr = pr') := by
  refine ⟨map_fst_zip_eq_take _ _, map_snd_zip_eq_take _ _, fun pr hpr => ?_,
    fun pr hpr pr' hpr' he => inj_of_nodup_map (over_pairs_idx_nodup g thr suit cells ts hnd) hpr hpr' he⟩
  have h := over_mem_pairs g thr suit cells ts pr hpr
  exact ⟨h.1, h.2.1, act_departs_lt h.2.1⟩

/-- What one pair contributes, and how contributions compose: a source whose target is outside
    contributes `leavingCount` copies of that one target to the outside dispersers and nothing to
    the arrivals; a source whose target is inside contributes exactly one pending arrival - that
    target with the whole count - and nothing to the outside dispersers. -/
theorem C17_go_together (g : Grid) (leaving : Rat) (cells : List Cell)
    (pr : (Int × Int) × (Int × Int)) (a b : List ((Int × Int) × (Int × Int))) :
    (g.isOutside pr.2.1 pr.2.2 = true →
      overOutside g leaving cells [pr] =
        List.replicate (leavingCount leaving (cells[g.idx pr.1.1 pr.1.2]!)).toNat pr.2 ∧
      overPending g leaving cells [pr] = []) ∧
    (g.isOutside pr.2.1 pr.2.2 = false →
      overOutside g leaving cells [pr] = [] ∧
      overPending g leaving cells [pr] =
        [(pr.2.1, pr.2.2, leavingCount leaving (cells[g.idx pr.1.1 pr.1.2]!))]) ∧
    overOutside g leaving cells (a ++ b) = overOutside g leaving cells a ++ overOutside g leaving cells b ∧
    overPending g leaving cells (a ++ b) = overPending g leaving cells a ++ overPending g leaving cells b := by
  refine ⟨fun ho => ?_, fun ho => ?_, List.flatMap_append, List.filterMap_append⟩
  · simp only [overOutside, overPending, overLeaving, List.flatMap_cons, List.flatMap_nil, List.filterMap_cons,
      List.filterMap_nil, List.append_nil, ho, if_true, and_self]
  · simp only [overOutside, overPending, overLeaving, List.flatMap_cons, List.flatMap_nil, List.filterMap_cons,
      List.filterMap_nil, List.append_nil, ho, if_false, Bool.false_eq_true, and_self]

/-- The landscape after the first phase, cell by cell: a source holds what `pests_from` leaves of
    its PRE-state cell (its leaving count moved from infected to susceptible), every other cell -
    suitable or not, departing without a kernel result or not - is unchanged; no cell is added. -/
theorem C17_departed_cells (g : Grid) (thr leaving : Rat) (suit : List (Int × Int)) (cells : List Cell)
    (ts : List (Int × Int)) (hnd : (suit.map fun rc => g.idx rc.1 rc.2).Nodup) :
    (overDeparted g leaving cells (overPairs g thr suit cells ts)).length = cells.length ∧
    (∀ pr ∈ overPairs g thr suit cells ts,
      (overDeparted g leaving cells (overPairs g thr suit cells ts))[g.idx pr.1.1 pr.1.2]! =
        ((cells[g.idx pr.1.1 pr.1.2]!).pestsFrom (leavingCount leaving (cells[g.idx pr.1.1 pr.1.2]!))).1) ∧
    (∀ k : Nat, (∀ pr ∈ overPairs g thr suit cells ts, g.idx pr.1.1 pr.1.2 ≠ k) →
      (overDeparted g leaving cells (overPairs g thr suit cells ts))[k]! = cells[k]!) :=
  over_departedFrom_get g leaving cells (overPairs g thr suit cells ts) cells
    (over_pairs_idx_nodup g thr suit cells ts hnd)
    (fun pr hpr => act_departs_lt (over_mem_pairs g thr suit cells ts pr hpr).2.1)

/-! #### a non-trivial instance: 1x4 raster, three suitable cells, two of them depart, one target
    outside and one inside, an outside disperser already recorded, one kernel result left over -/

def c17gGrid : Grid := ⟨1, 4⟩
def c17gSuit : List (Int × Int) := [(0, 0), (0, 1), (0, 3)]
def c17gCells : List Cell :=
  [⟨1, [], 3, 0, 0, [3], 0, 4⟩, ⟨5, [], 2, 0, 0, [2], 0, 7⟩, ⟨9, [], 9, 0, 0, [9], 0, 18⟩, ⟨0, [], 4, 0, 0, [4], 0, 4⟩]
def c17gPest : PestState := ⟨[0, 0, 0, 0], [0, 0, 0, 0], [(7, 7)]⟩
def c17gTargets : List (Int × Int) := [(0, 5), (0, 1), (0, 2)]

/-- Cells 0 (3/4 ≥ 1/2) and 3 (4/4) depart, cell 1 (2/7) does not, cell 2 is not suitable. Cell 0
    sends round(3/2) = 2 pests to (0,5), outside: two entries after the old one; cell 3 sends
    round(4/2) = 2 pests to cell 1, which has 5 susceptible hosts: both establish. -/
example :
    (c17gSuit.map fun rc => c17gGrid.idx rc.1 rc.2).Nodup ∧
    overPairs c17gGrid (1/2) c17gSuit c17gCells c17gTargets = [((0, 0), (0, 5)), ((0, 3), (0, 1))] ∧
    overpopulationStep c17gGrid c17gSuit c17gCells c17gPest (1/2) (1/2) c17gTargets =
      ([⟨3, [], 1, 0, 0, [3], 0, 4⟩, ⟨3, [], 4, 0, 0, [2], 0, 7⟩, ⟨9, [], 9, 0, 0, [9], 0, 18⟩, ⟨2, [], 2, 0, 0, [4], 0, 4⟩],
       ⟨[0, 0, 0, 0], [0, 0, 0, 0], [(7, 7), (0, 5), (0, 5)]⟩, [(0, 2)]) := by
  have hnd : (c17gSuit.map fun rc => c17gGrid.idx rc.1 rc.2).Nodup := by decide
  refine ⟨hnd, by decide +kernel, ?_⟩
  rw [C17_overpopulation_general c17gGrid (1/2) (1/2) c17gSuit c17gCells c17gPest c17gTargets hnd]
  decide +kernel

/-- The duplicate-free hypothesis cannot be dropped: with the cell (0,0) listed twice the second
    visit sees the cell after the first departure (i = 2, s = 2: still departing, round(2/2) = 1
    leaves), while the closed form would compute both visits from the pre-state (2 and 2). -/
theorem C17_departures_dup_counterexample :
    let g : Grid := ⟨1, 1⟩
    let cells : List Cell := [⟨0, [], 4, 0, 0, [4], 0, 4⟩]
    let p : PestState := ⟨[0], [0], []⟩
    (departGo g 0 (1/2) [(0, 0), (0, 0)] cells p [(0, 5), (0, 6)] []).2.1.outside = [(0, 5), (0, 5), (0, 6)] ∧
    p.outside ++ overOutside g (1/2) cells (overPairs g 0 [(0, 0), (0, 0)] cells [(0, 5), (0, 6)]) =
      [(0, 5), (0, 5), (0, 6), (0, 6)] := by
  decide +kernel

/-! ### the destination joins the list of suitable cells -/

/-- One host move (`HostPool::move_hosts_from_to`, host_pool.hpp:490-498) and the list of suitable
    cells, `suit' = suitAfterMove suit l b` being the list after the move from `a` to `b` on the
    landscape `l`: if before the move the list names every cell with a non-zero host total, then
    after it (1) it still does - on the landscape AFTER the move; (2) the destination in particular
    is listed (when it is a cell of the raster); (3) no duplicate is introduced; (4) nothing is
    removed: the old list is a prefix of the new one; (5) the list grows by at most one element,
    which is the destination, and it grows exactly when the destination was not listed before;
    (6) a destination outside the raster changes nothing.
    `0 ≤ count` is needed for (1) only: a negative request on a source without hosts would give the
    source hosts without listing it. -/
theorem C17_suitable_extended (a b : Nat) (count : Int) (d : ClassDraw) (dE dM : List Int) (l l' : Land)
    (suit : List Nat) (hcov : SuitCovers l suit) (hc : 0 ≤ count)
    (h : (LandOp.move a b count d dE dM).apply l = .ok l') :
    SuitCovers l' (suitAfterMove suit l b) ∧
    (b < l.length → b ∈ suitAfterMove suit l b) ∧
    (suit.Nodup → (suitAfterMove suit l b).Nodup) ∧
    suit <+: suitAfterMove suit l b ∧
    (b < l.length → suitAfterMove suit l b = if b ∈ suit then suit else suit ++ [b]) ∧
    (l.length ≤ b → suitAfterMove suit l b = suit) := by
  refine ⟨suitm_move_covers a b count d dE dM l l' suit hcov (fun _ _ => hc) h, ?_,
    suitm_after_nodup suit l b, suitm_after_prefix suit l b,
    fun hb => suitm_after_eq_insert suit l b hcov hb, suitm_after_out suit l b⟩
  intro hb
  exact suitm_after_dest suit l b l[b] (List.getElem?_eq_getElem hb) (hcov b l[b] (List.getElem?_eq_getElem hb))

/-- A sequence of host moves (the rows of the movement table due at a step, or over a whole run),
    each seeing the landscape and the list its predecessors left: the list keeps naming every cell
    with a non-zero host total, stays duplicate-free, only grows at its end, names every
    destination inside the raster, and - when all destinations are inside the raster - is the old
    list with each destination, in table order, inserted at the end if absent. -/
theorem C17_suitable_extended_moves (rows : List MoveRow) (l l' : Land) (suit : List Nat)
    (hcov : SuitCovers l suit) (hc : ∀ row ∈ rows, 0 ≤ row.2.2.1)
    (h : runOps (rows.map moveOp) l = .ok l') :
    SuitCovers l' (suitAlongMoves rows l suit) ∧
    (suit.Nodup → (suitAlongMoves rows l suit).Nodup) ∧
    suit <+: suitAlongMoves rows l suit ∧
    (∀ row ∈ rows, row.2.1 < l.length → row.2.1 ∈ suitAlongMoves rows l suit) ∧
    ((∀ row ∈ rows, row.2.1 < l.length) →
      suitAlongMoves rows l suit = (rows.map (·.2.1)).foldl insertIfAbsent suit) :=
  suitm_moves_facts rows l l' suit hcov (suitm_nonneg_of_forall rows hc l) h

/-- In terms of hosts: from a consistent landscape whose list names every cell that has hosts,
    after any sequence of host moves in their documented domain the list names every cell that has
    hosts (of any class), and it is duplicate-free if it was. -/
theorem C17_suitable_has_hosts (rows : List MoveRow) (l l' : Land) (suit : List Nat)
    (hinv : l.inv) (hu : l.uniform) (hd : DomainAlong (rows.map moveOp) l)
    (hcov : ∀ k c, l[k]? = some c → 0 < c.hosts → k ∈ suit)
    (h : runOps (rows.map moveOp) l = .ok l') :
    (∀ k c, l'[k]? = some c → 0 < c.hosts → k ∈ suitAlongMoves rows l suit) ∧
    (suit.Nodup → (suitAlongMoves rows l suit).Nodup) := by
  have hf := suitm_moves_facts rows l l' suit
    (fun k c hk hth => hcov k c hk (by have := suitm_th_hosts hinv hk; omega)) (suitm_nonneg_of_domain rows l hd) h
  have hinv' := (history_inv _ l l' hinv hu hd h).1
  exact ⟨fun k c hk hpos => hf.1 k c hk (by have := suitm_th_hosts hinv' hk; omega), hf.2.1⟩

/-- Link to C18 (`C18_sum_over_suitable_list`): after any sequence of host moves in their domain
    from a consistent landscape, a list that was duplicate-free, inside the raster and named every
    cell with hosts is again a list over which `sum_of_infected` / `area_of_infected` see every
    infected cell exactly once (`suitableListOK`). -/
theorem C17_suitable_list_ok (rows : List MoveRow) (l l' : Land) (suit : List Nat)
    (hinv : l.inv) (hu : l.uniform) (hd : DomainAlong (rows.map moveOp) l)
    (hnd : suit.Nodup) (hr : ∀ k ∈ suit, k < l.length)
    (hcov : ∀ k c, l[k]? = some c → 0 < c.hosts → k ∈ suit)
    (h : runOps (rows.map moveOp) l = .ok l') :
    suitableListOK (fun k => (l'[k]!).i) l'.length (suitAlongMoves rows l suit) = true := by
  obtain ⟨h1, h2⟩ := C17_suitable_has_hosts rows l l' suit hinv hu hd hcov h
  have hinv' := (history_inv _ l l' hinv hu hd h).1
  have hlen : l'.length = l.length := suitm_moves_length rows l l' h
  simp only [suitableListOK, Bool.and_eq_true, decide_eq_true_eq, List.all_eq_true, Bool.or_eq_true,
    beq_iff_eq, List.contains_iff_mem, List.mem_range]
  refine ⟨⟨h2 hnd, fun k hk => by rw [hlen]; exact suitm_moves_range rows l suit hr k hk⟩, ?_⟩
  intro k hk
  by_cases hi : (l'[k]!).i = 0
  · exact Or.inl hi
  · right
    rw [getElem!_pos l' k hk] at hi
    have hmem : l'[k] ∈ l' := List.getElem_mem hk
    have n := (nonNeg_iff l'[k]).mp (hinv' _ hmem).1
    have := n.i; have := n.s; have := n.r
    have := sumL_nonneg n.e
    apply h1 k l'[k] (List.getElem?_eq_getElem hk)
    unfold Cell.hosts
    omega

/-! #### a non-trivial instance: three cells, only cell 0 has hosts and is listed; two rows move
    hosts to cell 1 (appended once), a third asks for 5 hosts to cell 2 when 1 is left -/

def c17gLand : Land := [⟨3, [], 1, 0, 0, [1], 0, 4⟩, ⟨0, [], 0, 0, 0, [0], 0, 0⟩, ⟨0, [], 0, 0, 0, [0], 0, 0⟩]
def c17gRows : List MoveRow :=
  [(0, 1, 2, ⟨0, 2, 0, 0⟩, [], [0]), (0, 1, 1, ⟨1, 0, 0, 0⟩, [], [1]), (0, 2, 5, ⟨0, 1, 0, 0⟩, [], [0])]
def c17gLand' : Land := [⟨0, [], 0, 0, 0, [0], 0, 0⟩, ⟨2, [], 1, 0, 0, [1], 0, 3⟩, ⟨1, [], 0, 0, 0, [0], 0, 1⟩]

example :
    runOps (c17gRows.map moveOp) c17gLand = .ok c17gLand' ∧
    suitAlongMoves c17gRows c17gLand [0] = [0, 1, 2] ∧
    (∀ k c, c17gLand'[k]? = some c → 0 < c.hosts → k ∈ suitAlongMoves c17gRows c17gLand [0]) ∧
    (suitAlongMoves c17gRows c17gLand [0]).Nodup ∧
    suitAlongMoves c17gRows c17gLand [0] = (c17gRows.map (·.2.1)).foldl insertIfAbsent [0] ∧
    suitableListOK (fun k => (c17gLand'[k]!).i) c17gLand'.length (suitAlongMoves c17gRows c17gLand [0]) = true := by
  have hrun : runOps (c17gRows.map moveOp) c17gLand = .ok c17gLand' := eq_ok_of_yields (by decide +kernel)
  have hinv : c17gLand.inv := Land.inv_of_B _ (by decide)
  have hu : c17gLand.uniform := Land.uniform_of_B _ (by decide)
  have hd : DomainAlong (c17gRows.map moveOp) c17gLand := domainAlong_of_B _ _ (by decide +kernel)
  have hcov : ∀ (k : Nat) (c : Cell), c17gLand[k]? = some c → 0 < c.hosts → k ∈ [0] := by
    intro k c hk hpos
    match k, hk with
    | 0, _ => exact List.mem_singleton.mpr rfl
    | 1, hk => cases hk; exact absurd hpos (by decide)
    | 2, hk => cases hk; exact absurd hpos (by decide)
    | k + 3, hk => cases hk
  have h1 := C17_suitable_has_hosts c17gRows c17gLand c17gLand' [0] hinv hu hd hcov hrun
  have hcov' : SuitCovers c17gLand [0] := fun k c hk hth =>
    hcov k c hk (by have := suitm_th_hosts hinv hk; omega)
  have h2 := C17_suitable_extended_moves c17gRows c17gLand c17gLand' [0] hcov' (by decide) hrun
  exact ⟨hrun, by decide +kernel, h1.1, h1.2 (by decide), h2.2.2.2.2 (by decide),
    C17_suitable_list_ok c17gRows c17gLand c17gLand' [0] hinv hu hd (by decide) (by decide) hcov hrun⟩

/-- `0 ≤ count` cannot be dropped from `C17_suitable_extended`: a request of -1 host from an empty,
    unlisted source "moves" -1 host, i.e. leaves the source with one host and not listed. -/
theorem C17_suitable_negative_counterexample :
    let l : Land := [⟨0, [], 0, 0, 0, [0], 0, 0⟩, ⟨1, [], 0, 0, 0, [0], 0, 1⟩]
    SuitCovers l [1] ∧
    ∃ l', (LandOp.move 0 1 (-1) ⟨0, 0, 0, 0⟩ [] [0]).apply l = .ok l' ∧
      ¬ SuitCovers l' (suitAfterMove [1] l 1) := by
  intro l
  refine ⟨?_, [⟨0, [], 0, 0, 0, [0], 0, 1⟩, ⟨1, [], 0, 0, 0, [0], 0, 0⟩], eq_ok_of_yields (by decide +kernel), ?_⟩
  · intro k c hk hth
    match k, hk with
    | 0, hk => cases hk; exact absurd rfl hth
    | 1, _ => exact List.mem_singleton.mpr rfl
    | k + 2, hk => cases hk
  · intro hcov
    have := hcov 0 ⟨0, [], 0, 0, 0, [0], 0, 1⟩ rfl (by decide)
    revert this
    decide +kernel

end Pops

#print axioms Pops.C17_idx_nodup_of_inside
#print axioms Pops.C17_departures_general
#print axioms Pops.C17_overpopulation_general
#print axioms Pops.C17_pairs
#print axioms Pops.C17_go_together
#print axioms Pops.C17_departed_cells
#print axioms Pops.C17_departures_dup_counterexample
#print axioms Pops.C17_suitable_extended
#print axioms Pops.C17_suitable_extended_moves
#print axioms Pops.C17_suitable_has_hosts
#print axioms Pops.C17_suitable_list_ok
#print axioms Pops.C17_suitable_negative_counterexample
