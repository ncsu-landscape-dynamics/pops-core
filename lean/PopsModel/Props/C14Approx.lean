/-
  C14 for a window that is normalised only approximately.

  The C++ normalises doubles (`probability /= sum`), so the stored weights are non-negative and sum
  to `1 + ε` with `ε` of the order of the rounding error, not to 1 exactly. Here `p ≥ 0` and
  `p.sum = 1 + ε`; the theorems of Props/C14.lean, which assume `p.sum = 1`, are the case `ε = 0`.

  What is true:
   * `-1 < N ε ≤ 1`  : the bounds of the exact case hold UNCHANGED: `|k_c - N p_c| ≤ 1` after the `N`
     calls and `k_c - N p_c < 1` at every moment. (The expected `1 + N |ε|` is true but not tight:
     the error of the normalisation does not add to the quota error at all.)
   * `1 < N ε`       : a cell may be up to `N ε` dispersers behind its share (tight), never a whole
     disperser ahead: `-(N ε) ≤ k_c - N p_c < 1`.
   * `N ε = -1`      : `k_c - N p_c ≤ 1` can be attained (`C14_approx_tight_deficit`), so the strict
     bound needs `-1 < N ε`;   `N ε < -1`: `|k_c - N p_c| ≤ 1` fails (same theorem).
  Tie-breaking: the list-level theorems are about the scan-order arg-max of the model (as
  `C14_quota`); the function-level invariant (`Det.inv_pickAt`, `Det.quota_of_inv` in
  Analysis/DetQuota.lean) holds for ANY choice among the maximal cells.
-/
import PopsModel.Analysis.DetQuota
namespace Pops
open Pops.Det

/-- **Surplus of any size.** With `-1 < N ε` only: `-(max 1 (N ε)) ≤ k_c - N p_c < 1`, stated as
    `QuotaBound` with tolerance `max 0 (N ε - 1)`; no cell is ever a whole disperser ahead. -/
theorem C14_quota_surplus (p : List ℚ) (hp0 : ∀ x ∈ p, 0 ≤ x) (ε : ℚ) (hp : p.sum = 1 + ε)
    (N : ℕ) (hN : 1 ≤ N) (hlo : -1 < N * ε) (init : ℚ) (hinit : init ≤ -1) :
    QuotaBound N p (runPicks ltQ subQ init (1 / N) N (Allot.fresh p)).counts (max 0 (N * ε - 1)) = true ∧
    ∀ t, t ≤ N → QuotaUpper N p (runPicks ltQ subQ init (1 / N) t (Allot.fresh p)).counts 0 = true := by
  have hrun := linv_run hp hN hlo hinit hp0
  constructor
  · refine quotaBound_of fun c hc => ?_
    have := quota_of_inv (view_nonneg hp0) ((sum_view p).trans hp) hN (hrun N le_rfl).inv ⟨c, hc⟩
    have hmx : (1 : ℚ) + max 0 (N * ε - 1) = max 1 (N * ε) := by
      rw [← max_add_add_left, add_zero, add_sub_cancel]
    rw [hmx]
    exact ⟨this.1.le.trans (le_max_left _ _), this.2⟩
  · intro t ht
    refine quotaUpper_of fun c hc => ?_
    rw [add_zero]
    exact upper_of_inv hN (hrun t ht).inv ⟨c, hc⟩

/-- **Quota, approximately normalised window.** For every non-negative `p` with `p.sum = 1 + ε`,
    `-1 < N ε ≤ 1` (in particular `N |ε| < 1`): exactly the conclusion of `C14_quota`. -/
theorem C14_quota_approx (p : List ℚ) (hp0 : ∀ x ∈ p, 0 ≤ x) (ε : ℚ) (hp : p.sum = 1 + ε)
    (N : ℕ) (hN : 1 ≤ N) (hlo : -1 < N * ε) (hhi : N * ε ≤ 1) (init : ℚ) (hinit : init ≤ -1) :
    QuotaBound N p (runPicks ltQ subQ init (1 / N) N (Allot.fresh p)).counts 0 = true ∧
    ∀ t, t ≤ N → QuotaUpper N p (runPicks ltQ subQ init (1 / N) t (Allot.fresh p)).counts 0 = true := by
  have h := C14_quota_surplus p hp0 ε hp N hN hlo init hinit
  rwa [max_eq_left (sub_nonpos.mpr hhi)] at h

/-- The same with the hypothesis written as `N |ε| < 1`. -/
theorem C14_quota_abs (p : List ℚ) (hp0 : ∀ x ∈ p, 0 ≤ x) (ε : ℚ) (hp : p.sum = 1 + ε)
    (N : ℕ) (hN : 1 ≤ N) (hε : N * |ε| < 1) (init : ℚ) (hinit : init ≤ -1) :
    QuotaBound N p (runPicks ltQ subQ init (1 / N) N (Allot.fresh p)).counts 0 = true ∧
    ∀ t, t ≤ N → QuotaUpper N p (runPicks ltQ subQ init (1 / N) t (Allot.fresh p)).counts 0 = true := by
  have hN0 : (0 : ℚ) ≤ N := N.cast_nonneg
  refine C14_quota_approx p hp0 ε hp N hN ?_
    ((mul_le_mul_of_nonneg_left (le_abs_self ε) hN0).trans hε.le) init hinit
  calc (-1 : ℚ) < -(N * |ε|) := neg_lt_neg hε
    _ = N * -|ε| := neg_mul_eq_mul_neg _ _
    _ ≤ N * ε := mul_le_mul_of_nonneg_left (neg_abs_le ε) hN0

/-- Every one of the `N` calls lands in a window cell. -/
theorem C14_picks_in_window_approx (p : List ℚ) (hp0 : ∀ x ∈ p, 0 ≤ x) (ε : ℚ) (hp : p.sum = 1 + ε)
    (N : ℕ) (hN : 1 ≤ N) (hlo : -1 < N * ε) (init : ℚ) (hinit : init ≤ -1) (t : ℕ) (ht : t < N) :
    (pickStep ltQ subQ init (1 / N) (runPicks ltQ subQ init (1 / N) t (Allot.fresh p))).2.isSome = true :=
  (linv_step hp hN hlo hinit t ht _ (linv_run hp hN hlo hinit hp0 t ht.le)).2

/-- **Equal shares** do not depend on the normalisation. -/
theorem C14_equal_share_approx (p : List ℚ) (hp0 : ∀ x ∈ p, 0 ≤ x) (ε : ℚ) (hp : p.sum = 1 + ε)
    (N : ℕ) (hN : 1 ≤ N) (hlo : -1 < N * ε) (init : ℚ) (hinit : init ≤ -1) (t : ℕ) (ht : t ≤ N) :
    EqualShareBound p (runPicks ltQ subQ init (1 / N) t (Allot.fresh p)).counts = true := by
  set s := runPicks ltQ subQ init (1 / N) t (Allot.fresh p)
  have h := (linv_run hp hN hlo hinit hp0 t ht).inv
  have hδ : (0 : ℚ) < 1 / N := one_div_pos.mpr (by exact_mod_cast hN)
  refine equalShareBound_iff.mpr fun c hc d hd hpe => ?_
  have hcd : (view s).k ⟨c, hc⟩ ≤ (view s).k ⟨d, hd⟩ + 1 := count_le_succ_of_weight_eq hδ h _ _ hpe
  have hdc : (view s).k ⟨d, hd⟩ ≤ (view s).k ⟨c, hc⟩ + 1 := count_le_succ_of_weight_eq hδ h _ _ hpe.symm
  exact near1_iff.mpr ⟨hcd, hdc⟩

/-- **Mirror** symmetry of the allotment does not depend on the normalisation either. -/
theorem C14_mirror_approx (rows cols : ℕ) (p : List ℚ) (hlen : p.length = rows * cols)
    (hsym : ∀ c, c < rows * cols → ∀ d ∈ mirrorCells rows cols c, p.getD c 0 = p.getD d 0)
    (hp0 : ∀ x ∈ p, 0 ≤ x) (ε : ℚ) (hp : p.sum = 1 + ε) (N : ℕ) (hN : 1 ≤ N) (hlo : -1 < N * ε)
    (init : ℚ) (hinit : init ≤ -1) (t : ℕ) (ht : t ≤ N) :
    MirrorBound rows cols (runPicks ltQ subQ init (1 / N) t (Allot.fresh p)).counts = true :=
  mirror_of_equal_share rows cols p _ hlen hsym
    (C14_equal_share_approx p hp0 ε hp N hN hlo init hinit t ht)

/-! ### `ε = 0` gives the statement of `C14_quota`, which Props/C14.lean proves by this very line -/

example (p : List ℚ) (hp0 : ∀ x ∈ p, 0 ≤ x) (hp : p.sum = 1) (N : ℕ) (hN : 1 ≤ N)
    (init : ℚ) (hinit : init ≤ -1) :
    QuotaBound N p (runPicks ltQ subQ init (1 / N) N (Allot.fresh p)).counts 0 = true ∧
    ∀ t, t ≤ N → QuotaUpper N p (runPicks ltQ subQ init (1 / N) t (Allot.fresh p)).counts 0 = true :=
  C14_quota_approx p hp0 0 (exact_window hp N).1 N hN (exact_window hp N).2
    (by rw [mul_zero]; exact zero_le_one) init hinit

/-! ### Instances -/

/-- Surplus: weights summing to 21/20, four dispersers (`N ε = 1/5`). -/
example : QuotaBound 4 [1 / 2, 1 / 4, 3 / 10]
    (runPicks ltQ subQ (-2147483647) (1 / (4 : ℕ)) 4 (Allot.fresh [1 / 2, 1 / 4, 3 / 10])).counts 0 = true :=
  (C14_quota_approx [1 / 2, 1 / 4, 3 / 10] (by decide +kernel) (1 / 20) (by decide +kernel) 4 (by decide)
    (by decide +kernel) (by decide +kernel) (-2147483647) (by decide +kernel)).1

/-- Deficit: weights summing to 19/20, seven dispersers (`N ε = -7/20`, `N |ε| < 1`). -/
example : QuotaBound 7 [1 / 2, 1 / 4, 1 / 5]
    (runPicks ltQ subQ (-2147483647) (1 / (7 : ℕ)) 7 (Allot.fresh [1 / 2, 1 / 4, 1 / 5])).counts 0 = true :=
  (C14_quota_abs [1 / 2, 1 / 4, 1 / 5] (by decide +kernel) (-1 / 20) (by decide +kernel) 7 (by decide)
    (by rw [abs_of_neg (by decide +kernel)]; decide +kernel) (-2147483647) (by decide +kernel)).1

/-- Large surplus: weights summing to 2 (`ε = 1`), two dispersers (`N ε = 2`): tolerance 1. -/
example : QuotaBound 2 [3 / 2, 1 / 2]
    (runPicks ltQ subQ (-2147483647) (1 / (2 : ℕ)) 2 (Allot.fresh [3 / 2, 1 / 2])).counts
      (max 0 ((2 : ℕ) * 1 - 1)) = true :=
  (C14_quota_surplus [3 / 2, 1 / 2] (by decide +kernel) 1 (by decide +kernel) 2 (by decide)
    (by decide +kernel) (-2147483647) (by decide +kernel)).1

/-- A 1 × 3 window with symmetric weights summing to 11/10, five dispersers (`N ε = 1/2`). -/
example : MirrorBound 1 3
    (runPicks ltQ subQ (-2147483647) (1 / (5 : ℕ)) 3 (Allot.fresh [3 / 10, 1 / 2, 3 / 10])).counts = true :=
  C14_mirror_approx 1 3 [3 / 10, 1 / 2, 3 / 10] rfl (by decide +kernel) (by decide +kernel)
    (1 / 10) (by decide +kernel) 5 (by decide) (by decide +kernel) (-2147483647) (by decide +kernel) 3 (by decide)

/-! ### The hypotheses on `ε` cannot be dropped (tightness) -/

/-- `N ε = -1` (window `[1/2, 0]`, two dispersers): the first cell ends exactly one disperser ahead,
    so "never a whole disperser ahead" (`QuotaUpper`, strict) fails while `|k_c - N p_c| ≤ 1` still
    holds. `N ε = -3` (window `[1/8, 1/8]`, four dispersers, counts `[2, 2]`, shares `1/2`):
    `|k_c - N p_c| ≤ 1` fails. -/
theorem C14_approx_tight_deficit :
    QuotaUpper 2 [1 / 2, 0]
      (runPicks ltQ subQ (-2147483647) (1 / (2 : ℕ)) 2 (Allot.fresh [1 / 2, 0])).counts 0 = false ∧
    QuotaBound 2 [1 / 2, 0]
      (runPicks ltQ subQ (-2147483647) (1 / (2 : ℕ)) 2 (Allot.fresh [1 / 2, 0])).counts 0 = true ∧
    QuotaBound 4 [1 / 8, 1 / 8]
      (runPicks ltQ subQ (-2147483647) (1 / (4 : ℕ)) 4 (Allot.fresh [1 / 8, 1 / 8])).counts 0 = false := by
  refine ⟨by decide +kernel, by decide +kernel, by decide +kernel⟩

/-- `N ε = 2` (window `[2, 0]`, two dispersers): the first cell ends two dispersers behind its
    share `N p = 4`: `|k_c - N p_c| ≤ 1` fails and the tolerance `N ε - 1 = 1` of
    `C14_quota_surplus` is attained (tolerance 1/2 is not enough). -/
theorem C14_approx_tight_surplus :
    QuotaBound 2 [2, 0]
      (runPicks ltQ subQ (-2147483647) (1 / (2 : ℕ)) 2 (Allot.fresh [2, 0])).counts 0 = false ∧
    QuotaBound 2 [2, 0]
      (runPicks ltQ subQ (-2147483647) (1 / (2 : ℕ)) 2 (Allot.fresh [2, 0])).counts (1 / 2) = false ∧
    QuotaBound 2 [2, 0]
      (runPicks ltQ subQ (-2147483647) (1 / (2 : ℕ)) 2 (Allot.fresh [2, 0])).counts 1 = true := by
  refine ⟨by decide +kernel, by decide +kernel, by decide +kernel⟩

end Pops
