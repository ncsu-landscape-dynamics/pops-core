/-
  C11  Mortality kills only aged cohorts, at the stated rate, eventually all infected.
-/
import PopsModel.Model.HostOps
import PopsModel.Lemmas.HostMech
import PopsModel.Lemmas.HostMortality
import PopsModel.Lemmas.HostCell
namespace Pops

/-- The mortality action (apply, then age) from a consistent cell: cohort 0 dies completely,
    cohorts 1..|mort|-lag-1 lose floor(rate x size), cohorts within the lag lose nothing; the dead
    are added to `died` and subtracted from infected and total hosts; then all cohorts age.
    The documented domain of the rate is [0,1]; the statement also covers a negative rate, for
    which the code (`if (mortality_rate <= 0) return;`) and the model let nobody die. -/
theorem C11_who_dies (c : Cell) (rate : Rat) (lag : Int) (hr1 : rate ≤ 1) (hl : 0 ≤ lag)
    (hn : c.nonNeg = true) (ht : c.totalsOK = true) (hm : c.mortOK = true) :
    ∃ c', (CellOp.mortality rate lag).apply c = .ok c' ∧ mortalitySpec rate lag c c' = true := by
  by_cases hr : rate ≤ 0
  · exact mortalitySpec_of_rate_nonpos c rate lag hr
  · -- consistency makes the action go through; what it then does needs none
    have hg := good_of_bool hn ht
    obtain ⟨cN, hN⟩ := applyMortality_ok (Rat.le_of_lt (Rat.not_le.mp hr)) hr1 lag c hg.nn.mort
      ((mortOK_iff c).mp hm) hg.i_le_th
    have h : (CellOp.mortality rate lag).apply c = .ok cN.stepForwardMortality := by
      simp only [CellOp.apply, hN]; rfl
    exact ⟨_, h, mortalitySpec_of_ok c _ rate lag hr hl h⟩

/-- With rate zero nobody dies (the cohorts still age). -/
theorem C11_rate_zero (c : Cell) (lag : Int) :
    (CellOp.mortality 0 lag).apply c = .ok c.stepForwardMortality := by
  have : (0 : Rat) ≤ 0 := by decide
  simp only [CellOp.apply, Cell.applyMortality, this, if_true]; rfl

/-- `a` new infections in the SI model (what `a` successful landings do to the cell). -/
def Cell.infectN (c : Cell) (a : Int) : Cell :=
  { c with s := c.s - a, i := c.i + a, mort := addLast c.mort a }

/-- A run of mortality steps, each followed by new infection. -/
def mortalityRun (rate : Rat) (lag : Int) : List Int → Cell → Except ErrKind Cell
  | [], c => .ok c
  | a :: rest, c => do
    let c1 ← (CellOp.mortality rate lag).apply c
    mortalityRun rate lag rest (c1.infectN a)

/-- Each action empties the front cohort and moves the others one position to the front: of the
    hosts in the cohorts now only those at positions `≥ |adds|` can be left after `|adds|` actions. -/
theorem mortalityRun_window (rate : Rat) (lag : Int) (hr0 : 0 < rate) (hr1 : rate ≤ 1) (c' : Cell)
    (adds : List Int) :
    ∀ (cj : Cell), AllNN adds → adds.length ≤ cj.mort.length →
      lag < (cj.mort.length : Int) → AllNN cj.mort → mortalityRun rate lag adds cj = .ok c' →
      sumL c'.mort ≤ sumL (cj.mort.drop adds.length) + sumL adds ∧
      c'.died + sumL c'.mort = cj.died + sumL cj.mort + sumL adds := by
  induction adds with
  | nil =>
    intro cj _ _ _ _ h
    have h : Except.ok cj = Except.ok c' := h
    cases h
    exact ⟨Int.le_of_eq (Int.add_zero _).symm, (Int.add_zero _).symm⟩
  | cons a rest ih =>
    intro cj hadds hlen hlag hnn h
    change ((CellOp.mortality rate lag).apply cj).bind
      (fun c1 => mortalityRun rate lag rest (c1.infectN a)) = _ at h
    cases happ : (CellOp.mortality rate lag).apply cj with
    | error e => rw [happ] at h; cases h
    | ok c1 =>
      rw [happ] at h
      cases hcj : cj.mort with
      | nil => rw [hcj] at hlen; cases hlen
      | cons x0 t =>
        obtain ⟨t', e1, hdom, e3⟩ := mech_mort_step cj c1 rate lag hr0 hr1 x0 t hcj hlag hnn happ
        obtain ⟨ha, hrest⟩ := allNN_cons.mp hadds
        have htl := hdom.length_eq
        have hm2 : (c1.infectN a).mort = t' ++ [0 + a] := by
          show addLast c1.mort a = _
          rw [e1, addLast_concat]
        rw [hcj] at hlen hlag
        have hlen' : rest.length ≤ t'.length := htl ▸ Nat.le_of_succ_le_succ hlen
        obtain ⟨r1, r2⟩ := ih (c1.infectN a) hrest
          (by rw [hm2, List.length_append]; exact Nat.le_succ_of_le hlen')
          (by rw [hm2, List.length_append, htl]; exact hlag)
          (by rw [hm2]; exact allNN_append.mpr ⟨hdom.allNN_draw,
            allNN_cons.mpr ⟨by omega, allNN_nil⟩⟩)
          h
        have hle := hdom.drop_le rest.length
        simp only [hm2, List.drop_append_of_le_length hlen', sumL_append, sumL_cons, sumL_nil] at r1 r2
        have e3' : c1.died = cj.died + (x0 + sumL t - sumL t') := by rw [e3, hcj, sumL_cons]
        have hd : (c1.infectN a).died = c1.died := rfl
        simp only [List.length_cons, List.drop_succ_cons, sumL_cons]
        clear hlag hlen hlen' htl ih e3
        omega

/-- With a positive rate every host infected before the run is dead after tracker-length
    mortality steps, whatever new infection arrives in between: what is left in the cohorts is at
    most the newly infected, and at least the originally infected have died. (The derived totals
    need not be consistent: `totalsOK` is not a hypothesis; the run is assumed not to throw.) -/
theorem C11_eventual_death (c c' : Cell) (rate : Rat) (lag : Int) (adds : List Int)
    (hr0 : 0 < rate) (hr1 : rate ≤ 1) (hl0 : 0 ≤ lag) (hl : lag < c.mort.length)
    (hn : c.nonNeg = true) (hm : c.mortOK = true)
    (hadds : ∀ a ∈ adds, 0 ≤ a) (hlen : adds.length = c.mort.length)
    (h : mortalityRun rate lag adds c = .ok c') :
    sumL c'.mort ≤ sumL adds ∧ c.i ≤ c'.died - c.died := by
  have _ := hl0  -- the documented domain of the lag; the window argument does not need it
  have hm' := (mortOK_iff c).mp hm
  obtain ⟨r1, r2⟩ := mortalityRun_window rate lag hr0 hr1 c' adds c hadds (Nat.le_of_eq hlen) hl
    ((nonNeg_iff c).mp hn).mort h
  rw [hlen, List.drop_length, sumL_nil] at r1
  clear hl
  omega

example : ∃ c : Cell, c.nonNeg = true ∧ c.totalsOK = true ∧ c.mortOK = true ∧ (0 : Int) < c.mort.length ∧ c.i > 0 :=
  ⟨⟨5, [], 6, 0, 0, [1, 2, 3], 0, 11⟩, by decide⟩

end Pops
