/-
  C02  Counts never go negative and never exceed what the cell holds.
-/
import PopsModel.Model.HostOps
import PopsModel.Lemmas.HostLists
import PopsModel.Lemmas.HostHistory
namespace Pops

/-- Every count stays non-negative under every action in its domain, for all draws. -/
theorem C02_nonneg_step (op : CellOp) (c c' : Cell) (hd : op.inDomain c)
    (hn : c.nonNeg = true) (ht : c.totalsOK = true) (h : op.apply c = .ok c') :
    c'.nonNeg = true :=
  (cellOp_facts op c c' hd (good_of_bool hn ht) h).good.nonNeg

/-- A host move keeps every count of both cells non-negative. Holds whatever the lengths of the
    target's cohort lists (in the C++ all cells share the lengths of the exposed and of the
    mortality-tracker vectors). -/
theorem C02_nonneg_move (src dst : Cell) (count : Int) (d : ClassDraw) (dE dM : List Int)
    (hs : src.nonNeg = true) (hts : src.totalsOK = true) (hdn : dst.nonNeg = true) (hc : 0 ≤ count)
    (hd : validClassDrawB src count d = true)
    (hE : d.e > 0 → ValidDraw src.e d.e dE) (hM : d.i > 0 → ValidDraw src.mort d.i dM) :
    let r := moveHosts src dst count d dE dM
    r.1.nonNeg = true ∧ r.2.1.nonNeg = true :=
  have hg := good_of_bool hs hts
  ⟨(move_src_facts (dst := dst) rfl hg hd hE hM).1.nonNeg,
    (nonNeg_iff _).mpr (move_dst_nn rfl hg hd hE hM ((nonNeg_iff dst).mp hdn) hc)⟩

/-- Infected never exceeds the cell's total hosts. -/
theorem C02_infected_le_total (c : Cell) (hn : c.nonNeg = true) (ht : c.totalsOK = true) :
    c.infectedLeTotal = true := by
  simp only [Cell.infectedLeTotal, decide_eq_true_eq]; exact (good_of_bool hn ht).i_le_th

/-- Hosts dying in a mortality action never exceed the infected that were present. -/
theorem C02_died_le_infected (c c' : Cell) (rate : Rat) (lag : Int)
    (hn : c.nonNeg = true) (h : (CellOp.mortality rate lag).apply c = .ok c') :
    c'.died - c.died ≤ c.i ∧ 0 ≤ c'.died - c.died := by
  have nn := (nonNeg_iff c).mp hn
  obtain ⟨c1, ha, rfl⟩ := except_map_ok h
  have hw := applyMortality_weak lag nn.i nn.th ha
  have := hw.i; have := hw.dd; have := hw.di
  show c1.died - c.died ≤ c.i ∧ 0 ≤ c1.died - c.died
  omega

/-- Pests or hosts taken out of a cell never exceed the request nor what the cell contained. -/
theorem C02_taken_le_present (c : Cell) (k : Int) (hn : c.nonNeg = true) (hk : 0 ≤ k) :
    (c.pestsTo k).2 ≤ k ∧ (c.pestsTo k).2 ≤ c.s ∧ 0 ≤ (c.pestsTo k).2 ∧
    (∀ p : Rat, 0 ≤ p → p ≤ 1 → 0 ≤ lround ((c.i : Rat) * p) ∧ lround ((c.i : Rat) * p) ≤ c.i) ∧
    (∀ count : Int, 0 ≤ count → hostsMoved c count ≤ count ∧ hostsMoved c count ≤ c.th ∧ 0 ≤ hostsMoved c count) := by
  have nn := (nonNeg_iff c).mp hn
  have hs := nn.s
  have hp : (c.pestsTo k).2 ≤ k ∧ (c.pestsTo k).2 ≤ c.s ∧ 0 ≤ (c.pestsTo k).2 := by
    unfold Cell.pestsTo
    split <;> (dsimp only; omega)
  refine ⟨hp.1, hp.2.1, hp.2.2, fun p h0 h1 => lround_share nn.i h0 h1, fun count hc => ?_⟩
  have := hostsMoved_bounds c count
  exact ⟨this.1, this.2.1, this.2.2 hc nn.th⟩

/-- Consistency (non-negativity and totals) is kept along every history. -/
theorem C02_history (ops : List LandOp) (l l' : Land) (hinv : l.inv) (hu : l.uniform)
    (hd : DomainAlong ops l) (h : runOps ops l = .ok l') : l'.inv ∧ l'.uniform :=
  history_inv ops l l' hinv hu hd h

end Pops
