/-
  C17, several groups of pests arriving at the same destination (complements Props/C17.lean and
  Props/C17General.lean).

  The property sentence "at a destination min(arriving, susceptible) establish, the rest die" is
  about the TOTAL of all groups heading for the cell in this step: several overpopulated cells may
  send their pests to the same destination, and `MoveOverpopulatedPests::action` (actions.hpp, second
  loop) hands them to `HostPool::pests_to` one group after the other.

  * `C17_arrivals_same_cell`: two groups one after the other = one group of the total size.
  * `C17_arrivals_aggregate` (+ `_rc`): after all pending moves every cell holds its old infected
    count + min(total aimed at it, its susceptible count); nothing else changes.
  * `C17_arrivals_order_irrelevant`: the order of the groups does not matter.
  * `C17_overpopulation_aggregate`: the same for the whole action, on the landscape after ALL
    departures.
  * `C17_dropping_second_group_differs`: keeping only the first group per destination (what a
    `std::map::emplace` keyed by the destination would do) gives a different landscape.

  `arrivingAt`, `arrivingAtRC`, `arriveFirstOnly` are defined in Lemmas/C17Aggregate.lean.
-/
import PopsModel.Lemmas.C17Aggregate
import PopsModel.Props.C17General
namespace Pops

/-- Two groups arriving one after the other at the same cell leave the cell exactly as one group of
    the total size does, and the accepted numbers add up. Exact domain: the first group fits, or the
    second count is not negative - in particular for all counts `0 ≤ k2` (no condition on `c.s`, `k1`);
    `pests_to` touches the susceptible and infected counts only, so the cell equation covers every
    field. The hypothesis cannot be dropped (`C17_arrivals_same_cell_negative_counterexample`). -/
theorem C17_arrivals_same_cell (c : Cell) (k1 k2 : Int) (h : k1 ≤ c.s ∨ 0 ≤ k2) :
    ((c.pestsTo k1).1.pestsTo k2).1 = (c.pestsTo (k1 + k2)).1 ∧
    (c.pestsTo k1).2 + ((c.pestsTo k1).1.pestsTo k2).2 = (c.pestsTo (k1 + k2)).2 ∧
    (c.pestsTo (k1 + k2)).2 = min (k1 + k2) c.s :=
  ⟨(agg_pestsTo_pestsTo c k1 k2 h).1, (agg_pestsTo_pestsTo c k1 k2 h).2, (agg_pestsTo_eq c (k1 + k2)).2⟩

/-- 5 susceptible hosts, groups of 3 and 4: the first establishes entirely, of the second only 2;
    together min(7, 5) = 5 establish, 2 die. -/
example :
    let c : Cell := ⟨5, [], 2, 0, 0, [2], 0, 7⟩
    (c.pestsTo 3).2 = 3 ∧ ((c.pestsTo 3).1.pestsTo 4).2 = 2 ∧ (c.pestsTo (3 + 4)).2 = 5 ∧
    ((c.pestsTo 3).1.pestsTo 4).1 = ⟨0, [], 7, 0, 0, [2], 0, 7⟩ ∧
    ((c.pestsTo 3).1.pestsTo 4).1 = (c.pestsTo (3 + 4)).1 := by
  intro c
  have h := C17_arrivals_same_cell c 3 4 (Or.inr (by decide +kernel))
  exact ⟨by decide +kernel, by decide +kernel, by decide +kernel, by decide +kernel, h.1⟩

/-- With a first group that does not fit and a negative second count the statement fails:
    10 then -3 at 5 susceptible hosts accepts 5 - 3 = 2, one group of 7 accepts 5. -/
theorem C17_arrivals_same_cell_negative_counterexample :
    let c : Cell := ⟨5, [], 2, 0, 0, [2], 0, 7⟩
    (c.pestsTo 10).2 + ((c.pestsTo 10).1.pestsTo (-3)).2 = 2 ∧ (c.pestsTo (10 + -3)).2 = 5 ∧
    ((c.pestsTo 10).1.pestsTo (-3)).1 ≠ (c.pestsTo (10 + -3)).1 := by
  decide

/-- All arrivals of a step, cell by cell: for ANY raster, landscape and list of pending moves with
    non-negative counts, with `arrivingAt g ms k` = the total of the counts of the moves aimed at flat
    index `k`: no cell is added or removed, and every cell `k` of the landscape with a non-negative
    susceptible count ends as after ONE arrival of that total: its infected count grows by
    min(total arriving, susceptible), its susceptible count shrinks by the same number (the other
    `total - min` pests die), and no other field changes. (No condition on the targets: a move whose
    flat index is beyond the landscape changes nothing and is counted for no cell `k`; for targets
    inside the raster see `C17_arrivals_aggregate_rc`. `0 ≤ s` is needed only at the cell looked at,
    and there only when nothing arrives: `pests_to(0)` at a negative susceptible count is not the
    identity.) -/
theorem C17_arrivals_aggregate (g : Grid) (ms : List (Int × Int × Int)) (cells : List Cell)
    (hc : ∀ m ∈ ms, 0 ≤ m.2.2) :
    (arriveAll g ms cells).length = cells.length ∧
    ∀ k : Nat, k < cells.length → 0 ≤ (cells[k]!).s →
      0 ≤ arrivingAt g ms k ∧
      (arriveAll g ms cells)[k]! = ((cells[k]!).pestsTo (arrivingAt g ms k)).1 ∧
      ((arriveAll g ms cells)[k]!).i = (cells[k]!).i + min (arrivingAt g ms k) (cells[k]!).s ∧
      ((arriveAll g ms cells)[k]!).s = (cells[k]!).s - min (arrivingAt g ms k) (cells[k]!).s ∧
      ((arriveAll g ms cells)[k]!).e = (cells[k]!).e ∧ ((arriveAll g ms cells)[k]!).r = (cells[k]!).r ∧
      ((arriveAll g ms cells)[k]!).te = (cells[k]!).te ∧ ((arriveAll g ms cells)[k]!).mort = (cells[k]!).mort ∧
      ((arriveAll g ms cells)[k]!).died = (cells[k]!).died ∧ ((arriveAll g ms cells)[k]!).th = (cells[k]!).th := by
  refine ⟨agg_arriveAll_length g ms cells, fun k hk hs => ?_⟩
  have h := agg_arriveAll_get g ms cells k hc hk hs
  have m := act_pestsTo_min (cells[k]!) (arrivingAt g ms k)
  rw [h]
  exact ⟨agg_arrivingAt_nonneg g ms k hc, rfl, m.2.1, m.2.2, agg_pestsTo_frame _ _⟩

/-! #### a non-trivial instance: 2x3 raster; groups of 3 and 4 aimed at cell (0,1) (5 susceptible:
    5 establish, 2 die), groups of 2 and 1 aimed at cell (1,2) (10 susceptible: all 3 establish), one
    group of 2 aimed at cell (1,0); the groups for one cell are not adjacent in the list -/

def c17aGrid : Grid := ⟨2, 3⟩
def c17aCells : List Cell :=
  [⟨4, [], 0, 0, 0, [0], 0, 4⟩, ⟨5, [], 2, 0, 0, [2], 0, 7⟩, ⟨1, [], 1, 0, 0, [1], 0, 2⟩,
   ⟨6, [], 0, 0, 0, [0], 0, 6⟩, ⟨0, [], 3, 0, 0, [3], 0, 3⟩, ⟨10, [], 1, 0, 0, [1], 0, 11⟩]
def c17aMoves : List (Int × Int × Int) := [(0, 1, 3), (1, 2, 2), (0, 1, 4), (1, 0, 2), (1, 2, 1)]

example :
    (∀ m ∈ c17aMoves, 0 ≤ m.2.2) ∧
    arrivingAt c17aGrid c17aMoves 1 = 7 ∧ arrivingAt c17aGrid c17aMoves 5 = 3 ∧
    arrivingAt c17aGrid c17aMoves 3 = 2 ∧ arrivingAt c17aGrid c17aMoves 0 = 0 ∧
    ((arriveAll c17aGrid c17aMoves c17aCells)[1]!).i = 2 + 5 ∧ ((arriveAll c17aGrid c17aMoves c17aCells)[1]!).s = 0 ∧
    ((arriveAll c17aGrid c17aMoves c17aCells)[5]!).i = 1 + 3 ∧ ((arriveAll c17aGrid c17aMoves c17aCells)[5]!).s = 7 ∧
    (arriveAll c17aGrid c17aMoves c17aCells)[0]! = c17aCells[0]! ∧
    arriveAll c17aGrid c17aMoves c17aCells =
      [⟨4, [], 0, 0, 0, [0], 0, 4⟩, ⟨0, [], 7, 0, 0, [2], 0, 7⟩, ⟨1, [], 1, 0, 0, [1], 0, 2⟩,
       ⟨4, [], 2, 0, 0, [0], 0, 6⟩, ⟨0, [], 3, 0, 0, [3], 0, 3⟩, ⟨7, [], 4, 0, 0, [1], 0, 11⟩] := by
  have hc : ∀ m ∈ c17aMoves, 0 ≤ m.2.2 := by decide +kernel
  obtain ⟨_, h⟩ := C17_arrivals_aggregate c17aGrid c17aMoves c17aCells hc
  have e1 : arrivingAt c17aGrid c17aMoves 1 = 7 := by decide +kernel
  have e5 : arrivingAt c17aGrid c17aMoves 5 = 3 := by decide +kernel
  have e0 : arrivingAt c17aGrid c17aMoves 0 = 0 := by decide +kernel
  have h1 := h 1 (by decide +kernel) (by decide +kernel)
  have h5 := h 5 (by decide +kernel) (by decide +kernel)
  have h0 := h 0 (by decide +kernel) (by decide +kernel)
  rw [e1] at h1
  rw [e5] at h5
  rw [e0] at h0
  exact ⟨hc, e1, e5, by decide +kernel, e0, h1.2.2.1.trans (by decide +kernel), h1.2.2.2.1.trans (by decide +kernel),
    h5.2.2.1.trans (by decide +kernel), h5.2.2.2.1.trans (by decide +kernel), h0.2.1.trans (by decide +kernel), by decide +kernel⟩

/-- The same with the destination named by row and column: when all pending moves (as those
    collected by the first phase, `C17_two_phase`) and the cell (r, c) are inside the raster, the
    moves counted for the flat index of (r, c) are exactly the moves aimed at (r, c), so the cell
    (r, c) gains min(total of the groups aimed at (r, c), its susceptible count). -/
theorem C17_arrivals_aggregate_rc (g : Grid) (ms : List (Int × Int × Int)) (cells : List Cell)
    (hc : ∀ m ∈ ms, 0 ≤ m.2.2) (hin : ∀ m ∈ ms, g.isOutside m.1 m.2.1 = false)
    (r c : Int) (hrc : g.isOutside r c = false) (hk : g.idx r c < cells.length)
    (hs : 0 ≤ (cells[g.idx r c]!).s) :
    arrivingAt g ms (g.idx r c) = arrivingAtRC ms r c ∧
    (arriveAll g ms cells)[g.idx r c]! = ((cells[g.idx r c]!).pestsTo (arrivingAtRC ms r c)).1 ∧
    ((arriveAll g ms cells)[g.idx r c]!).i =
      (cells[g.idx r c]!).i + min (arrivingAtRC ms r c) (cells[g.idx r c]!).s ∧
    ((arriveAll g ms cells)[g.idx r c]!).s =
      (cells[g.idx r c]!).s - min (arrivingAtRC ms r c) (cells[g.idx r c]!).s := by
  have e := agg_arrivingAt_rc g ms r c hin hrc
  have h := ((C17_arrivals_aggregate g ms cells hc).2 (g.idx r c) hk hs).2
  rw [e] at h
  exact ⟨e, h.1, h.2.1, h.2.2.1⟩

example :
    (∀ m ∈ c17aMoves, c17aGrid.isOutside m.1 m.2.1 = false) ∧ arrivingAtRC c17aMoves 0 1 = 3 + 4 ∧
    ((arriveAll c17aGrid c17aMoves c17aCells)[c17aGrid.idx 0 1]!).i = 2 + 5 ∧
    arrivingAtRC c17aMoves 1 2 = 2 + 1 ∧
    ((arriveAll c17aGrid c17aMoves c17aCells)[c17aGrid.idx 1 2]!).i = 1 + 3 := by
  have hc : ∀ m ∈ c17aMoves, 0 ≤ m.2.2 := by decide +kernel
  have hin : ∀ m ∈ c17aMoves, c17aGrid.isOutside m.1 m.2.1 = false := by decide +kernel
  have h1 := C17_arrivals_aggregate_rc c17aGrid c17aMoves c17aCells hc hin 0 1 (by decide +kernel) (by decide +kernel) (by decide +kernel)
  have h5 := C17_arrivals_aggregate_rc c17aGrid c17aMoves c17aCells hc hin 1 2 (by decide +kernel) (by decide +kernel) (by decide +kernel)
  have e1 : arrivingAtRC c17aMoves 0 1 = 3 + 4 := by decide +kernel
  have e5 : arrivingAtRC c17aMoves 1 2 = 2 + 1 := by decide +kernel
  rw [e1] at h1
  rw [e5] at h5
  exact ⟨hin, e1, h1.2.2.1.trans (by decide +kernel), e5, h5.2.2.1.trans (by decide +kernel)⟩

/-- The order of the groups does not matter: applying the pending moves (non-negative counts) in any
    other order gives the same landscape. (No condition on the cells or the targets. With a
    negative count the order matters, see `C17_arrivals_same_cell_negative_counterexample`.) -/
theorem C17_arrivals_order_irrelevant (g : Grid) (ms ms' : List (Int × Int × Int)) (cells : List Cell)
    (hp : ms'.Perm ms) (hc : ∀ m ∈ ms, 0 ≤ m.2.2) :
    arriveAll g ms' cells = arriveAll g ms cells := agg_arriveAll_perm g ms ms' cells hp hc

/-- The five moves of the instance reversed: the group of 4 now reaches cell (0,1) before the group
    of 3 (4 establish, then 1 of 3), with the same result. -/
example :
    c17aMoves.reverse = [(1, 2, 1), (1, 0, 2), (0, 1, 4), (1, 2, 2), (0, 1, 3)] ∧
    arriveAll c17aGrid c17aMoves.reverse c17aCells = arriveAll c17aGrid c17aMoves c17aCells :=
  ⟨by decide +kernel, C17_arrivals_order_irrelevant c17aGrid c17aMoves c17aMoves.reverse c17aCells
    (List.reverse_perm _) (by decide +kernel)⟩

/-- The whole overpopulation action, cell by cell (with `C17_overpopulation_general`): for any
    suitable-cell list with duplicate-free flat indices, any kernel results and a non-negative leaving
    share, with `pend` the pending arrivals and `dep` the landscape after ALL departures (both closed
    functions of the pre-state, Model/OverpopSpec.lean; `dep` cell by cell: `C17_departed_cells`):
    every pending count is non-negative, and every cell `k` whose susceptible count was non-negative
    before the action ends with `dep[k].i + min (total pending count aimed at k) (dep[k].s)` infected
    and `dep[k].s - min ...` susceptible - it is `dep[k]` after ONE arrival of the total - where
    `dep[k].s` is at least the former susceptible count (departures only add to it); its other fields
    are those before the action. (`leaving ≤ 1` and non-negative infected counts are not needed: a
    departing cell has at least two infected hosts.) -/
theorem C17_overpopulation_aggregate (g : Grid) (thr leaving : Rat) (suit : List (Int × Int)) (cells : List Cell)
    (p : PestState) (ts : List (Int × Int))
    (hnd : (suit.map fun rc => g.idx rc.1 rc.2).Nodup) (h0 : 0 ≤ leaving) :
    let pend := overPending g leaving cells (overPairs g thr suit cells ts)
    let dep := overDeparted g leaving cells (overPairs g thr suit cells ts)
    let res := (overpopulationStep g suit cells p thr leaving ts).1
    (∀ m ∈ pend, 0 ≤ m.2.2) ∧
    res.length = cells.length ∧
    ∀ k : Nat, k < cells.length → 0 ≤ (cells[k]!).s →
      (cells[k]!).s ≤ (dep[k]!).s ∧ 0 ≤ arrivingAt g pend k ∧
      res[k]! = ((dep[k]!).pestsTo (arrivingAt g pend k)).1 ∧
      (res[k]!).i = (dep[k]!).i + min (arrivingAt g pend k) (dep[k]!).s ∧
      (res[k]!).s = (dep[k]!).s - min (arrivingAt g pend k) (dep[k]!).s ∧
      (res[k]!).e = (cells[k]!).e ∧ (res[k]!).r = (cells[k]!).r ∧ (res[k]!).te = (cells[k]!).te ∧
      (res[k]!).mort = (cells[k]!).mort ∧ (res[k]!).died = (cells[k]!).died ∧ (res[k]!).th = (cells[k]!).th := by
  intro pend dep res
  have hres : res = arriveAll g pend dep := by
    show (overpopulationStep g suit cells p thr leaving ts).1 = _
    rw [C17_overpopulation_general g thr leaving suit cells p ts hnd]
  have hpend : ∀ m ∈ pend, 0 ≤ m.2.2 := agg_pending_nonneg g thr leaving suit cells ts h0
  have hlen : dep.length = cells.length := (C17_departed_cells g thr leaving suit cells ts hnd).1
  obtain ⟨a1, a2⟩ := C17_arrivals_aggregate g pend dep hpend
  rw [hres]
  refine ⟨hpend, a1.trans hlen, fun k hk hs => ?_⟩
  obtain ⟨hds, f1, f2, f3, f4, f5, f6⟩ := agg_departed_cell g thr leaving suit cells ts hnd h0 k
  obtain ⟨b0, b1, b2, b3, b4, b5, b6, b7, b8, b9⟩ := a2 k (by rw [hlen]; exact hk) (Int.le_trans hs hds)
  exact ⟨hds, b0, b1, b2, b3, b4.trans f1, b5.trans f2, b6.trans f3, b7.trans f4, b8.trans f5, b9.trans f6⟩

/-! #### a non-trivial instance: 2x3 raster, all six cells suitable, threshold and leaving share 1/2;
    cells 0, 2, 4, 5 depart (4, 3, 3, 2 pests); cells 0 and 2 both send to cell (0,1) (3 susceptible:
    of the 7 arriving 3 establish, 4 die), cell 4 sends to cell (0,0) - itself a source, which has
    1 + 4 = 5 susceptible hosts after its own departure: all 3 establish -, cell 5 sends outside;
    one kernel result is left over -/

def c17aSuit : List (Int × Int) := [(0, 0), (0, 1), (0, 2), (1, 0), (1, 1), (1, 2)]
def c17aLand : List Cell :=
  [⟨1, [], 7, 0, 0, [7], 0, 8⟩, ⟨3, [], 1, 0, 0, [1], 0, 4⟩, ⟨0, [], 6, 0, 0, [6], 0, 6⟩,
   ⟨9, [], 2, 0, 0, [2], 0, 11⟩, ⟨1, [], 5, 0, 0, [5], 0, 6⟩, ⟨2, [], 4, 0, 0, [4], 0, 6⟩]
def c17aPest : PestState := ⟨[0, 0, 0, 0, 0, 0], [0, 0, 0, 0, 0, 0], []⟩
def c17aTargets : List (Int × Int) := [(0, 1), (0, 1), (0, 0), (2, 0), (1, 1)]

example :
    (c17aSuit.map fun rc => c17aGrid.idx rc.1 rc.2).Nodup ∧
    overPending c17aGrid (1/2) c17aLand (overPairs c17aGrid (1/2) c17aSuit c17aLand c17aTargets) =
      [(0, 1, 4), (0, 1, 3), (0, 0, 3)] ∧
    overDeparted c17aGrid (1/2) c17aLand (overPairs c17aGrid (1/2) c17aSuit c17aLand c17aTargets) =
      [⟨5, [], 3, 0, 0, [7], 0, 8⟩, ⟨3, [], 1, 0, 0, [1], 0, 4⟩, ⟨3, [], 3, 0, 0, [6], 0, 6⟩,
       ⟨9, [], 2, 0, 0, [2], 0, 11⟩, ⟨4, [], 2, 0, 0, [5], 0, 6⟩, ⟨4, [], 2, 0, 0, [4], 0, 6⟩] ∧
    (((overpopulationStep c17aGrid c17aSuit c17aLand c17aPest (1/2) (1/2) c17aTargets).1)[1]!).i = 1 + min (4 + 3) 3 ∧
    (((overpopulationStep c17aGrid c17aSuit c17aLand c17aPest (1/2) (1/2) c17aTargets).1)[0]!).i = 3 + min 3 5 ∧
    (((overpopulationStep c17aGrid c17aSuit c17aLand c17aPest (1/2) (1/2) c17aTargets).1)[3]!).i = 2 + min 0 9 ∧
    overpopulationStep c17aGrid c17aSuit c17aLand c17aPest (1/2) (1/2) c17aTargets =
      ([⟨2, [], 6, 0, 0, [7], 0, 8⟩, ⟨0, [], 4, 0, 0, [1], 0, 4⟩, ⟨3, [], 3, 0, 0, [6], 0, 6⟩,
        ⟨9, [], 2, 0, 0, [2], 0, 11⟩, ⟨4, [], 2, 0, 0, [5], 0, 6⟩, ⟨4, [], 2, 0, 0, [4], 0, 6⟩],
       ⟨[0, 0, 0, 0, 0, 0], [0, 0, 0, 0, 0, 0], [(2, 0), (2, 0)]⟩, [(1, 1)]) := by
  have hnd : (c17aSuit.map fun rc => c17aGrid.idx rc.1 rc.2).Nodup := by decide +kernel
  have hp : overPending c17aGrid (1/2) c17aLand (overPairs c17aGrid (1/2) c17aSuit c17aLand c17aTargets) =
      [(0, 1, 4), (0, 1, 3), (0, 0, 3)] := by decide +kernel
  have hd : overDeparted c17aGrid (1/2) c17aLand (overPairs c17aGrid (1/2) c17aSuit c17aLand c17aTargets) =
      [⟨5, [], 3, 0, 0, [7], 0, 8⟩, ⟨3, [], 1, 0, 0, [1], 0, 4⟩, ⟨3, [], 3, 0, 0, [6], 0, 6⟩,
       ⟨9, [], 2, 0, 0, [2], 0, 11⟩, ⟨4, [], 2, 0, 0, [5], 0, 6⟩, ⟨4, [], 2, 0, 0, [4], 0, 6⟩] := by decide +kernel
  have h := (C17_overpopulation_aggregate c17aGrid (1/2) (1/2) c17aSuit c17aLand c17aPest c17aTargets hnd
    (by decide +kernel)).2.2
  rw [hp, hd] at h
  have h1 := (h 1 (by decide +kernel) (by decide +kernel)).2.2.2.1
  have h0 := (h 0 (by decide +kernel) (by decide +kernel)).2.2.2.1
  have h3 := (h 3 (by decide +kernel) (by decide +kernel)).2.2.2.1
  refine ⟨hnd, hp, hd, h1.trans (by decide +kernel), h0.trans (by decide +kernel), h3.trans (by decide +kernel), ?_⟩
  rw [C17_overpopulation_general c17aGrid (1/2) (1/2) c17aSuit c17aLand c17aPest c17aTargets hnd]
  decide +kernel

/-- Why the total matters: a second phase that keeps only the FIRST move per destination
    (`arriveFirstOnly`, what collecting the moves with `std::map::emplace` keyed by the destination
    would do) is not `arriveAll`. Two groups of 3 and 4 aimed at the cell (0,1) with 10 susceptible
    hosts, one group of 2 aimed at (0,2): `arriveAll` establishes 3 + 4 = 7 at (0,1), the other
    variant only 3 - the second group silently disappears although there is room for it. -/
theorem C17_dropping_second_group_differs :
    let g : Grid := ⟨1, 3⟩
    let cells : List Cell := [⟨0, [], 8, 0, 0, [8], 0, 8⟩, ⟨10, [], 1, 0, 0, [1], 0, 11⟩, ⟨5, [], 0, 0, 0, [0], 0, 5⟩]
    let ms : List (Int × Int × Int) := [(0, 1, 3), (0, 2, 2), (0, 1, 4)]
    (∀ m ∈ ms, g.isOutside m.1 m.2.1 = false ∧ 0 ≤ m.2.2) ∧
    firstPerDestination ms [] = [(0, 1, 3), (0, 2, 2)] ∧
    arriveAll g ms cells = [⟨0, [], 8, 0, 0, [8], 0, 8⟩, ⟨3, [], 8, 0, 0, [1], 0, 11⟩, ⟨3, [], 2, 0, 0, [0], 0, 5⟩] ∧
    arriveFirstOnly g ms cells = [⟨0, [], 8, 0, 0, [8], 0, 8⟩, ⟨7, [], 4, 0, 0, [1], 0, 11⟩, ⟨3, [], 2, 0, 0, [0], 0, 5⟩] ∧
    arriveFirstOnly g ms cells ≠ arriveAll g ms cells := by
  decide +kernel

/-- The instance of `C17_dropping_second_group_differs` against `C17_arrivals_aggregate`: the
    aggregate theorem gives 1 + min (3 + 4) 10 = 8 infected at (0,1); the first-only variant has 4. -/
example :
    let g : Grid := ⟨1, 3⟩
    let cells : List Cell := [⟨0, [], 8, 0, 0, [8], 0, 8⟩, ⟨10, [], 1, 0, 0, [1], 0, 11⟩, ⟨5, [], 0, 0, 0, [0], 0, 5⟩]
    let ms : List (Int × Int × Int) := [(0, 1, 3), (0, 2, 2), (0, 1, 4)]
    ((arriveAll g ms cells)[1]!).i = 1 + min (3 + 4) 10 ∧ ((arriveFirstOnly g ms cells)[1]!).i = 1 + 3 := by
  intro g cells ms
  have h := ((C17_arrivals_aggregate g ms cells (by decide +kernel)).2 1 (by decide +kernel) (by decide +kernel)).2.2.1
  have e : arrivingAt g ms 1 = 3 + 4 := by decide +kernel
  rw [e] at h
  exact ⟨h, by decide +kernel⟩

end Pops

#print axioms Pops.C17_arrivals_same_cell
#print axioms Pops.C17_arrivals_same_cell_negative_counterexample
#print axioms Pops.C17_arrivals_aggregate
#print axioms Pops.C17_arrivals_aggregate_rc
#print axioms Pops.C17_arrivals_order_irrelevant
#print axioms Pops.C17_overpopulation_aggregate
#print axioms Pops.C17_dropping_second_group_differs
