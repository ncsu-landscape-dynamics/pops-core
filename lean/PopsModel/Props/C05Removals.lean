/-
  C05 with removals acting on exposed cohorts in between: the number of hosts that become
  infectious is never more, and never earlier, than without removals.
-/
import PopsModel.Props.C05
namespace Pops

/-- What can happen to a cell between latency steps, as far as exposure is concerned: a spread
    step (exposure of `x` hosts, then the latency step), or a removal that takes `d_k` hosts out of
    exposed cohort `k` (survival rate, treatments, host movement out of the cell). -/
inductive LatOp where
  | spread (x : Int)
  | remove (d : List Int)
deriving Repr

/-- Removal from the exposed cohorts; the removed hosts leave the exposed class (where they go
    does not matter here). -/
def Cell.removeFromExposed (c : Cell) (d : List Int) : Cell :=
  { c with e := subL c.e d, te := c.te - sumL d }

/-- Run a history; the step number advances with every spread step. -/
def latencyHistory (latency : Nat) : Nat → List LatOp → Cell → Cell
  | _, [], c => c
  | step, .spread x :: rest, c =>
      latencyHistory latency (step + 1) rest ((c.exposeN x).stepForward .sei latency step)
  | step, .remove d :: rest, c => latencyHistory latency step rest (c.removeFromExposed d)

/-- The exposures of the spread steps of a history, in order. -/
def exposures : List LatOp → List Int
  | [] => []
  | .spread x :: rest => x :: exposures rest
  | .remove _ :: rest => exposures rest

/-- Every removal takes from each cohort at most what it holds at that moment (and nothing
    negative), and exposures are non-negative. -/
def ValidHistory (latency : Nat) : Nat → List LatOp → Cell → Prop
  | _, [], _ => True
  | step, .spread x :: rest, c =>
      0 ≤ x ∧ ValidHistory latency (step + 1) rest ((c.exposeN x).stepForward .sei latency step)
  | step, .remove d :: rest, c =>
      d.length = c.e.length ∧ (∀ k : Nat, k < d.length → 0 ≤ d[k]! ∧ d[k]! ≤ c.e[k]!) ∧
      ValidHistory latency step rest (c.removeFromExposed d)

/-- `latencyRun_prefix` with removals: a removal only lowers `i` plus the first `k` cohorts. -/
theorem latencyHistory_prefix_le (latency : Nat) (ops : List LatOp) : ∀ (s : Nat) (c : Cell),
    c.e.length = latency + 1 → latency ≤ s → (∀ x ∈ c.e, 0 ≤ x) → ValidHistory latency s ops c →
    (∀ k, (latencyHistory latency s ops c).i + sumL ((latencyHistory latency s ops c).e.take k) ≤
      c.i + sumL (c.e.take (k + (exposures ops).length)) +
        sumL ((exposures ops).take (k + (exposures ops).length - latency))) ∧
    c.i ≤ (latencyHistory latency s ops c).i := by
  induction ops with
  | nil =>
    intro s c _ _ _ _
    exact ⟨fun k => by rw [exposures, List.take_nil, sumL_nil, Int.add_zero]; exact Int.le_refl _,
      Int.le_refl _⟩
  | cons op rest ih =>
    intro s c hlen hs hn hv
    cases op with
    | spread x =>
      -- the spread step `(c.exposeN x).stepForward .sei latency s` is `mech_latStep latency s c x`
      obtain ⟨hx, hvr⟩ := hv
      obtain ⟨f1, f2, f3⟩ := mech_latStep_prefix latency s c x hlen hs
      obtain ⟨g1, g2⟩ := f3 hx hn
      obtain ⟨r1, r2⟩ := ih (s + 1) (mech_latStep latency s c x) f2 (Nat.le_succ_of_le hs) g2 hvr
      refine ⟨fun k => ?_, Int.le_trans g1 r2⟩
      have := r1 k
      rw [f1 (k + (exposures rest).length)] at this
      rw [show exposures (.spread x :: rest) = x :: exposures rest from rfl, List.length_cons,
        ← Nat.add_assoc, sumL_take_succ_sub_cons, ← Int.add_assoc]
      exact this
    | remove d =>
      obtain ⟨hdl, hdk, hvr⟩ := hv
      have hdom := dom_of_pointwise hdl hdk
      obtain ⟨r1, r2⟩ := ih s (c.removeFromExposed d) (by rw [← hlen]; exact length_subL hdl)
        hs hdom.allNN_sub hvr
      refine ⟨fun k => Int.le_trans (r1 k) ?_, r2⟩
      exact Int.add_le_add_right (Int.add_le_add_left
        (hdom.subL_take_le (k + (exposures rest).length)) _) _

/-- Never more, never earlier: with any valid removals interleaved, after a history containing n
    spread steps the infected count is at most what the exact-latency formula gives for the same
    exposures without removals: initial infected + the first min(n, L+1) initial cohorts + the
    exposures of the first n - L spread steps. -/
theorem C05_latency_with_removals (latency step0 : Nat) (ops : List LatOp) (c : Cell)
    (hlen : c.e.length = latency + 1) (hstep : latency ≤ step0)
    (hn : ∀ x ∈ c.e, 0 ≤ x) (hv : ValidHistory latency step0 ops c) :
    (latencyHistory latency step0 ops c).i ≤
      c.i + sumL (c.e.take (exposures ops).length) +
        sumL ((exposures ops).take ((exposures ops).length - latency)) ∧
    c.i ≤ (latencyHistory latency step0 ops c).i := by
  obtain ⟨h, h'⟩ := latencyHistory_prefix_le latency ops step0 c hlen hstep hn hv
  have h0 := h 0
  rw [List.take_zero, sumL_nil, Int.add_zero, Nat.zero_add] at h0
  exact ⟨h0, h'⟩

end Pops
