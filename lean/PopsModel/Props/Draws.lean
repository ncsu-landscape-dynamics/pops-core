/-
  The draw contracts as CONCLUSIONS.

  `ValidDraw`, `ValidSplit` and `validClassDrawB` are hypotheses of `C16_split_bounded(_to)`,
  `C17_movement_amount`, `C12_lethal`, ... . Here they are proved of the model of the pops helpers
  `draw_n_from_v` / `draw_n_from_cohorts` (utils.hpp) and of the label vectors their callers build
  (Model/Draw.lean), for EVERY permutation `std::shuffle` may leave: the only assumption about the
  generator is `perm.Perm labels` ("shuffle permutes"). The four property theorems are then
  restated with "the draw is `drawNFrom... perm` for some permutation" in place of the contract,
  so that "without exceeding any host's availability" (C16), "drawn without replacement" (C17)
  and "draws clamp to the population" (C02 / utils.hpp) are conclusions.

  Domain. Contents are non-negative (hypotheses `hnn`, `nonNeg`): on a negative content the C++
  calls `vector::insert(pos, (size_type) negative, label)` - a count above `max_size()`, libstdc++
  throws `std::length_error` - while the model's `Int.toNat` inserts nothing. Requests are C++
  `int`s: the bound `< 4294967296` is all that is used of that; a NEGATIVE request is converted to
  `unsigned` by the parameter type of `draw_n_from_v` and therefore takes everything
  (`Draw_negative_request_takes_all`).
-/
import PopsModel.Model.Draw
import PopsModel.Lemmas.Draw
import PopsModel.Props.C12
import PopsModel.Props.C16
import PopsModel.Props.C17
namespace Pops

/-- `draw_n_from_v`: the result is the first min((unsigned) n, size) elements of the shuffled
    vector; no label is drawn more often than it occurs (without replacement); only labels of the
    vector are drawn. -/
theorem Draw_from_v (v : List Nat) (n : Int) (perm : List Nat) (hp : perm.Perm v) :
    ((drawNFromV v n perm).length : Int) = min (toUnsigned n) (v.length : Int) ∧
    (∀ x, (drawNFromV v n perm).count x ≤ v.count x) ∧
    (∀ x ∈ drawNFromV v n perm, x ∈ v) :=
  ⟨draw_drawNFromV_length v n perm hp, draw_drawNFromV_count_le v n perm hp,
   draw_drawNFromV_mem v n perm hp⟩

/-- `draw_n_from_cohorts`, any request: one count per cohort, each between 0 and the cohort's
    content, summing to min((unsigned) n, total) - i.e. `ValidDraw cohorts ((unsigned) n) _`. -/
theorem Draw_cohorts_contract_unsigned (cohorts : List Int) (n : Int) (perm : List Nat)
    (hnn : ∀ x ∈ cohorts, 0 ≤ x) (hp : perm.Perm (cohortLabels cohorts)) :
    ValidDraw cohorts (toUnsigned n) (drawNFromCohorts cohorts n perm) :=
  draw_counts_facts 0 cohorts n perm hnn hp

/-- `draw_n_from_cohorts`, non-negative request: `ValidDraw cohorts n _`, spelled out: the counts
    sum to min(n, total). -/
theorem Draw_cohorts_contract (cohorts : List Int) (n : Int) (perm : List Nat)
    (hnn : ∀ x ∈ cohorts, 0 ≤ x) (hp : perm.Perm (cohortLabels cohorts))
    (h0 : 0 ≤ n) (h1 : n < 4294967296) :
    ValidDraw cohorts n (drawNFromCohorts cohorts n perm) ∧
    (drawNFromCohorts cohorts n perm).length = cohorts.length ∧
    (∀ k : Nat, k < cohorts.length →
      0 ≤ (drawNFromCohorts cohorts n perm)[k]! ∧ (drawNFromCohorts cohorts n perm)[k]! ≤ cohorts[k]!) ∧
    sumL (drawNFromCohorts cohorts n perm) = min n (sumL cohorts) := by
  have h := Draw_cohorts_contract_unsigned cohorts n perm hnn hp
  rw [draw_toUnsigned_of_range n h0 h1] at h
  exact ⟨h, h.1, fun k hk => h.2.1 k (by rw [h.1]; exact hk), h.2.2⟩

/-- A negative request (an `int`, so at least -2^31) is converted to `unsigned`: with a total
    that fits an `int` EVERYTHING is drawn, the counts sum to the total. -/
theorem Draw_negative_request_takes_all (cohorts : List Int) (n : Int) (perm : List Nat)
    (hnn : ∀ x ∈ cohorts, 0 ≤ x) (hp : perm.Perm (cohortLabels cohorts))
    (h0 : n < 0) (h1 : -2147483648 ≤ n) (ht : sumL cohorts ≤ 2147483647) :
    drawNFromCohorts cohorts n perm = cohorts ∧
    sumL (drawNFromCohorts cohorts n perm) = sumL cohorts := by
  have hv := Draw_cohorts_contract_unsigned cohorts n perm hnn hp
  -- (unsigned) n ≥ 2^31 exceeds the total, so the counts sum to the total
  have : drawNFromCohorts cohorts n perm = cohorts :=
    hv.dom.eq_of_sum_eq (by rw [hv.sum]; unfold toUnsigned; omega)
  exact ⟨this, by rw [this]⟩

/-- The multi-host split of `pests_from` / `pests_to`: `ValidSplit`, for every permutation. -/
theorem Draw_split_contract (avail : List Int) (count : Int) (perm : List Nat)
    (hnn : ∀ x ∈ avail, 0 ≤ x) (hp : perm.Perm (cohortLabels avail)) :
    ValidSplit avail count (splitOf avail count perm) :=
  draw_counts_facts 0 avail count perm hnn hp

/-- The class draw of `move_hosts_from_to`, any request: each class count within its class, the
    sum min((unsigned) total_hosts_moved, i + s + total_exposed + r). -/
theorem Draw_class_contract_unsigned (src : Cell) (count : Int) (perm : List Nat)
    (hi : 0 ≤ src.i) (hs : 0 ≤ src.s) (he : 0 ≤ src.te) (hr : 0 ≤ src.r)
    (hp : perm.Perm (classCategories src)) :
    let d := classDrawOf src count perm
    (0 ≤ d.i ∧ d.i ≤ src.i) ∧ (0 ≤ d.s ∧ d.s ≤ src.s) ∧ (0 ≤ d.e ∧ d.e ≤ src.te) ∧
    (0 ≤ d.r ∧ d.r ≤ src.r) ∧
    d.i + d.s + d.e + d.r = min (toUnsigned (hostsMoved src count)) (src.i + src.s + src.te + src.r) := by
  intro d
  have hnn : ∀ x ∈ [src.i, src.s, src.te, src.r], 0 ≤ x :=
    List.forall_mem_cons.mpr ⟨hi, List.forall_mem_cons.mpr ⟨hs, List.forall_mem_cons.mpr ⟨he,
      List.forall_mem_cons.mpr ⟨hr, nofun⟩⟩⟩⟩
  -- the category vector is the label vector of the four class counts, labels starting at 1
  rw [draw_classCategories_eq] at hp
  obtain ⟨_, hpt, hsum⟩ := draw_counts_facts 1 _ (hostsMoved src count) perm hnn hp
  rw [draw_classDrawOf_eq] at hpt hsum
  refine ⟨hpt 0 (by decide : 0 < 4), hpt 1 (by decide : 1 < 4), hpt 2 (by decide : 2 < 4),
    hpt 3 (by decide : 3 < 4), ?_⟩
  simp only [sumL_cons, sumL_nil, Int.add_zero, ← Int.add_assoc] at hsum
  exact hsum

/-- The class draw of `move_hosts_from_to` satisfies `validClassDrawB` whenever the number of
    hosts to move (min(count, total_hosts)) is a non-negative `int`. -/
theorem Draw_class_contract (src : Cell) (count : Int) (perm : List Nat)
    (hi : 0 ≤ src.i) (hs : 0 ≤ src.s) (he : 0 ≤ src.te) (hr : 0 ≤ src.r)
    (hp : perm.Perm (classCategories src))
    (h0 : 0 ≤ hostsMoved src count) (h1 : hostsMoved src count < 4294967296) :
    validClassDrawB src count (classDrawOf src count perm) = true := by
  obtain ⟨a, b, c, d, e⟩ := Draw_class_contract_unsigned src count perm hi hs he hr hp
  rw [draw_toUnsigned_of_range _ h0 h1] at e
  simp only [validClassDrawB, Bool.and_eq_true, decide_eq_true_eq]
  exact ⟨⟨⟨⟨⟨⟨⟨⟨a.1, a.2⟩, b.1⟩, b.2⟩, c.1⟩, c.2⟩, d.1⟩, d.2⟩, e⟩

/-- Cohorts `[3, 0, 4]` (labels `0 0 0 2 2 2 2`), 5 requested, the shuffle leaves
    `2 0 2 2 0 2 0`: the first five labels are `2 0 2 2 0`, the counts `[2, 0, 3]`. -/
example :
    cohortLabels [3, 0, 4] = [0, 0, 0, 2, 2, 2, 2] ∧
    [2, 0, 2, 2, 0, 2, 0].Perm (cohortLabels [3, 0, 4]) ∧
    drawNFromV (cohortLabels [3, 0, 4]) 5 [2, 0, 2, 2, 0, 2, 0] = [2, 0, 2, 2, 0] ∧
    drawNFromCohorts [3, 0, 4] 5 [2, 0, 2, 2, 0, 2, 0] = [2, 0, 3] ∧
    ValidDraw [3, 0, 4] 5 [2, 0, 3] := by
  have hp : [2, 0, 2, 2, 0, 2, 0].Perm (cohortLabels [3, 0, 4]) := by decide +kernel
  refine ⟨by decide +kernel, hp, by decide +kernel, by decide +kernel, ?_⟩
  have := (Draw_cohorts_contract [3, 0, 4] 5 [2, 0, 2, 2, 0, 2, 0] (by decide +kernel) hp (by decide +kernel) (by decide +kernel)).1
  have e : drawNFromCohorts [3, 0, 4] 5 [2, 0, 2, 2, 0, 2, 0] = [2, 0, 3] := by decide +kernel
  rwa [e] at this

/-- The same cohorts, 9 requested (more than the 7 present): clamped, everything is drawn; and a
    request of -1: `(unsigned) -1 = 4294967295`, everything is drawn as well. -/
example :
    drawNFromCohorts [3, 0, 4] 9 [2, 0, 2, 2, 0, 2, 0] = [3, 0, 4] ∧
    toUnsigned (-1) = 4294967295 ∧
    drawNFromCohorts [3, 0, 4] (-1) [2, 0, 2, 2, 0, 2, 0] = [3, 0, 4] := by
  have hp : [2, 0, 2, 2, 0, 2, 0].Perm (cohortLabels [3, 0, 4]) := by decide +kernel
  exact ⟨by decide +kernel, by decide +kernel,
    (Draw_negative_request_takes_all [3, 0, 4] (-1) _ (by decide +kernel) hp (by decide +kernel) (by decide +kernel) (by decide +kernel)).1⟩

/-- `C16_split_bounded` with the contract replaced by the draw: hosts with non-negative infected
    counts, ANY permutation of the host-label vector. The per-host amounts never exceed a host's
    infected (fourth conjunct): here a conclusion, not a hypothesis. -/
theorem C16_split_bounded_drawn (cells : List Cell) (count : Int) (perm : List Nat)
    (hc : count < 4294967296) (hnn : ∀ c ∈ cells, 0 ≤ c.i)
    (hp : perm.Perm (cohortLabels (cells.map (·.i)))) :
    let d := splitOf (cells.map (·.i)) count perm
    ValidSplit (cells.map (·.i)) count d ∧
    (multiPestsFrom cells d).2 = sumL d ∧
    (multiPestsFrom cells d).2 = min (toUnsigned count) (sumL (cells.map (·.i))) ∧
    (0 ≤ count → (multiPestsFrom cells d).2 ≤ count ∧ (multiPestsFrom cells d).2 = min count (sumL (cells.map (·.i)))) ∧
    ListRel (fun c k => 0 ≤ k ∧ k ≤ c.i) cells d ∧
    pestsFromStateSpec cells (multiPestsFrom cells d).1 d = true ∧
    splitSpec (cells.map (·.i)) count d (multiPestsFrom cells d).2 = true := by
  intro d
  have hv : ValidSplit (cells.map (·.i)) count d :=
    Draw_split_contract _ _ _ (List.forall_mem_map.mpr hnn) hp
  exact ⟨hv, C16_split_bounded cells count d hc hv⟩

/-- `C16_split_bounded_to` with the contract replaced by the draw (susceptible hosts). -/
theorem C16_split_bounded_to_drawn (cells : List Cell) (count : Int) (perm : List Nat)
    (hc : count < 4294967296) (hnn : ∀ c ∈ cells, 0 ≤ c.s)
    (hp : perm.Perm (cohortLabels (cells.map (·.s)))) :
    let d := splitOf (cells.map (·.s)) count perm
    ValidSplit (cells.map (·.s)) count d ∧
    (multiPestsTo cells d).2 = sumL d ∧
    (multiPestsTo cells d).2 = min (toUnsigned count) (sumL (cells.map (·.s))) ∧
    (0 ≤ count → (multiPestsTo cells d).2 ≤ count ∧ (multiPestsTo cells d).2 = min count (sumL (cells.map (·.s)))) ∧
    ListRel (fun c k => 0 ≤ k ∧ k ≤ c.s) cells d ∧
    pestsToStateSpec cells (multiPestsTo cells d).1 d = true ∧
    splitSpec (cells.map (·.s)) count d (multiPestsTo cells d).2 = true := by
  intro d
  have hv : ValidSplit (cells.map (·.s)) count d :=
    Draw_split_contract _ _ _ (List.forall_mem_map.mpr hnn) hp
  exact ⟨hv, C16_split_bounded_to cells count d hc hv⟩

/-- Two hosts with 2 and 3 infected (and 3 and 2 susceptible), 4 requested. Host labels
    `0 0 1 1 1` shuffled to `1 0 1 1 0`: the first four give the split `[1, 3]`. -/
example :
    let cA : Cell := ⟨3, [], 2, 0, 0, [2], 0, 5⟩
    let cB : Cell := ⟨2, [], 3, 0, 0, [3], 0, 5⟩
    [1, 0, 1, 1, 0].Perm (cohortLabels ([cA, cB].map (·.i))) ∧
    splitOf ([cA, cB].map (·.i)) 4 [1, 0, 1, 1, 0] = [1, 3] ∧
    (multiPestsFrom [cA, cB] (splitOf ([cA, cB].map (·.i)) 4 [1, 0, 1, 1, 0])).2 = 4 ∧
    [0, 1, 0, 1, 0].Perm (cohortLabels ([cA, cB].map (·.s))) ∧
    splitOf ([cA, cB].map (·.s)) 4 [0, 1, 0, 1, 0] = [2, 2] := by
  intro cA cB
  have hp : [1, 0, 1, 1, 0].Perm (cohortLabels ([cA, cB].map (·.i))) := by decide +kernel
  have hq : [0, 1, 0, 1, 0].Perm (cohortLabels ([cA, cB].map (·.s))) := by decide +kernel
  have h := C16_split_bounded_drawn [cA, cB] 4 [1, 0, 1, 1, 0] (by decide +kernel) (by decide +kernel) hp
  have _ := C16_split_bounded_to_drawn [cA, cB] 4 [0, 1, 0, 1, 0] (by decide +kernel) (by decide +kernel) hq
  refine ⟨hp, by decide +kernel, ?_, hq, by decide +kernel⟩
  rw [h.2.2.1]; decide +kernel

/-- `C17_movement_amount` with the three contracts replaced by the draws: a non-negative,
    consistent source cell, a non-negative request, ANY permutations (the cohort shuffles happen
    only when exposed / infected hosts move). The class draw is valid and the cohort draws are
    `ValidDraw`s - "without replacement" is a conclusion - and the amounts follow. -/
theorem C17_movement_amount_drawn (src dst : Cell) (count : Int) (permC permE permM : List Nat)
    (hn : src.nonNeg = true) (ht : src.totalsOK = true)
    (h0 : 0 ≤ count) (hc : count < 4294967296)
    (hpC : permC.Perm (classCategories src))
    (hpE : (classDrawOf src count permC).e > 0 → permE.Perm (cohortLabels src.e))
    (hpM : (classDrawOf src count permC).i > 0 → permM.Perm (cohortLabels src.mort))
    (hlenE : dst.e.length = src.e.length) (hlenM : dst.mort.length = src.mort.length) :
    let d := classDrawOf src count permC
    let r := moveHostsDrawn src dst count permC permE permM
    validClassDrawB src count d = true ∧
    (d.e > 0 → ValidDraw src.e d.e (drawNFromCohorts src.e d.e permE)) ∧
    (d.i > 0 → ValidDraw src.mort d.i (drawNFromCohorts src.mort d.i permM)) ∧
    r.2.2 = min count src.hosts ∧ src.hosts - r.1.hosts = min count src.hosts ∧
    r.2.1.hosts - dst.hosts = min count src.hosts ∧
    addL r.1.e r.2.1.e = addL src.e dst.e ∧ addL r.1.mort r.2.1.mort = addL src.mort dst.mort := by
  intro d r
  obtain ⟨hs, hen, hi, hr, hte, hmn, _, hth⟩ := (nonNeg_iff src).mp hn
  have hm := hostsMoved_bounds src count
  have hd : validClassDrawB src count d = true :=
    Draw_class_contract src count permC hi hs hte hr hpC (hm.2.2 h0 hth) (Int.lt_of_le_of_lt hm.1 hc)
  -- the cohort requests are `int`s because no class count exceeds `count`
  obtain ⟨hdi, hde⟩ := act_classDraw_le_count (classDraw_of_bool hd)
  have hE : d.e > 0 → ValidDraw src.e d.e (drawNFromCohorts src.e d.e permE) := fun h =>
    (Draw_cohorts_contract src.e d.e permE hen (hpE h) (Int.le_of_lt h) (Int.lt_of_le_of_lt hde hc)).1
  have hM : d.i > 0 → ValidDraw src.mort d.i (drawNFromCohorts src.mort d.i permM) := fun h =>
    (Draw_cohorts_contract src.mort d.i permM hmn (hpM h) (Int.le_of_lt h) (Int.lt_of_le_of_lt hdi hc)).1
  exact ⟨hd, hE, hM, C17_movement_amount src dst count d _ _ hn ht hd hE hM hlenE hlenM⟩

/-- A source cell with 3 susceptible, exposed cohorts `[1, 2]`, 2 infected in cohorts `[1, 1]`,
    1 resistant; 4 hosts requested. Categories `1 1 2 2 2 3 3 3 4` shuffled to
    `3 1 2 3 4 1 2 2 3`: the class draw is 1 infected, 1 susceptible, 2 exposed; the exposed draw
    (labels `0 1 1` shuffled to `1 0 1`) is `[1, 1]`, the mortality draw (`0 1` to `1 0`) `[0, 1]`. -/
example :
    let src : Cell := ⟨3, [1, 2], 2, 1, 3, [1, 1], 0, 9⟩
    let dst : Cell := ⟨1, [0, 0], 0, 0, 0, [0, 0], 0, 1⟩
    classDrawOf src 4 [3, 1, 2, 3, 4, 1, 2, 2, 3] = ⟨1, 1, 2, 0⟩ ∧
    drawNFromCohorts src.e 2 [1, 0, 1] = [1, 1] ∧ drawNFromCohorts src.mort 1 [1, 0] = [0, 1] ∧
    (moveHostsDrawn src dst 4 [3, 1, 2, 3, 4, 1, 2, 2, 3] [1, 0, 1] [1, 0]).2.2 = 4 ∧
    (moveHostsDrawn src dst 4 [3, 1, 2, 3, 4, 1, 2, 2, 3] [1, 0, 1] [1, 0]).1 =
      ⟨2, [0, 1], 1, 1, 1, [1, 0], 0, 5⟩ := by
  intro src dst
  have h := C17_movement_amount_drawn src dst 4 [3, 1, 2, 3, 4, 1, 2, 2, 3] [1, 0, 1] [1, 0]
    (by decide +kernel) (by decide +kernel) (by decide +kernel) (by decide +kernel) (by decide +kernel) (fun _ => by decide +kernel)
    (fun _ => by decide +kernel) rfl rfl
  have hh : src.hosts = 9 := by decide +kernel
  refine ⟨by decide +kernel, by decide +kernel, by decide +kernel, ?_, by decide +kernel⟩
  rw [h.2.2.2.1, hh]; decide +kernel

/-- `C12_lethal` with the contract replaced by the draw: `remove_all_infected_at` requests all
    `i` infected, so for ANY permutation the draw is a `ValidDraw` - in fact it is the whole of
    every cohort - and the conclusion of `C12_lethal` follows. (`i < 2^32`: `i` is an `int`.) -/
theorem C12_lethal_drawn (c : Cell) (perm : List Nat) (hn : c.nonNeg = true)
    (hm : c.mortOK = true) (hi : c.i < 4294967296) (hp : perm.Perm (cohortLabels c.mort)) :
    let d := drawNFromCohorts c.mort c.i perm
    ValidDraw c.mort c.i d ∧ d = c.mort ∧
    lethalSpec true c (c.removeAllInfected d) = true ∧ (c.removeAllInfected d).mortOK = true ∧
    (∀ x ∈ (c.removeAllInfected d).mort, x = 0) := by
  intro d
  obtain ⟨_, _, hi0, _, _, hmn, _, _⟩ := (nonNeg_iff c).mp hn
  have hd : ValidDraw c.mort c.i d := (Draw_cohorts_contract c.mort c.i perm hmn hp hi0 hi).1
  have hm' := (mortOK_iff c).mp hm
  have heq : d = c.mort := hd.dom.eq_of_sum_eq (by rw [hd.sum]; omega)
  exact ⟨hd, heq, C12_lethal c d hn hm hd⟩

/-- Mortality cohorts `[3, 0, 4]`, `i = 7`, any shuffle (here `2 0 2 2 0 2 0`): the lethal draw
    is `[3, 0, 4]`, the cohorts are emptied, the 7 infected return to susceptible. -/
example :
    let c : Cell := ⟨5, [], 7, 0, 0, [3, 0, 4], 0, 12⟩
    drawNFromCohorts c.mort c.i [2, 0, 2, 2, 0, 2, 0] = [3, 0, 4] ∧
    c.removeAllInfected (drawNFromCohorts c.mort c.i [2, 0, 2, 2, 0, 2, 0]) =
      ⟨12, [], 0, 0, 0, [0, 0, 0], 0, 12⟩ := by
  intro c
  have h := C12_lethal_drawn c [2, 0, 2, 2, 0, 2, 0] (by decide +kernel) (by decide +kernel) (by decide +kernel) (by decide +kernel)
  refine ⟨h.2.1, ?_⟩
  rw [h.2.1]; decide +kernel

end Pops
