/-
  C05  Exposed hosts become infectious exactly after the latency period.
-/
import PopsModel.Model.HostOps
import PopsModel.Lemmas.HostMech
namespace Pops

/-- One latency step on a cell: the front cohort joins the infected and the youngest mortality
    cohort iff step >= L, and every cohort ages by exactly one position. In the C++ the exposed
    list has the configured length L + 1; the statement holds for every non-empty list.
    `he : c.e ≠ []` is not used by the proof but is kept on purpose: on an empty exposed vector
    `step_forward` calls `exposed_.front()` and rotates an empty range (undefined behaviour), while
    the model leaves the cell unchanged. -/
theorem C05_shift (latency step : Nat) (c : Cell) (he : c.e ≠ []) :
    stepForwardSpec latency step c (c.stepForward .sei latency step) = true := by
  have _ := he  -- domain of the C++ (see the doc comment), not needed by the model
  unfold stepForwardSpec Cell.stepForward
  cases hce : c.e with
  | nil =>
    have : { c with e := rotateLeft c.e } = c := by
      cases c; simp only at hce; subst hce; rfl
    rw [hce] at this
    simp only [ite_self, hce, this, beq_self_eq_true]
  | cons o rest =>
    by_cases hs : step ≥ latency
    · simp only [hs, if_true, rotateLeft, beq_self_eq_true]
    · simp only [hs, if_false, hce, rotateLeft, beq_self_eq_true]

/-- No latency transition happens before step L of the run; SI cells are never touched. -/
theorem C05_no_early_transition (latency step : Nat) (c : Cell) (h : step < latency) :
    (c.stepForward .sei latency step).i = c.i ∧ (c.stepForward .sei latency step).mort = c.mort ∧
    c.stepForward .si latency step = c := by
  have : ¬ step ≥ latency := by omega
  unfold Cell.stepForward
  simp only [this, if_false, and_self]

/-- Exposure of `x` hosts during a spread step (what `x` establishing dispersers do in SEI). -/
def Cell.exposeN (c : Cell) (x : Int) : Cell :=
  { c with s := c.s - x, e := addLast c.e x, te := c.te + x }

/-- A run of spread steps: in each, `x` hosts are exposed, then the latency step is made.
    `step0` is the number of the first step. -/
def latencyRun (latency : Nat) : Nat → List Int → Cell → Cell
  | _, [], c => c
  | step, x :: rest, c => latencyRun latency (step + 1) rest ((c.exposeN x).stepForward .sei latency step)

theorem latencyRun_cons (latency step : Nat) (x : Int) (rest : List Int) (c : Cell) :
    latencyRun latency step (x :: rest) c =
      latencyRun latency (step + 1) rest (mech_latStep latency step c x) := rfl

/-- Each spread step moves the cohorts one position towards the infected class: `i` plus the first
    `k` cohorts is what an induction carries (`k = 0`: infected; `k = L + 1`: no host is lost). -/
theorem latencyRun_prefix (latency : Nat) (xs : List Int) : ∀ (step0 : Nat) (c : Cell),
    c.e.length = latency + 1 → latency ≤ step0 →
    (∀ k, (latencyRun latency step0 xs c).i + sumL ((latencyRun latency step0 xs c).e.take k) =
      c.i + sumL (c.e.take (k + xs.length)) + sumL (xs.take (k + xs.length - latency))) ∧
    (latencyRun latency step0 xs c).e.length = latency + 1 := by
  induction xs with
  | nil =>
    intro step0 c hlen _
    exact ⟨fun k => by rw [List.take_nil, sumL_nil]; exact (Int.add_zero _).symm, hlen⟩
  | cons x rest ih =>
    intro step0 c hlen hstep
    obtain ⟨f1, f2, _⟩ := mech_latStep_prefix latency step0 c x hlen hstep
    obtain ⟨r1, r2⟩ := ih (step0 + 1) (mech_latStep latency step0 c x) f2 (Nat.le_succ_of_le hstep)
    refine ⟨fun k => ?_, r2⟩
    rw [latencyRun_cons, r1 k, f1 (k + rest.length), List.length_cons, ← Nat.add_assoc,
      sumL_take_succ_sub_cons, Int.add_assoc]

/-- Exact latency. On a cell with |e| = L + 1 and steps numbered >= L: after n spread steps the
    infected count is the initial one plus the first min(n, L+1) initial cohorts plus exactly the
    exposures of the first n - L spread steps - a host exposed in spread step t is counted as
    infected from the latency step of spread step t + L on, and not earlier. -/
theorem C05_exact_latency (latency step0 : Nat) (xs : List Int) (c : Cell)
    (hlen : c.e.length = latency + 1) (hstep : latency ≤ step0) :
    (latencyRun latency step0 xs c).i =
      c.i + sumL (c.e.take xs.length) + sumL (xs.take (xs.length - latency)) ∧
    (latencyRun latency step0 xs c).e.length = latency + 1 ∧
    sumL (latencyRun latency step0 xs c).e =
      sumL (c.e.drop xs.length) + sumL (xs.drop (xs.length - latency)) := by
  obtain ⟨h, hl⟩ := latencyRun_prefix latency xs step0 c hlen hstep
  have h0 := h 0
  have hL := h (latency + 1)
  rw [List.take_zero, sumL_nil, Int.add_zero, Nat.zero_add] at h0
  rw [List.take_of_length_le (Nat.le_of_eq hl), List.take_of_length_le (hlen ▸ Nat.le_add_right _ _),
    List.take_of_length_le (by omega)] at hL
  have := sumL_take_add_drop c.e xs.length
  have := sumL_take_add_drop xs (xs.length - latency)
  refine ⟨h0, hl, ?_⟩
  clear h hl hlen hstep
  omega

/-- n landings on a cell (each turns one susceptible host into an exposed / infected one). -/
def Cell.addN (mt : ModelType) : Nat → Cell → Cell
  | 0, c => c
  | n + 1, c => Cell.addN mt n (c.addDisperserAt mt).1

theorem Cell.addN_si_exposed (n : Nat) :
    ∀ c : Cell, (Cell.addN .si n c).e = c.e ∧ (Cell.addN .si n c).te = c.te := by
  induction n with
  | zero => intro c; exact ⟨rfl, rfl⟩
  | succ n ih =>
    intro c
    obtain ⟨a, b⟩ := ih (c.addDisperserAt .si).1
    show (Cell.addN .si n (c.addDisperserAt .si).1).e = _ ∧ (Cell.addN .si n (c.addDisperserAt .si).1).te = _
    rw [a, b]
    unfold Cell.addDisperserAt
    split <;> exact ⟨rfl, rfl⟩

theorem Cell.addN_stepForward_zero (step n : Nat) : ∀ (c : Cell) (k : Int), c.e = [k] →
    (Cell.addN .sei n c).stepForward .sei 0 step = Cell.addN .si n (c.stepForward .sei 0 step) := by
  induction n with
  | zero => intro c k _; rfl
  | succ n ih =>
    intro c k h
    obtain ⟨hc, k', hk'⟩ := mech_step0_comm step c k h
    show (Cell.addN .sei n (c.addDisperserAt .sei).1).stepForward .sei 0 step =
      Cell.addN .si n ((c.stepForward .sei 0 step).addDisperserAt .si).1
    rw [ih _ k' hk', hc]

/-- With L = 0 the SEI spread step (landings, then the latency step) leaves exactly the SI state:
    same susceptible, infected, mortality cohorts, totals.
    `hm : c.mort ≠ []` is not used by the proof but is kept on purpose: with an empty mortality
    tracker both `add_disperser_at` (SI) and `step_forward` (SEI) call
    `mortality_tracker_vector_.back()` on an empty vector (undefined behaviour), while the model's
    `addLast [] _ = []` is total. -/
theorem C05_L0_equals_SI (n step : Nat) (c : Cell) (he : c.e = [0]) (hte : c.te = 0) (hm : c.mort ≠ []) :
    (Cell.addN .sei n c).stepForward .sei 0 step = { Cell.addN .si n c with e := [0], te := 0 } := by
  have _ := hm  -- domain of the C++ (see the doc comment), not needed by the model
  have hc : c.stepForward .sei 0 step = c := by
    rw [mech_step0_singleton step c 0 he]
    cases c
    simp only [Cell.mk.injEq, true_and, and_true] at *
    simp only [addLast_zero, he, hte]
    refine ⟨trivial, ?_, ?_, trivial⟩ <;> omega
  rw [Cell.addN_stepForward_zero step n c 0 he, hc]
  obtain ⟨a, b⟩ := Cell.addN_si_exposed n c
  rw [he] at a; rw [hte] at b
  rw [← a, ← b]

example : ∃ c : Cell, c.e.length = 2 + 1 ∧ c.e = [1, 0, 2] := ⟨⟨5, [1, 0, 2], 0, 0, 3, [0], 0, 8⟩, by decide⟩

end Pops
