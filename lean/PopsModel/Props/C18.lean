/-
  C18  Reported metrics equal their definitions computed from the infected raster.
  Property theorems (and `QFrom`, the states they speak of); helper lemmas are in
  PopsModel/Lemmas/Metric.lean and MetricQuar.lean,
  the definitions the theorems compare with are in PopsModel/Model/MetricSpec.lean.

  All statements are for arbitrary `rows`, `cols` (no relation between them), arbitrary raster
  contents and an arbitrary list of suitable cells inside the grid.
-/
import PopsModel.Lemmas.MetricQuar
namespace Pops
open Metric

/-! ## Bounding box -/

/-- `infection_boundary` returns exactly the bounding box of the infected listed cells: every side
    is attained by an infected cell and bounds all infected cells; the sentinel `(-1,-1,-1,-1)`
    iff there is no infected cell. `rows` and `cols` are independent. -/
theorem C18_bbox (rows cols : Int) (inf : IRaster) (cells : List Cell)
    (hin : ∀ c ∈ cells, InRange rows cols c) :
    infectionBoundary rows cols inf cells = specBoxOr (infectedCells inf cells) ∧
    (infectedCells inf cells = [] → infectionBoundary rows cols inf cells = noBox) ∧
    (infectedCells inf cells ≠ [] →
      IsBBox (infectedCells inf cells) (infectionBoundary rows cols inf cells) ∧
      (infectionBoundary rows cols inf cells).valid = true) ∧
    (∀ b, IsBBox (infectedCells inf cells) b → infectionBoundary rows cols inf cells = b) := by
  have heq := infectionBoundary_eq_spec rows cols inf cells hin
  have hbb : infectedCells inf cells ≠ [] →
      IsBBox (infectedCells inf cells) (infectionBoundary rows cols inf cells) := by
    intro hne
    obtain ⟨b, hb⟩ := specBox_ne_none hne
    rw [heq, specBoxOr, hb]
    exact specBox_isBBox _ _ hb
  refine ⟨heq, ?_, ?_, ?_⟩
  · intro h; rw [heq, h]; rfl
  · intro hne
    refine ⟨hbb hne, ?_⟩
    have h0 := ((hbb hne).inRange fun c hc => hin c (mem_infectedCells.mp hc).1).1
    simp only [Box.valid, bne_iff_ne, ne_eq]
    omega
  · intro b hb
    obtain ⟨c, hc, _⟩ := hb.n_att
    exact isBBox_unique (hbb (List.ne_nil_of_mem hc)) hb

/-- The same over the raster itself: when the suitable cells contain every infected cell of the
    `rows x cols` raster, the box is the min / max row and column over all infected raster cells. -/
theorem C18_bbox_raster (rows cols : Int) (inf : IRaster) (cells : List Cell)
    (hin : ∀ c ∈ cells, InRange rows cols c)
    (hcov : ∀ i j, InRange rows cols (i, j) → inf.at i j > 0 → (i, j) ∈ cells) :
    ((¬ ∃ i j, InRange rows cols (i, j) ∧ inf.at i j > 0) → infectionBoundary rows cols inf cells = noBox) ∧
    ((∃ i j, InRange rows cols (i, j) ∧ inf.at i j > 0) →
      (∀ i j, InRange rows cols (i, j) → inf.at i j > 0 →
        (infectionBoundary rows cols inf cells).n ≤ i ∧ i ≤ (infectionBoundary rows cols inf cells).s ∧
        (infectionBoundary rows cols inf cells).w ≤ j ∧ j ≤ (infectionBoundary rows cols inf cells).e) ∧
      (∃ j, InRange rows cols ((infectionBoundary rows cols inf cells).n, j) ∧ inf.at (infectionBoundary rows cols inf cells).n j > 0) ∧
      (∃ j, InRange rows cols ((infectionBoundary rows cols inf cells).s, j) ∧ inf.at (infectionBoundary rows cols inf cells).s j > 0) ∧
      (∃ i, InRange rows cols (i, (infectionBoundary rows cols inf cells).e) ∧ inf.at i (infectionBoundary rows cols inf cells).e > 0) ∧
      (∃ i, InRange rows cols (i, (infectionBoundary rows cols inf cells).w) ∧ inf.at i (infectionBoundary rows cols inf cells).w > 0)) := by
  obtain ⟨_, hnone, hsome, _⟩ := C18_bbox rows cols inf cells hin
  constructor
  · intro hno
    refine hnone (List.eq_nil_iff_forall_not_mem.mpr fun c hc => hno ?_)
    have := mem_infectedCells.mp hc
    exact ⟨c.1, c.2, hin c this.1, this.2⟩
  · rintro ⟨i0, j0, hr0, hi0⟩
    have hmem0 : (i0, j0) ∈ infectedCells inf cells := mem_infectedCells.mpr ⟨hcov i0 j0 hr0 hi0, hi0⟩
    obtain ⟨hb, _⟩ := hsome (List.ne_nil_of_mem hmem0)
    have back : ∀ c ∈ infectedCells inf cells, InRange rows cols (c.1, c.2) ∧ inf.at c.1 c.2 > 0 := by
      intro c hc
      have := mem_infectedCells.mp hc
      exact ⟨hin c this.1, this.2⟩
    -- a row / a column attained by a listed infected cell holds an infected raster cell
    have att_row : ∀ v, (∃ c ∈ infectedCells inf cells, c.1 = v) → ∃ j, InRange rows cols (v, j) ∧ inf.at v j > 0 :=
      fun _ ⟨c, hc, he⟩ => ⟨c.2, he ▸ back c hc⟩
    have att_col : ∀ v, (∃ c ∈ infectedCells inf cells, c.2 = v) → ∃ i, InRange rows cols (i, v) ∧ inf.at i v > 0 :=
      fun _ ⟨c, hc, he⟩ => ⟨c.1, he ▸ back c hc⟩
    refine ⟨fun i j hr hi => ?_, att_row _ hb.n_att, att_row _ hb.s_att, att_col _ hb.e_att, att_col _ hb.w_att⟩
    have hmem : (i, j) ∈ infectedCells inf cells := mem_infectedCells.mpr ⟨hcov i j hr hi, hi⟩
    exact ⟨hb.n_le _ hmem, hb.s_ge _ hmem, hb.w_le _ hmem, hb.e_ge _ hmem⟩

/-- A 6 x 3 raster (rows ≠ cols) with infection in rows 3..4, columns 1..2. -/
def exInf63 : IRaster := ⟨6, 3, [0,0,0, 0,0,0, 0,0,0, 0,2,0, 0,0,5, 0,0,0]⟩

example : ∀ c ∈ allCells 6 3, InRange 6 3 c := fun _ hc => mem_allCells.mp hc
example : infectionBoundary 6 3 exInf63 (allCells 6 3) = ⟨3, 4, 2, 1⟩ := by decide
example : infectedCells exInf63 (allCells 6 3) = [(3, 1), (4, 2)] := by decide
/-- 1 x 4 and 4 x 1 rasters. -/
example : infectionBoundary 1 4 ⟨1, 4, [0, 0, 7, 0]⟩ (allCells 1 4) = ⟨0, 0, 2, 2⟩ := by decide
example : infectionBoundary 4 1 ⟨4, 1, [0, 0, 7, 1]⟩ (allCells 4 1) = ⟨2, 3, 0, 0⟩ := by decide
example : infectionBoundary 4 1 ⟨4, 1, [0, 0, 0, 0]⟩ (allCells 4 1) = noBox := by decide

/-! ## Spread rate -/

/-- Measurements `m0` (constructor), then `ms` with `action(., 0)`, `action(., 1)`, ...: all
    calls succeed, and whenever the previous measurement found infection (box `b1`), the stored
    rate of step `i` is, per direction, the displacement of the definitional bounding box times
    the resolution (north/south rows x `ns`, east/west columns x `ew`; growth is positive), and
    undefined as `specRate` says. -/
theorem C18_rate (rows cols : Int) (ew ns : Rat) (hns : ns ≠ 0) (hew : ew ≠ 0) (N : Nat)
    (cells : List Cell) (hin : ∀ c ∈ cells, InRange rows cols c)
    (m0 : IRaster) (ms : List IRaster) (hlen : ms.length ≤ N) :
    ∃ sr, SpreadRate.run cells (SpreadRate.new m0 cells rows cols ew ns N) ms 0 = .ok sr ∧
      ∀ (i : Nat) (mp mc : IRaster) (b1 : Box),
        (m0 :: ms)[i]? = some mp → ms[i]? = some mc →
        specBox (infectedCells mp cells) = some b1 →
        sr.rates[i]? = some (specRatesOpt rows cols ns ew b1 (specBox (infectedCells mc cells))) := by
  have wf := new_wf m0 cells rows cols ew ns N
  have h0 : (SpreadRate.new m0 cells rows cols ew ns N).boundaries[0]? =
      some (infectionBoundary rows cols m0 cells) := by
    simp [SpreadRate.new]
  obtain ⟨sr, hrun, _, _, hrates⟩ := run_rates rows cols ew ns N cells ms _ 0 _ wf h0 (by omega)
  refine ⟨sr, hrun, ?_⟩
  intro i mp mc b1 hp hc hb1
  have e1 : (infectionBoundary rows cols m0 cells :: ms.map fun m => infectionBoundary rows cols m cells)[i]? =
      some (infectionBoundary rows cols mp cells) := by
    rw [← List.map_cons (f := fun m => infectionBoundary rows cols m cells), List.getElem?_map, hp]; rfl
  have e2 : (ms.map fun m => infectionBoundary rows cols m cells)[i]? =
      some (infectionBoundary rows cols mc cells) := by
    rw [List.getElem?_map, hc]; rfl
  have := hrates i _ _ e1 e2
  rw [Nat.zero_add] at this
  rw [this]
  congr 1
  obtain ⟨hp1, _, _, _⟩ := C18_bbox rows cols mp cells hin
  obtain ⟨hc1, hcnone, hcsome, _⟩ := C18_bbox rows cols mc cells hin
  rw [hp1, specBoxOr, hb1, Option.getD_some]
  cases hcb : specBox (infectedCells mc cells) with
  | none => rw [hcnone (specBox_eq_none.mp hcb)]; rfl
  | some b2 =>
    have hne : infectedCells mc cells ≠ [] := fun h => by rw [specBox_eq_none.mpr h] at hcb; cases hcb
    have hv := (hcsome hne).2
    have hb2 : infectionBoundary rows cols mc cells = b2 := by rw [hc1, specBoxOr, hcb]; rfl
    rw [hb2] at hv ⊢
    simp only [measuredRates, hv, if_true, specRatesOpt]
    exact ratesOf_eq_spec rows cols ns ew hns hew b1 b2

/-- What `action` stores (`measuredRates`, see `action_ok` / `run_rates`) for previous box `b1`
    and current box `b2`: everything is undefined when no infection is found now; otherwise a
    direction is undefined exactly when the box touches that edge of the raster (row 0, row
    `rows-1`, column `cols-1`, column 0) and did not move, and else it is displacement x
    resolution. -/
theorem C18_rate_undefined (rows cols : Int) (ew ns : Rat) (hns : ns ≠ 0) (hew : ew ≠ 0) (b1 b2 : Box) :
    (b2.valid = false → measuredRates rows cols ns ew b1 b2 = nanRates) ∧
    (b2.valid = true →
      ((measuredRates rows cols ns ew b1 b2).n = none ↔ b2.n = 0 ∧ b1.n = b2.n) ∧
      ((measuredRates rows cols ns ew b1 b2).s = none ↔ b2.s = rows - 1 ∧ b2.s = b1.s) ∧
      ((measuredRates rows cols ns ew b1 b2).e = none ↔ b2.e = cols - 1 ∧ b2.e = b1.e) ∧
      ((measuredRates rows cols ns ew b1 b2).w = none ↔ b2.w = 0 ∧ b1.w = b2.w) ∧
      (∀ r, (measuredRates rows cols ns ew b1 b2).n = some r → r = ((b1.n - b2.n : Int) : Rat) * ns) ∧
      (∀ r, (measuredRates rows cols ns ew b1 b2).s = some r → r = ((b2.s - b1.s : Int) : Rat) * ns) ∧
      (∀ r, (measuredRates rows cols ns ew b1 b2).e = some r → r = ((b2.e - b1.e : Int) : Rat) * ew) ∧
      (∀ r, (measuredRates rows cols ns ew b1 b2).w = some r → r = ((b1.w - b2.w : Int) : Rat) * ew)) := by
  constructor
  · intro h; simp [measuredRates, h]
  · intro h
    have hval : ∀ (d : Int) (res : Rat) (t : Bool) (r : Rat), specRate d res t = some r → r = (d : Rat) * res := by
      intro d res t r hr
      unfold specRate at hr
      split at hr
      · cases hr
      · cases hr; rfl
    simp only [measuredRates, h, if_true, ratesOf_eq_spec rows cols ns ew hns hew, specRates,
      specRate_none_iff, beq_iff_eq, Int.sub_eq_zero]
    exact ⟨trivial, trivial, trivial, trivial, hval _ _ _, hval _ _ _, hval _ _ _, hval _ _ _⟩

/-- Non-vacuity: a 2 x 5 raster, the infection moves one column east between two measurements. -/
example : specBox (infectedCells ⟨2, 5, [0,0,0,0,0, 0,1,0,0,0]⟩ (allCells 2 5)) = some ⟨1, 1, 1, 1⟩ := by decide
example : specBox (infectedCells ⟨2, 5, [0,0,0,0,0, 0,1,3,0,0]⟩ (allCells 2 5)) = some ⟨1, 1, 2, 1⟩ := by decide
example : (specRates 2 5 30 10 ⟨1, 1, 1, 1⟩ ⟨1, 1, 2, 1⟩).s = none ∧
    (specRates 2 5 30 10 ⟨1, 1, 1, 1⟩ ⟨1, 1, 2, 1⟩).e = some (((1 : Int) : Rat) * 10) := by
  constructor
  · rw [specRates, specRate_none_iff]; decide
  · simp [specRates, specRate]

/-! ## Quarantine escape -/

/-- States reachable from the constructor for the area raster `areas` with `N` steps. -/
structure QFrom (q : Quarantine) (areas : IRaster) (N : Nat) : Prop where
  table : q.table = quarantineBoundary areas
  len : q.infos.length = N

theorem C18_qfrom_make (areas : IRaster) (ew ns : Rat) (N : Nat) (dirs : Dirs) :
    QFrom (Quarantine.make areas ew ns N dirs) areas N :=
  ⟨rfl, by simp [Quarantine.make]⟩

/-- The table built by the constructor is the definitional bounding box of every positive id. -/
theorem C18_area_bbox (areas : IRaster) (v : Int) (hv : 0 < v) :
    findBox (quarantineBoundary areas) v = specAreaBox areas v ∧
    (∀ b, specAreaBox areas v = some b → IsBBox (areaCells areas v) b) ∧
    (specAreaBox areas v = none ↔ ∀ c ∈ allCells areas.rows areas.cols, areas.at c.1 c.2 ≠ v) := by
  refine ⟨findBox_quarantineBoundary areas v hv, fun b hb => specBox_isBBox _ _ hb, ?_⟩
  unfold specAreaBox
  rw [specBox_eq_none, List.eq_nil_iff_forall_not_mem]
  exact forall_congr' fun c => by rw [mem_areaCells, ← mem_allCells, not_and]

/-- `C18_escape_iff` with `hnn` required of the INFECTED listed cells only, and with the general
    reading of "outside every quarantine area": escape is reported exactly when an infected listed
    cell has an id that is not positive or is not the id of any area. -/
theorem C18_escape_iff_infected_nonneg (areas inf : IRaster) (N : Nat) (q : Quarantine) (hq : QFrom q areas N)
    (cells : List Cell) (hin : ∀ c ∈ cells, InRange areas.rows areas.cols c)
    (hnn : ∀ c ∈ cells, inf.at c.1 c.2 ≠ 0 → 0 ≤ areas.at c.1 c.2) (step : Nat) (hstep : step < N) :
    ∃ q' info, q.action cells inf areas step = .ok q' ∧ QFrom q' areas N ∧
      (q'.dirs = q.dirs ∧ q'.ns = q.ns ∧ q'.ew = q.ew) ∧
      q'.infos[step]? = some info ∧
      (info.escaped = true ↔ ∃ c ∈ cells, inf.at c.1 c.2 ≠ 0 ∧
          (areas.at c.1 c.2 ≤ 0 ∨ specAreaBox areas (areas.at c.1 c.2) = none)) ∧
      info.escaped = specEscapedFull inf areas cells ∧
      (info.escaped = true ↔ ∃ c ∈ cells, inf.at c.1 c.2 ≠ 0 ∧ areas.at c.1 c.2 = 0) ∧
      info.escaped = specEscaped inf areas cells ∧
      (info.escaped = true → info.dist = .nan ∧ info.dir = .none) ∧
      (∀ j, j ≠ step → q'.infos[j]? = q.infos[j]?) := by
  have hlook : ∀ c ∈ cells, inf.at c.1 c.2 ≠ 0 → areas.at c.1 c.2 ≠ 0 →
      lookupBox q.table (areas.at c.1 c.2) ≠ none := by
    intro c hc hi ha
    have hpos : 0 < areas.at c.1 c.2 := by have := hnn c hc hi; omega
    obtain ⟨b, hb, _⟩ := own_area_box areas c (hin c hc) hpos
    rw [hq.table, hb]; simp
  have hlen : step < q.infos.length := by rw [hq.len]; exact hstep
  obtain ⟨info, hact, hesc, hnan⟩ := action_escaped_iff q inf areas cells hlook hlen
  have hspec : info.escaped = specEscaped inf areas cells := by rw [Bool.eq_iff_iff, hesc, specEscaped_iff]
  have hfull : info.escaped = specEscapedFull inf areas cells := by
    rw [hspec, specEscapedFull_eq_of_infected_nonneg areas inf cells hin hnn]
  exact ⟨_, info, hact, ⟨hq.table, by simp [hq.len]⟩, ⟨rfl, rfl, rfl⟩, List.getElem?_set_self hlen,
    by rw [hfull]; exact specEscapedFull_iff inf areas cells, hfull, hesc, hspec, hnan,
    fun j hj => List.getElem?_set_ne (Ne.symm hj)⟩

/-- `C18_nearest` with `hnn` required of the INFECTED listed cells only: negative ids at cells
    without infection do not disturb the boxes of the positive ids or the report. -/
theorem C18_nearest_infected_nonneg (areas inf : IRaster) (N : Nat) (q : Quarantine) (hq : QFrom q areas N)
    (hns : 0 ≤ q.ns) (hew : 0 ≤ q.ew)
    (hbn : (areas.rows : Rat) * q.ns < (dblMax : Rat)) (hbe : (areas.cols : Rat) * q.ew < (dblMax : Rat))
    (hen : ∃ d, q.dirs.enabled d = true)
    (cells : List Cell) (hin : ∀ c ∈ cells, InRange areas.rows areas.cols c)
    (hnn : ∀ c ∈ cells, inf.at c.1 c.2 ≠ 0 → 0 ≤ areas.at c.1 c.2) (step : Nat) (hstep : step < N)
    (hno : ¬ ∃ c ∈ cells, inf.at c.1 c.2 ≠ 0 ∧ areas.at c.1 c.2 = 0)
    (hsome : ∃ c ∈ cells, inf.at c.1 c.2 ≠ 0) :
    ∃ q' c b dir, q.action cells inf areas step = .ok q' ∧
      c ∈ cells ∧ inf.at c.1 c.2 ≠ 0 ∧ specAreaBox areas (areas.at c.1 c.2) = some b ∧
      q.dirs.enabled dir = true ∧
      q'.infos[step]? = some ⟨false, .val (lround (sideDist b q.ns q.ew c dir)), dir⟩ ∧
      (∀ c' ∈ cells, inf.at c'.1 c'.2 ≠ 0 → ∀ b', specAreaBox areas (areas.at c'.1 c'.2) = some b' →
          ∀ d', q.dirs.enabled d' = true → sideDist b q.ns q.ew c dir ≤ sideDist b' q.ns q.ew c' d') ∧
      (∃ pre post, nearestCandidates inf areas cells q.dirs q.ns q.ew =
            pre ++ (sideDist b q.ns q.ew c dir, dir) :: post ∧
          (∀ x ∈ pre, sideDist b q.ns q.ew c dir < x.1) ∧
          (∀ y ∈ post, sideDist b q.ns q.ew c dir ≤ y.1)) ∧
      nearestOK inf areas cells q.dirs q.ns q.ew (lround (sideDist b q.ns q.ew c dir)) dir = true := by
  -- an infected listed cell: positive id, table box = definitional box, every side below DBL_MAX
  have hcell : ∀ c ∈ cells, inf.at c.1 c.2 ≠ 0 → CellOK q areas c := by
    intro c hc hi
    have ha : areas.at c.1 c.2 ≠ 0 := fun h => hno ⟨c, hc, hi, h⟩
    have hpos : 0 < areas.at c.1 c.2 := by have := hnn c hc hi; omega
    obtain ⟨b, hb, hsb, g⟩ := own_area_box areas c (hin c hc) hpos
    exact ⟨ha, b, by rw [hq.table]; exact hb, hsb, sideDist_lt_dblMax hns hew hbn hbe g⟩
  have hact := action_eq_firstMin q inf areas hen cells hcell (step := step) (by rw [hq.len]; exact hstep)
  -- the candidate list is not empty; its first minimum `m` belongs to a cell `c` and the side `m.2`
  obtain ⟨c1, hc1, hi1⟩ := hsome
  obtain ⟨_, b1, _, hsb1, _⟩ := hcell c1 hc1 hi1
  obtain ⟨d1, hd1⟩ := hen
  obtain ⟨m, pre, post, hfm, hsplit, hpre, hpost⟩ := firstMin_none_split
    (List.ne_nil_of_mem ((mem_nearestCandidates (m := (sideDist b1 q.ns q.ew c1 d1, d1))).mpr
      ⟨c1, hc1, hi1, b1, hsb1, hd1, rfl⟩))
  obtain ⟨c, hc, hi, b, hsb, hdir, hm⟩ := mem_nearestCandidates.mp
    (show m ∈ nearestCandidates inf areas cells q.dirs q.ns q.ew by rw [hsplit]; simp)
  have hm1 : m.1 = sideDist b q.ns q.ew c m.2 := congrArg Prod.fst hm
  have hmin : ∀ y ∈ pre ++ m :: post, m.1 ≤ y.1 := by
    intro y hy
    rcases List.mem_append.mp hy with h | h
    · exact Rat.le_of_lt (hpre y h)
    · rcases List.mem_cons.mp h with rfl | h
      · exact Rat.le_refl
      · exact hpost y h
  have hle : ∀ c' ∈ cells, inf.at c'.1 c'.2 ≠ 0 → ∀ b', specAreaBox areas (areas.at c'.1 c'.2) = some b' →
      ∀ d', q.dirs.enabled d' = true → sideDist b q.ns q.ew c m.2 ≤ sideDist b' q.ns q.ew c' d' := by
    intro c' hc' hi' b' hb' d' hd'
    have := hmin _ (hsplit ▸ (mem_nearestCandidates (m := (sideDist b' q.ns q.ew c' d', d'))).mpr
      ⟨c', hc', hi', b', hb', hd', rfl⟩)
    rw [hm1] at this; exact this
  rw [hfm] at hact
  refine ⟨_, c, b, m.2, hact, hc, hi, hsb, hdir, ?_,
    hle, ⟨pre, post, by rw [← hm]; exact hsplit, by rw [← hm1]; exact hpre, by rw [← hm1]; exact hpost⟩, ?_⟩
  · simp only [List.getElem?_set_self (hq.len ▸ hstep), infoOf, hm1]
  · exact nearestOK_of_minimal hdir hc hi hsb fun c' hc' hi' =>
      let ⟨_, b', _, hsb', _⟩ := hcell c' hc' hi'
      ⟨b', hsb', hle c' hc' hi' b' hsb'⟩

/-- `action` reports escape exactly when an infected listed cell lies outside every quarantine
    area (area value 0); the other steps' records are untouched and the state stays reachable. -/
theorem C18_escape_iff (areas inf : IRaster) (N : Nat) (q : Quarantine) (hq : QFrom q areas N)
    (cells : List Cell) (hin : ∀ c ∈ cells, InRange areas.rows areas.cols c)
    (hnn : ∀ c ∈ cells, 0 ≤ areas.at c.1 c.2) (step : Nat) (hstep : step < N) :
    ∃ q' info, q.action cells inf areas step = .ok q' ∧ QFrom q' areas N ∧
      (q'.dirs = q.dirs ∧ q'.ns = q.ns ∧ q'.ew = q.ew) ∧
      q'.infos[step]? = some info ∧
      (info.escaped = true ↔ ∃ c ∈ cells, inf.at c.1 c.2 ≠ 0 ∧ areas.at c.1 c.2 = 0) ∧
      info.escaped = specEscaped inf areas cells ∧
      (info.escaped = true → info.dist = .nan ∧ info.dir = .none) ∧
      (∀ j, j ≠ step → q'.infos[j]? = q.infos[j]?) := by
  obtain ⟨q', info, h1, h2, h3, h4, _, _, h5, h6, h7, h8⟩ :=
    C18_escape_iff_infected_nonneg areas inf N q hq cells hin (fun c hc _ => hnn c hc) step hstep
  exact ⟨q', info, h1, h2, h3, h4, h5, h6, h7, h8⟩

/-- No escape, some infected listed cell, ANY non-negative rational resolutions: the report is
    `(lround x, dir)` where `x` is the exact distance of an infected cell `c` to the enabled side
    `dir` of the bounding box `b` of its own area, and `x` is minimal over all infected cells and
    all enabled sides of their own areas' boxes. Among several such pairs the reported one is the
    first in scan order (cells in list order, sides in the order N, S, E, W): in the list of all
    candidates everything before it is strictly farther, everything after it at least as far.
    Only the reported distance is rounded; no rounded value takes part in a comparison.
    (`dblMax` is the start value `numeric_limits<double>::max()` of the search.) -/
theorem C18_nearest (areas inf : IRaster) (N : Nat) (q : Quarantine) (hq : QFrom q areas N)
    (hns : 0 ≤ q.ns) (hew : 0 ≤ q.ew)
    (hbn : (areas.rows : Rat) * q.ns < (dblMax : Rat)) (hbe : (areas.cols : Rat) * q.ew < (dblMax : Rat))
    (hen : ∃ d, q.dirs.enabled d = true)
    (cells : List Cell) (hin : ∀ c ∈ cells, InRange areas.rows areas.cols c)
    (hnn : ∀ c ∈ cells, 0 ≤ areas.at c.1 c.2) (step : Nat) (hstep : step < N)
    (hno : ¬ ∃ c ∈ cells, inf.at c.1 c.2 ≠ 0 ∧ areas.at c.1 c.2 = 0)
    (hsome : ∃ c ∈ cells, inf.at c.1 c.2 ≠ 0) :
    ∃ q' c b dir, q.action cells inf areas step = .ok q' ∧
      c ∈ cells ∧ inf.at c.1 c.2 ≠ 0 ∧ specAreaBox areas (areas.at c.1 c.2) = some b ∧
      q.dirs.enabled dir = true ∧
      q'.infos[step]? = some ⟨false, .val (lround (sideDist b q.ns q.ew c dir)), dir⟩ ∧
      (∀ c' ∈ cells, inf.at c'.1 c'.2 ≠ 0 → ∀ b', specAreaBox areas (areas.at c'.1 c'.2) = some b' →
          ∀ d', q.dirs.enabled d' = true → sideDist b q.ns q.ew c dir ≤ sideDist b' q.ns q.ew c' d') ∧
      (∃ pre post, nearestCandidates inf areas cells q.dirs q.ns q.ew =
            pre ++ (sideDist b q.ns q.ew c dir, dir) :: post ∧
          (∀ x ∈ pre, sideDist b q.ns q.ew c dir < x.1) ∧
          (∀ y ∈ post, sideDist b q.ns q.ew c dir ≤ y.1)) ∧
      nearestOK inf areas cells q.dirs q.ns q.ew (lround (sideDist b q.ns q.ew c dir)) dir = true :=
  C18_nearest_infected_nonneg areas inf N q hq hns hew hbn hbe hen cells hin (fun c hc _ => hnn c hc) step hstep
    hno hsome

/-- Non-vacuity with a NON-integer resolution where rounding order matters (the witness of
    finding F27): a 52 x 1 raster, one area; the infected cell in row 26 is 26 cells from the north
    side and 25 cells from the south side; north-south resolution 2/5, sides N and S enabled.
    Exact distances: north 26 x 2/5 = 52/5 = 10.4, south 25 x 2/5 = 10. The report is (10, S). -/
def f27Areas : IRaster := ⟨52, 1, List.replicate 52 1⟩
def f27Inf : IRaster := ⟨52, 1, List.replicate 26 0 ++ [1] ++ List.replicate 25 0⟩
def f27Dirs : Dirs := ⟨true, true, false, false⟩
def f27Q : Quarantine := Quarantine.make f27Areas 1 (2/5) 1 f27Dirs

example : specAreaBox f27Areas 1 = some ⟨0, 51, 0, 0⟩ := by decide +kernel
example : specEscaped f27Inf f27Areas (allCells 52 1) = false := by decide +kernel
example : sideDist ⟨0, 51, 0, 0⟩ (2/5) 1 (26, 0) .N = 52/5 ∧ sideDist ⟨0, 51, 0, 0⟩ (2/5) 1 (26, 0) .S = 10 := by
  decide +kernel
example : nearestCandidates f27Inf f27Areas (allCells 52 1) f27Dirs (2/5) 1 = [(52/5, .N), (10, .S)] := by
  decide +kernel
/-- The code as it is (after the fix of F27) on the witness: the report is (10, S), of which the
    property's predicate holds. -/
theorem C18_nearest_witness :
    (f27Q.action (allCells 52 1) f27Inf f27Areas 0).toOption.map (·.infos) = some [⟨false, .val 10, .S⟩] ∧
    nearestOK f27Inf f27Areas (allCells 52 1) f27Dirs (2/5) 1 10 .S = true := by
  decide +kernel

/-- The code BEFORE the fix of finding F27 (`closestDirectionRounded`: running minimum rounded,
    exact candidate compared with it) on the same witness: north is examined first, 10.4 is stored
    as 10, the southern 10.0 is not `< 10`, and (10, N) is reported - a side that is not the
    nearest: the property's predicate is false for the old report. -/
theorem C18_nearest_old_code_fails :
    closestDirectionRounded f27Dirs (2/5) 1 26 0 ⟨0, 51, 0, 0⟩ = (10, .N) ∧
    nearestRounded f27Dirs (2/5) 1 [((26, 0), ⟨0, 51, 0, 0⟩)] none = some (10, .N) ∧
    nearestOK f27Inf f27Areas (allCells 52 1) f27Dirs (2/5) 1 10 .N = false ∧
    closestDirection f27Dirs (2/5) 1 26 0 ⟨0, 51, 0, 0⟩ = (10, .S) := by
  decide +kernel

/-- The second place where the old code compared rounded values: `action` over several infected
    cells. A 1 x 12 raster, one area, east-west resolution 1/4, sides E and W; infected cells in
    columns 5 (west side 5/4, east side 6/4) and 7 (west 7/4, east 4/4 = 1). Each cell's own result
    is right, (1, W) and (1, E) after rounding, but `1 < 1` is false, so the old loop kept (1, W)
    although the cell in column 7 is nearer to the east side (1 < 5/4). -/
theorem C18_nearest_old_code_fails_across_cells :
    nearestRounded ⟨false, false, true, true⟩ 1 (1/4) [((0, 5), ⟨0, 0, 11, 0⟩), ((0, 7), ⟨0, 0, 11, 0⟩)] none
      = some (1, .W) ∧
    nearestOK ⟨1, 12, [0,0,0,0,0,3,0,2,0,0,0,0]⟩ ⟨1, 12, List.replicate 12 1⟩ (allCells 1 12)
      ⟨false, false, true, true⟩ 1 (1/4) 1 .W = false ∧
    nearestOK ⟨1, 12, [0,0,0,0,0,3,0,2,0,0,0,0]⟩ ⟨1, 12, List.replicate 12 1⟩ (allCells 1 12)
      ⟨false, false, true, true⟩ 1 (1/4) 1 .E = true ∧
    (((Quarantine.make ⟨1, 12, List.replicate 12 1⟩ (1/4) 1 1 ⟨false, false, true, true⟩).action (allCells 1 12)
      ⟨1, 12, [0,0,0,0,0,3,0,2,0,0,0,0]⟩ ⟨1, 12, List.replicate 12 1⟩ 0).toOption.map (·.infos))
      = some [⟨false, .val 1, .E⟩] := by
  decide +kernel

/-- Hypotheses of `C18_nearest` on the witness. -/
example : QFrom f27Q f27Areas 1 ∧ 0 ≤ f27Q.ns ∧ 0 ≤ f27Q.ew ∧
    (f27Areas.rows : Rat) * f27Q.ns < (dblMax : Rat) ∧ (f27Areas.cols : Rat) * f27Q.ew < (dblMax : Rat) ∧
    (∃ d, f27Q.dirs.enabled d = true) ∧ (∀ c ∈ allCells 52 1, 0 ≤ f27Areas.at c.1 c.2) :=
  ⟨C18_qfrom_make _ _ _ _ _, by decide +kernel, by decide +kernel, by decide +kernel, by decide +kernel,
   ⟨.S, rfl⟩, by decide +kernel⟩

/-! ## Quarantine escape for ANY area ids (finding F30)

  The property quantifies over every quarantine-area raster. The theorems above need `hnn`: no
  INFECTED listed cell has a negative area id (`C18_escape_iff` and `C18_nearest` ask it of every
  listed cell); `action` never looks at the area id of a cell without infection, and under `hnn`
  "area value 0" is "outside every quarantine area" in the general sense. This section states the
  property without any restriction (`C18_escape_full`: a cell whose id is not positive, or not the
  id of any area, lies outside every quarantine area) and REFUTES it for the code as it is
  (`C18_escape_full_fails`): `action` treats only the value 0 as "no area" and looks a negative id
  up with `boundary_id_idx_map[area]`, which inserts the unknown key with index 0 - the cell is
  measured against the first registered area's box, or `boundaries.at(0)` throws when no positive
  id exists. The negation of `hnn` (`negativeIdAtInfected`) is the region of the open finding F30
  the driver uses. -/

/-- The property's statement on escape WITHOUT the restriction `hnn`, for any area ids: from any
    reachable state, `action` on the constructor's raster succeeds and reports escape exactly when an
    infected listed cell lies outside every quarantine area - its id is not positive (0, or a
    negative value) or is not the id of any area of the raster. -/
def C18_escape_full : Prop :=
  ∀ (areas inf : IRaster) (N : Nat) (q : Quarantine), QFrom q areas N →
    ∀ (cells : List Cell), (∀ c ∈ cells, InRange areas.rows areas.cols c) →
    ∀ (step : Nat), step < N →
      ∃ q' info, q.action cells inf areas step = .ok q' ∧ q'.infos[step]? = some info ∧
        (info.escaped = true ↔ ∃ c ∈ cells, inf.at c.1 c.2 ≠ 0 ∧
            (areas.at c.1 c.2 ≤ 0 ∨ specAreaBox areas (areas.at c.1 c.2) = none))

/-- Witness (a) of finding F30: a 1 x 5 raster with ids `[-1, -1, 1, 1, 1]` (area 1 = columns
    2..4), the infected cell in column 0 (id -1), sides E and W enabled, resolutions 1. -/
def f30Areas : IRaster := ⟨1, 5, [-1, -1, 1, 1, 1]⟩
def f30Inf : IRaster := ⟨1, 5, [1, 0, 0, 0, 0]⟩
/-- the same area raster, infection inside area 1 (column 3): negative ids at non-infected cells only -/
def f30InfInside : IRaster := ⟨1, 5, [0, 0, 0, 1, 0]⟩
def f30Dirs : Dirs := ⟨false, false, true, true⟩
def f30Q : Quarantine := Quarantine.make f30Areas 1 1 1 f30Dirs
/-- Witness (b): a 2 x 3 raster of -1 only (no positive id), infected cell (1,1), all sides. -/
def f30AreasB : IRaster := ⟨2, 3, [-1, -1, -1, -1, -1, -1]⟩
def f30InfB : IRaster := ⟨2, 3, [0, 0, 0, 0, 1, 0]⟩
def f30QB : Quarantine := Quarantine.make f30AreasB 1 1 1 Dirs.all

/-- What the model (= the code, see the probe notes/probes/f30_negative_area_id.cpp and case 0 of
    h_metric) returns on the witnesses.
    (a) the table holds area 1 only; the lookup of id -1 falls back to entry 0 (the key inserted by
    `boundary_id_idx_map[area]`), so the infected cell in column 0 is measured against the box of
    area 1: east side 4 - 0 = 4, west side 0 - 2 = -2, report (not escaped, -2, W) although the cell
    lies outside every quarantine area;
    (b) the table is empty, `boundaries.at(0)` throws `std::out_of_range`;
    (c) with the infection inside area 1 the negative ids change nothing: (not escaped, 1, E), which
    is the report of a nearest pair. -/
theorem C18_negative_area_id_witness :
    (quarantineBoundary f30Areas = [(1, ⟨0, 0, 4, 2⟩)] ∧
     lookupBox (quarantineBoundary f30Areas) (-1) = some ⟨0, 0, 4, 2⟩ ∧
     (f30Q.action (allCells 1 5) f30Inf f30Areas 0).toOption.map (·.infos) = some [⟨false, .val (-2), .W⟩] ∧
     specEscapedFull f30Inf f30Areas (allCells 1 5) = true ∧
     negativeIdAtInfected f30Inf f30Areas (allCells 1 5) = true) ∧
    (quarantineBoundary f30AreasB = [] ∧
     (match f30QB.action (allCells 2 3) f30InfB f30AreasB 0 with
      | .error e => some e
      | .ok _ => none) = some ErrKind.out_of_range ∧
     specEscapedFull f30InfB f30AreasB (allCells 2 3) = true ∧
     negativeIdAtInfected f30InfB f30AreasB (allCells 2 3) = true) ∧
    ((f30Q.action (allCells 1 5) f30InfInside f30Areas 0).toOption.map (·.infos) = some [⟨false, .val 1, .E⟩] ∧
     specEscapedFull f30InfInside f30Areas (allCells 1 5) = false ∧
     negativeIdAtInfected f30InfInside f30Areas (allCells 1 5) = false ∧
     nearestOK f30InfInside f30Areas (allCells 1 5) f30Dirs 1 1 1 .E = true) := by
  decide +kernel

/-- The unrestricted statement is FALSE for the code as it is (finding F30): on witness (a) the
    infected cell has id -1, so it lies outside every quarantine area, and `action` reports "not
    escaped". -/
theorem C18_escape_full_fails : ¬ C18_escape_full := by
  intro h
  obtain ⟨q', info, hact, hinfo, hiff⟩ := h f30Areas f30Inf 1 f30Q (C18_qfrom_make _ _ _ _ _) (allCells 1 5)
    (fun _ hc => mem_allCells.mp hc) 0 (by decide)
  have hw : (f30Q.action (allCells 1 5) f30Inf f30Areas 0).toOption.map (·.infos) =
      some [⟨false, .val (-2), .W⟩] := by decide +kernel
  rw [hact] at hw
  have hq : q'.infos = [⟨false, .val (-2), .W⟩] := by simpa [Except.toOption] using hw
  rw [hq] at hinfo
  have hi : info = ⟨false, .val (-2), .W⟩ := by simpa using hinfo.symm
  have hex : ∃ c ∈ allCells 1 5, f30Inf.at c.1 c.2 ≠ 0 ∧
      (f30Areas.at c.1 c.2 ≤ 0 ∨ specAreaBox f30Areas (f30Areas.at c.1 c.2) = none) :=
    ⟨(0, 0), by decide, by decide, Or.inl (by decide)⟩
  have := hiff.mpr hex
  rw [hi] at this
  cases this

/-- Hypotheses of the two `_infected_nonneg` theorems on a raster WITH negative ids (witness (c)):
    they are satisfiable beyond the domain of `C18_escape_iff` / `C18_nearest`, whose `hnn` fails
    there. -/
example : QFrom f30Q f30Areas 1 ∧ (∀ c ∈ allCells 1 5, InRange f30Areas.rows f30Areas.cols c) ∧
    (∀ c ∈ allCells 1 5, f30InfInside.at c.1 c.2 ≠ 0 → 0 ≤ f30Areas.at c.1 c.2) ∧
    ¬ (∀ c ∈ allCells 1 5, 0 ≤ f30Areas.at c.1 c.2) ∧
    (¬ ∃ c ∈ allCells 1 5, f30InfInside.at c.1 c.2 ≠ 0 ∧ f30Areas.at c.1 c.2 = 0) ∧
    (∃ c ∈ allCells 1 5, f30InfInside.at c.1 c.2 ≠ 0) :=
  ⟨C18_qfrom_make _ _ _ _ _, fun _ hc => mem_allCells.mp hc, by decide, by decide, by decide, by decide⟩

/-! ## Sum and area -/

/-- `sum_of_infected` adds the listed cells modulo 2^32 and `area_of_infected` is the number of
    listed cells with a positive value times `ew_res * ns_res`. For the suitable-cell list the
    library builds (the raster's cells in row-major order, filtered by a host predicate) that
    misses no non-zero cell, these are the sum over the whole raster (if it is in the `unsigned`
    range) and the count of infected raster cells times the cell area. -/
theorem C18_sum_area (inf : IRaster) (rows cols : Int) (ew ns : Rat) (suit : Cell → Bool)
    (hs : ∀ c ∈ allCells rows cols, suit c = false → inf.at c.1 c.2 = 0) :
    (∀ cells, sumOfInfected inf cells = sumL (cells.map fun c => inf.at c.1 c.2) % 4294967296) ∧
    (∀ cells, areaOfInfected inf ew ns cells = ((cells.countP fun c => inf.at c.1 c.2 > 0 : Nat) : Rat) * ew * ns) ∧
    (0 ≤ rasterSum inf rows cols → rasterSum inf rows cols < 4294967296 →
      sumOfInfected inf ((allCells rows cols).filter suit) = rasterSum inf rows cols) ∧
    areaOfInfected inf ew ns ((allCells rows cols).filter suit) = (rasterCount inf rows cols : Rat) * ew * ns := by
  refine ⟨fun _ => rfl, fun _ => rfl, ?_, ?_⟩
  · intro h0 h1
    unfold sumOfInfected
    rw [sumL_filter_of_zero (fun c => inf.at c.1 c.2) suit _ hs]
    unfold rasterSum at h0 h1 ⊢
    omega
  · unfold areaOfInfected infectedCount rasterCount
    rw [countP_filter_of_false (fun c => decide (inf.at c.1 c.2 > 0)) suit]
    intro c hc hsu
    have := hs c hc hsu
    simp [this]

/-- For a raster whose buffer has `rows * cols` entries, the sum / count over all index pairs is
    the sum / count over the buffer. -/
theorem C18_raster_totals (r : IRaster) (hc : 0 ≤ r.cols)
    (hlen : r.data.length = r.rows.toNat * r.cols.toNat) :
    rasterSum r r.rows r.cols = sumL r.data ∧
    rasterCount r r.rows r.cols = r.data.countP (· > 0) := by
  have h := map_at_allCells r hc hlen
  constructor
  · unfold rasterSum; rw [h]
  · unfold rasterCount
    rw [← h, List.countP_map]; rfl

example : rasterSum exInf63 6 3 = 7 ∧ rasterCount exInf63 6 3 = 2 := by decide
example : sumOfInfected exInf63 ((allCells 6 3).filter fun c => exInf63.at c.1 c.2 > 0) = 7 := by decide

/-! ## Aggregation over runs -/

/-- `quarantine_escape_probability` is the plain fraction of runs whose record says "escaped". -/
theorem C18_escape_probability (runs : List Quarantine) (step : Nat) (hne : runs ≠ [])
    (hall : ∀ q ∈ runs, step < q.infos.length) :
    escapeProbability runs step =
      .ok (fractionTrue (runs.map fun q => (q.infos.getD step default).escaped)) ∧
    escapeProbability runs step =
      .ok (some (((runs.countP fun q => (q.infos.getD step default).escaped : Nat) : Rat) / (runs.length : Rat))) := by
  have hlen : runs.length ≠ 0 := by
    cases runs with
    | nil => exact absurd rfl hne
    | cons _ _ => simp
  have hcount : (runs.map fun q => q.infos.getD step default).countP (·.escaped) =
      runs.countP fun q => (q.infos.getD step default).escaped := by
    rw [List.countP_map]; rfl
  constructor
  · unfold escapeProbability fractionTrue
    rw [collectInfos_ok step runs hall]
    simp only [hlen, if_false, List.length_map]
    rw [List.countP_map, List.countP_map]
    exact congrArg (fun n : Nat => Except.ok (some ((n : Rat) / (runs.length : Rat))))
      (List.countP_congr fun q _ => by simp)
  · unfold escapeProbability
    rw [collectInfos_ok step runs hall]
    simp only [hlen, if_false, hcount]

/-- Each component of `average_spread_rate` is the mean over the runs whose rate is defined,
    and undefined exactly when no run has a defined rate. -/
theorem C18_average_rate (runs : List SpreadRate) (step : Nat) :
    (averageSpreadRate runs step).n = meanDefined (runs.map fun r => (r.stepRate step).n) ∧
    (averageSpreadRate runs step).s = meanDefined (runs.map fun r => (r.stepRate step).s) ∧
    (averageSpreadRate runs step).e = meanDefined (runs.map fun r => (r.stepRate step).e) ∧
    (averageSpreadRate runs step).w = meanDefined (runs.map fun r => (r.stepRate step).w) ∧
    (∀ l : List (Option Rat), meanDefined l = none ↔ ∀ x ∈ l, x = none) ∧
    (∀ l : List (Option Rat), averageOf l = meanDefined l) := by
  refine ⟨averageOf_eq_meanDefined _, averageOf_eq_meanDefined _, averageOf_eq_meanDefined _,
    averageOf_eq_meanDefined _, ?_, averageOf_eq_meanDefined⟩
  intro l
  unfold meanDefined
  constructor
  · intro h x hx
    cases x with
    | none => rfl
    | some v =>
      have hm : v ∈ l.filterMap id := List.mem_filterMap.mpr ⟨some v, hx, rfl⟩
      have : (l.filterMap id).length ≠ 0 := by
        intro h0; rw [List.length_eq_zero_iff] at h0; rw [h0] at hm; simp at hm
      simp [this] at h
  · intro h
    have : l.filterMap id = [] := by
      rw [List.filterMap_eq_nil_iff]
      intro x hx; rw [h x hx]; rfl
    simp [this]

example : fractionTrue [true, false, false] = some (((1 : Nat) : Rat) / ((3 : Nat) : Rat)) := rfl
example : meanDefined [some 10, none, some 20] = some (sumR [10, 20] / ((2 : Nat) : Rat)) := rfl

end Pops
