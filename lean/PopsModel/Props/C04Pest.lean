/-
  C04 / C02, the pest rasters and the soils over a spread step (complements Props/C04.lean and Props/C02.lean).

  * `C04_pest_nonneg_and_bounded(_soil)`: after generate + disperse every cell of the disperser and
    established-disperser rasters is non-negative and `established <= dispersers`.
  * `C04_generate_split`: what `generate` writes where, and that the soil receives exactly the soil
    shares as arrivals (`soilDisperserTo`).
  * `C04_ledger_soil`: susceptible hosts consumed by spread = established dispersers + those
    established from the soil (the loop of `disperse` with an active soil pool).
  * `C04_soil_stays_until_aged_out`: a stored disperser is still in the soil after fewer steps
    than there are cohorts, unless released.
-/
import PopsModel.Model.Soil
import PopsModel.Lemmas.C04Pest
import PopsModel.Props.C04
import PopsModel.Lemmas.NonVacuousHost
namespace Pops

/-- After `generate` followed by `disperse` (soil pool active: the soil of each suitable cell
    releases `soilLandings[j]` dispersers), for EVERY cell index `k`: the disperser count is
    non-negative, the established count is non-negative and does not exceed the disperser count;
    the disperser raster is the one `generate` wrote.

    Hypotheses: a soil percentage, when there is one, lies in [0,1]; one generated count per
    suitable cell (any sign: `generate` writes 0 for a non-positive count); no cell is listed twice
    as suitable; the cells that are NOT suitable satisfy the bounds beforehand (`generate` resets only
    the suitable cells, see `C04_generate_split`). Each of the last three is needed, see the
    counter-examples below. -/
theorem C04_pest_nonneg_and_bounded_soil (g : Grid) (env : DisperseEnv) (suit : List (Int × Int)) (gen : List Int)
    (soilPct : Option Rat) (soilLandings : List Nat) (cells cells' : List Cell) (p p' : PestState)
    (ts ts' : List (Int × Int)) (us us' : List Rat) (fromSoil : Nat)
    (hpct : ∀ pct, soilPct = some pct → 0 ≤ pct ∧ pct ≤ 1)
    (hlen : gen.length = suit.length)
    (hnd : (suit.map fun rc => g.idx rc.1 rc.2).Nodup)
    (hp : ∀ k : Nat, k ∉ suit.map (fun rc => g.idx rc.1 rc.2) → 0 ≤ p.est[k]! ∧ p.est[k]! ≤ p.disp[k]!)
    (h : disperseStepSoil g env suit soilLandings cells (generateStep g suit gen soilPct p).1 ts us
          = .ok (cells', p', ts', us', fromSoil)) :
    (∀ k : Nat, 0 ≤ p'.disp[k]! ∧ 0 ≤ p'.est[k]! ∧ p'.est[k]! ≤ p'.disp[k]!) ∧
    p'.disp = (generateStep g suit gen soilPct p).1.disp ∧
    p'.disp.length = p.disp.length ∧ p'.est.length = p.est.length := by
  unfold disperseStepSoil at h
  unfold generateStep at h ⊢
  obtain ⟨_, _, g3, g4, g5, g6, g7, _⟩ := c04p_generateGo_facts g soilPct suit gen p [] hlen
  obtain ⟨d1, d2, _, d4, d5, d6, _⟩ := c04p_disperseGoSoil_facts g env suit soilLandings cells cells' _ p' ts ts' us us' fromSoil h
  refine ⟨?_, d1, by rw [d1, g3], by rw [d2, g4]⟩
  intro k
  rw [d1]
  by_cases hk : k ∈ suit.map (fun rc => g.idx rc.1 rc.2)
  · have e0 := g6 k hk
    have dn := g7 (c04p_dispersingShare_nonneg soilPct hpct) k hk
    have lo := d4 k
    have hi := d6 hnd k hk
    rw [e0] at lo
    rw [e0, Int.zero_add, Int.toNat_of_nonneg dn] at hi
    exact ⟨dn, lo, hi⟩
  · obtain ⟨a, b⟩ := g5 k hk
    rw [getElem!_congr (d5 k hk), getElem!_congr a, getElem!_congr b]
    obtain ⟨x, y⟩ := hp k hk
    exact ⟨Int.le_trans x y, x, y⟩

/-- `disperse` with a soil pool whose soils release nothing is `disperse` without a soil pool. -/
theorem C04_disperseStepSoil_no_release (g : Grid) (env : DisperseEnv) (suit : List (Int × Int)) (cells : List Cell)
    (p : PestState) (ts : List (Int × Int)) (us : List Rat) :
    disperseStepSoil g env suit [] cells p ts us =
      match disperseStep g env suit cells p ts us with
      | .error e => .error e
      | .ok (cells', p', ts', us') => .ok (cells', p', ts', us', 0) :=
  c04p_disperseGoSoil_no_release g env suit cells p ts us

/-- The same for `disperse` without a soil pool (`disperseStep`). -/
theorem C04_pest_nonneg_and_bounded (g : Grid) (env : DisperseEnv) (suit : List (Int × Int)) (gen : List Int)
    (soilPct : Option Rat) (cells cells' : List Cell) (p p' : PestState)
    (ts ts' : List (Int × Int)) (us us' : List Rat)
    (hpct : ∀ pct, soilPct = some pct → 0 ≤ pct ∧ pct ≤ 1)
    (hlen : gen.length = suit.length)
    (hnd : (suit.map fun rc => g.idx rc.1 rc.2).Nodup)
    (hp : ∀ k : Nat, k ∉ suit.map (fun rc => g.idx rc.1 rc.2) → 0 ≤ p.est[k]! ∧ p.est[k]! ≤ p.disp[k]!)
    (h : disperseStep g env suit cells (generateStep g suit gen soilPct p).1 ts us = .ok (cells', p', ts', us')) :
    (∀ k : Nat, 0 ≤ p'.disp[k]! ∧ 0 ≤ p'.est[k]! ∧ p'.est[k]! ≤ p'.disp[k]!) ∧
    p'.disp = (generateStep g suit gen soilPct p).1.disp ∧
    p'.disp.length = p.disp.length ∧ p'.est.length = p.est.length := by
  apply C04_pest_nonneg_and_bounded_soil g env suit gen soilPct [] cells cells' p p' ts ts' us us' 0 hpct hlen hnd hp
  rw [C04_disperseStepSoil_no_release, h]

/-- `SpreadAction::generate` (actions.hpp 81-103), one generated count per suitable cell:

    * the returned soil shares: `lround (pct * x)` for a positive count `x` with soils, 0 otherwise;
    * every suitable cell's established count is reset to 0;
    * suitable cells pairwise different: the disperser count of the cell becomes `x - lround (pct * x)`
      for a positive count (the whole of `x` without soils) and 0 for a non-positive count - share
      and remainder add up to `x`;
    * cells that are NOT suitable are not written at all (they are not reset to 0): they keep
      whatever the rasters held; the outside list and the raster sizes are unchanged;
    * with an active soil pool (`generateStepSoil`: pest and soil rasters together) the pest rasters
      are those of `generateStep` and the soil rasters are obtained by handing cell `k_j` exactly its
      soil share as arrivals: `shares[j]` calls of `SoilPool::disperser_to` (`soilDisperserTo`), in
      suitable-cell order, threading the uniforms of the soil stream (`soilArriveAll`). -/
theorem C04_generate_split (g : Grid) (suit : List (Int × Int)) (gen : List Int) (soilPct : Option Rat)
    (p : PestState) (hlen : gen.length = suit.length) :
    (generateStep g suit gen soilPct p).2 = gen.map (soilHanded soilPct) ∧
    (∀ k : Nat, k ∈ suit.map (fun rc => g.idx rc.1 rc.2) → (generateStep g suit gen soilPct p).1.est[k]! = 0) ∧
    ((suit.map fun rc => g.idx rc.1 rc.2).Nodup → ∀ (rc : Int × Int) (x : Int), (rc, x) ∈ suit.zip gen →
      g.idx rc.1 rc.2 < p.disp.length →
      (generateStep g suit gen soilPct p).1.disp[g.idx rc.1 rc.2]! = dispersingShare soilPct x ∧
      dispersingShare soilPct x + soilHanded soilPct x = (if x > 0 then x else 0) ∧
      (∀ pct, soilPct = some pct → 0 < x →
        soilHanded soilPct x = lround (pct * x) ∧ dispersingShare soilPct x = x - lround (pct * x)) ∧
      (soilPct = none → 0 < x → soilHanded soilPct x = 0 ∧ dispersingShare soilPct x = x) ∧
      (x ≤ 0 → soilHanded soilPct x = 0 ∧ dispersingShare soilPct x = 0)) ∧
    (∀ k : Nat, k ∉ suit.map (fun rc => g.idx rc.1 rc.2) →
      (generateStep g suit gen soilPct p).1.disp[k]? = p.disp[k]? ∧
      (generateStep g suit gen soilPct p).1.est[k]? = p.est[k]?) ∧
    (generateStep g suit gen soilPct p).1.outside = p.outside ∧
    (generateStep g suit gen soilPct p).1.disp.length = p.disp.length ∧
    (generateStep g suit gen soilPct p).1.est.length = p.est.length ∧
    (∀ (pct : Rat) (sc : SoilCfg) (soil : List (List Int)) (us : List Rat),
      generateStepSoil g suit gen pct sc p soil us =
        match soilArriveAll sc (List.zip (suit.map fun rc => g.idx rc.1 rc.2) (generateStep g suit gen (some pct) p).2) soil us with
        | .error e => .error e
        | .ok (soil', us') => .ok ((generateStep g suit gen (some pct) p).1, soil', us')) := by
  unfold generateStep
  obtain ⟨g1, g2, g3, g4, g5, g6, _, g8⟩ := c04p_generateGo_facts g soilPct suit gen p [] hlen
  rw [List.nil_append] at g1
  refine ⟨g1, g6, ?_, g5, g2, g3, g4, ?_⟩
  · intro hnd rc x hx hk
    refine ⟨by rw [g8 hnd rc x hx, if_pos hk], ?_, ?_, ?_, ?_⟩
    · by_cases hx0 : 0 < x
      · rw [(c04p_shares_pos soilPct hx0).1, (c04p_shares_pos soilPct hx0).2, if_pos hx0, Int.sub_add_cancel]
      · rw [(c04p_shares_nonpos soilPct hx0).1, (c04p_shares_nonpos soilPct hx0).2, if_neg hx0]; rfl
    · intro pct hp hx0
      subst hp
      exact c04p_shares_pos (some pct) hx0
    · intro hp hx0
      subst hp
      exact ⟨(c04p_shares_pos none hx0).1, (c04p_shares_pos none hx0).2.trans (Int.sub_zero x)⟩
    · exact fun hx0 => c04p_shares_nonpos soilPct (Int.not_lt.mpr hx0)
  · intro pct sc soil us
    unfold generateStepSoil
    have := (c04p_generateGo_facts g (some pct) suit gen p [] hlen).1
    rw [List.nil_append] at this
    rw [this]
    exact c04p_generateSoilGo_eq g pct sc suit gen p soil us []

/-- What the arrivals do to the soil of a cell: `n` arrivals add between 0 and `n` dispersers, all to
    the youngest cohort, and consume `n` uniforms when establishment in the soil is stochastic (none
    otherwise); with stochastic establishment off all `n` share one fate (`1 - pEst < weather`). -/
theorem C04_soil_arrivals (w : Rat) (sto : Bool) (pEst : Rat) (n : Nat) (cohorts : List Int) (us : List Rat) :
    (∃ m : Nat, m ≤ n ∧ (soilDispersersTo w sto pEst n cohorts us).1 = addLast cohorts (m : Int)) ∧
    (soilDispersersTo w sto pEst n cohorts us).2 = (if sto then us.drop n else us) ∧
    (soilDispersersTo w false pEst n cohorts us).1 = (if 1 - pEst < w then addLast cohorts (n : Int) else cohorts) := by
  induction n generalizing cohorts us with
  | zero =>
    exact ⟨⟨0, Nat.le_refl _, (addLast_zero cohorts).symm⟩, by cases sto <;> rfl,
      by rw [Int.natCast_zero, addLast_zero, ite_self]; rfl⟩
  | succ n ih =>
    simp only [soilDispersersTo, Bool.false_eq_true, if_false]
    rw [c04p_soilDisperserTo_eq cohorts w sto, c04p_soilDisperserTo_eq cohorts w false]
    obtain ⟨⟨m, m1, m2⟩, m3, _⟩ :=
      ih (addLast cohorts (if (if sto then us.headD 0 else 1 - pEst) < w then 1 else 0)) (if sto then us.drop 1 else us)
    have m4 := (ih (addLast cohorts (if (if false then us.headD 0 else 1 - pEst) < w then 1 else 0)) us).2.2
    rw [addLast_addLast] at m2 m4
    refine ⟨?_, ?_, ?_⟩
    · by_cases hc : (if sto then us.headD 0 else 1 - pEst) < w
      · rw [if_pos hc] at m2 ⊢
        exact ⟨1 + m, by omega, m2⟩
      · rw [if_neg hc] at m2 ⊢
        exact ⟨m, Nat.le_succ_of_le m1, m2.trans (by rw [Int.zero_add])⟩
    · rw [m3]
      cases sto with
      | true => simp only [if_true, List.drop_drop]; congr 1; omega
      | false => simp only [Bool.false_eq_true, if_false]
    · rw [m4]
      simp only [Bool.false_eq_true, if_false]
      by_cases hc : 1 - pEst < w
      · simp only [hc, if_true]; congr 1; omega
      · simp only [hc, if_false, addLast_zero]

/-- A disperser released from the soil of a cell lands in that cell exactly like a kernel-driven
    disperser whose target is that cell (`landOne`, inside the study area), except that the pest
    rasters are not involved: it either establishes - exactly one susceptible host of ITS OWN cell is
    converted, the cell's host total is kept - or is lost (landscape unchanged). -/
theorem C04_soil_disperser_once (g : Grid) (env : DisperseEnv) (cells cells' : List Cell) (p : PestState)
    (r c : Int) (us us' : List Rat) (ok : Bool)
    (hdom : env.mt = .sei → ∀ x ∈ cells, x.e ≠ [])
    (h : landInCell env cells (g.idx r c) us = .ok (cells', ok, us')) :
    (g.isOutside r c = false → landOne g env cells p (r, c) us = .ok (cells', p, ok, us')) ∧
    cells'.length = cells.length ∧
    (∀ k : Nat, k ≠ g.idx r c → cells'[k]? = cells[k]?) ∧
    (ok = true → (cells'[g.idx r c]!).s = (cells[g.idx r c]!).s - 1 ∧
        (cells'[g.idx r c]!).hosts = (cells[g.idx r c]!).hosts) ∧
    (ok = false → cells' = cells) := by
  refine ⟨fun ho => by rw [c04p_landOne_inside g env cells p r c us ho, h], ?_⟩
  obtain ⟨g', r', c', hi, ho, hl⟩ := c04p_landInCell_as_landOne env cells cells' _ us us' ok p h
  have := ((C04_each_disperser_once g' env cells cells' p p (r', c') us us' ok hdom hl).2.1 ho).2
  rwa [hi] at this

/-- `SpreadAction::disperse` with an active soil pool (actions.hpp 118-144): the susceptible hosts
    consumed by spread equal the established dispersers (increase of the established raster) PLUS
    the dispersers established from the soil, which are not counted in any raster; these are at
    most the dispersers the soils of the suitable cells released; the disperser raster is unchanged.
    (`hsz`: the established raster covers the suitable cells, as for `C04_ledger`.) -/
theorem C04_ledger_soil (g : Grid) (env : DisperseEnv) (suit : List (Int × Int)) (soilLandings : List Nat)
    (cells cells' : List Cell) (p p' : PestState) (ts ts' : List (Int × Int)) (us us' : List Rat)
    (establishedFromSoil : Nat)
    (hsz : ∀ rc ∈ suit, g.idx rc.1 rc.2 < p.est.length)
    (h : disperseStepSoil g env suit soilLandings cells p ts us = .ok (cells', p', ts', us', establishedFromSoil)) :
    totalS cells - totalS cells' = sumL p'.est - sumL p.est + (establishedFromSoil : Int) ∧
    establishedFromSoil ≤ (soilLandings.take suit.length).sum ∧
    p'.disp = p.disp ∧ cells'.length = cells.length := by
  unfold disperseStepSoil at h
  obtain ⟨d1, _, d3, _, _, _, d7, d8⟩ := c04p_disperseGoSoil_facts g env suit soilLandings cells cells' p p' ts ts' us us' _ h
  exact ⟨d8 hsz, d7, d1, d3⟩

/-- A disperser cohort at position `pos` of the soil of a cell (0 = oldest), after `j <= pos`
    soil steps - each a release (`soilRelease` by that step's draw, `dispersers_from`) followed by
    ageing (`soilNext`, `next_step`) - is at position `pos - j` and holds exactly what it held minus
    what the draws took from it: it is still in the soil unless released. In particular the youngest
    cohort (`pos = length - 1`) is still there, as the oldest, after `length - 1` steps; without
    releases it is intact. (`C04_soil_ages_out`: after `length` steps it is gone.) -/
theorem C04_soil_stays_until_aged_out (cohorts : List Int) :
    (∀ (draws : List (List Int)) (pos : Nat), (∀ d ∈ draws, d.length = cohorts.length) →
      draws.length ≤ pos → pos < cohorts.length →
      (soilRun draws cohorts)[pos - draws.length]! = cohorts[pos]! - releasedFrom draws pos ∧
      (soilRun draws cohorts).length = cohorts.length) ∧
    (∀ (draws : List (List Int)), (∀ d ∈ draws, d.length = cohorts.length) → draws.length + 1 = cohorts.length →
      (soilRun draws cohorts)[0]! = cohorts[cohorts.length - 1]! - releasedFrom draws (cohorts.length - 1)) ∧
    (∀ j k : Nat, k + j < cohorts.length → (iter soilNext j cohorts)[k]! = cohorts[k + j]!) := by
  refine ⟨fun draws pos hd h1 h2 => ⟨c04p_soilRun_exact draws cohorts hd pos h1 h2, c04p_soilRun_length draws cohorts hd⟩,
    ?_, fun j k h => c04p_iter_soilNext_get! j cohorts k h⟩
  intro draws hd hl
  have e : cohorts.length - 1 = draws.length := by rw [← hl]; rfl
  have := c04p_soilRun_exact draws cohorts hd draws.length (Nat.le_refl _) (by rw [← hl]; exact Nat.lt_succ_self _)
  rw [Nat.sub_self] at this
  rw [e]
  exact this

/-! ### a concrete spread step with soils: 1 x 2 raster, SEI, both cells suitable -/

namespace C04PestEx

def grid : Grid := ⟨1, 2⟩
def suit : List (Int × Int) := [(0, 0), (0, 1)]
/-- cell 0: 3 susceptible, 4 infected; cell 1: 5 susceptible. -/
def land : List Cell := [⟨3, [0, 0], 4, 0, 0, [0], 0, 7⟩, ⟨5, [0, 0], 0, 0, 0, [0], 0, 5⟩]
/-- stale pest rasters (both cells are suitable, so `generate` resets them). -/
def pest0 : PestState := ⟨[9, 9], [7, 7], []⟩
/-- cell 0 generates 4 dispersers, cell 1 none; half of them go to the soil. -/
def gen : List Int := [4, 0]
def soilCfg : SoilCfg := ⟨some [1, 1/2], true, 0⟩
def soil0 : List (List Int) := [[1, 0], [0, 0]]
def env : DisperseEnv := ⟨.sei, true, 0, [7, 5], some [1, 1/2]⟩
def pest1 : PestState := ⟨[2, 0], [0, 0], []⟩

/-- (instance search gives up on the 5-tuple; compose it from the 4-tuple) -/
instance : DecidableEq (List Cell × PestState × List (Int × Int) × List Rat × Nat) :=
  @instDecidableEqProd _ _ _ (inferInstanceAs (DecidableEq (PestState × List (Int × Int) × List Rat × Nat)))

/-- generate: 4 = 2 dispersing + 2 handed to the soil of cell 0. -/
theorem gen_run : generateStep grid suit gen (some (1/2)) pest0 = (pest1, [2, 0]) := by decide +kernel

/-- the soil of cell 0 receives 2 arrivals (uniforms 1/2 and 1 against weather 1: the first is stored). -/
theorem gen_soil_run : generateStepSoil grid suit gen (1/2) soilCfg pest0 soil0 [1/2, 1] = .ok (pest1, [[1, 1], [0, 0]], []) :=
  eq_ok_of_yields (by decide +kernel)

/-- disperse: cell 0 sends one disperser to cell 1 (establishes: 1/4 < 5/5 x 1/2) and one outside; its
    soil releases 1 (establishes: 1/8 < 3/7); the soil of cell 1 releases 2 (9/10 fails, 1/10 < 4/5 x 1/2). -/
theorem disp_run :
    disperseStepSoil grid env suit [1, 2] land pest1 [(0, 1), (0, 5)] [1/4, 1/8, 9/10, 1/10] =
      .ok ([⟨2, [0, 1], 4, 0, 1, [0], 0, 7⟩, ⟨3, [0, 2], 0, 0, 2, [0], 0, 5⟩], ⟨[2, 0], [1, 0], [(0, 5)]⟩, [], [], 2) :=
  eq_ok_of_yields (by decide +kernel)

example : ∀ k : Nat, 0 ≤ ([2, 0] : List Int)[k]! ∧ 0 ≤ ([1, 0] : List Int)[k]! ∧ ([1, 0] : List Int)[k]! ≤ ([2, 0] : List Int)[k]! :=
  (C04_pest_nonneg_and_bounded_soil grid env suit gen (some (1/2)) [1, 2] land _ pest0 _ _ _ _ _ 2
    (fun pct h => by injection h with h; subst h; exact ⟨by decide +kernel, by decide +kernel⟩) rfl (by decide)
    (fun k hk =>
      match k, hk with
      | 0, hk => absurd (by decide) hk
      | 1, hk => absurd (by decide) hk
      | k + 2, _ => ⟨Int.le_refl _, Int.le_refl _⟩)
    (by rw [gen_run]; exact disp_run)).1

/-- 8 susceptible before, 5 after: 1 established disperser + 2 established from the soil. -/
example : totalS land - totalS [⟨2, [0, 1], 4, 0, 1, [0], 0, 7⟩, ⟨3, [0, 2], 0, 0, 2, [0], 0, 5⟩] =
    sumL ([1, 0] : List Int) - sumL pest1.est + ((2 : Nat) : Int) ∧ 2 ≤ (([1, 2] : List Nat).take suit.length).sum :=
  let h := C04_ledger_soil grid env suit [1, 2] land _ pest1 _ _ _ _ _ 2 (by decide) disp_run
  ⟨h.1, h.2.1⟩

example : (generateStep grid suit gen (some (1/2)) pest0).1.disp[grid.idx 0 0]! = dispersingShare (some (1/2)) 4 ∧
    dispersingShare (some (1/2)) 4 + soilHanded (some (1/2)) 4 = 4 :=
  let h := (C04_generate_split grid suit gen (some (1/2)) pest0 rfl).2.2.1 (by decide) (0, 0) 4 (by decide) (by decide)
  ⟨h.1, h.2.1⟩

/-- Soil cohorts `[3, 0, 4]` with draws `[1,0,1]` then `[0,2,0]` (it has moved to the middle): the youngest cohort (4) is the
    oldest after two steps and holds 4 - 1 - 2 = 1. -/
example : (soilRun [[1, 0, 1], [0, 2, 0]] [3, 0, 4])[0]! = 1 ∧ releasedFrom [[1, 0, 1], [0, 2, 0]] 2 = 3 := by decide

example : (soilRun [[1, 0, 1], [0, 2, 0]] [3, 0, 4])[0]! = ([3, 0, 4] : List Int)[2]! - releasedFrom [[1, 0, 1], [0, 2, 0]] 2 :=
  (C04_soil_stays_until_aged_out [3, 0, 4]).2.1 [[1, 0, 1], [0, 2, 0]] (by decide) rfl

/-! Each hypothesis of `C04_pest_nonneg_and_bounded` is needed (no soils, every landing establishes). -/

def envDet : DisperseEnv := ⟨.si, false, 1, [7, 5], none⟩

/-- A cell listed twice as suitable disperses twice: 2 established > 1 disperser. -/
example : disperseStep grid envDet [(0, 0), (0, 0)] land (generateStep grid [(0, 0), (0, 0)] [1, 1] none ⟨[0, 0], [0, 0], []⟩).1
      [(0, 1), (0, 1)] [] = .ok ([⟨3, [0, 0], 4, 0, 0, [0], 0, 7⟩, ⟨3, [0, 0], 2, 0, 0, [2], 0, 5⟩], ⟨[1, 0], [2, 0], []⟩, [], []) :=
  eq_ok_of_yields (by decide +kernel)

/-- A generated-count list shorter than the suitable-cell list leaves a suitable cell unreset. -/
example : disperseStep grid envDet [(0, 0)] land (generateStep grid [(0, 0)] [] none ⟨[1, 0], [1, 0], []⟩).1
      [(0, 1)] [] = .ok ([⟨3, [0, 0], 4, 0, 0, [0], 0, 7⟩, ⟨4, [0, 0], 1, 0, 0, [1], 0, 5⟩], ⟨[1, 0], [2, 0], []⟩, [], []) :=
  eq_ok_of_yields (by decide +kernel)

/-- A cell that is not suitable is never written: whatever the caller's rasters hold there stays. -/
example : disperseStep grid envDet [(0, 0)] land (generateStep grid [(0, 0)] [0] none ⟨[0, 1], [0, 5], []⟩).1
      [] [] = .ok (land, ⟨[0, 1], [0, 5], []⟩, [], []) :=
  eq_ok_of_yields (by decide +kernel)

/-- A soil percentage above 1 makes the disperser count negative. -/
example : (generateStep grid [(0, 0)] [1] (some 2) ⟨[0, 0], [0, 0], []⟩).1.disp = [-1, 0] := by decide +kernel

end C04PestEx

end Pops
