/-
  C05 in the regime the guard `step >= latency` of `step_forward` is there for: runs that START
  BEFORE step L (in particular at step 0), with seasonal gaps in the spread schedule.

  `C05_exact_latency` / `C05_latency_with_removals` assume `latency ≤ step0` and number the spread
  steps consecutively; that makes the guard constantly true. Here a history is a strictly
  increasing list of spread-step NUMBERS `steps` (starting anywhere, also at 0, any gaps) with the
  exposures `xs` (`xs[k]` hosts exposed at the k-th spread step), starting from a cell whose
  exposed cohorts are all empty (`c.e = replicate (L+1) 0`, the state of a fresh run).

  * `C05_early_exact_latency`   full state after the run: exactly the exposures of the first
                                 n - L spread steps have matured (into `i` and the youngest
                                 mortality cohort), the cohorts hold the last min(n, L) exposures in
                                 order, `te` follows;
  * `C05_early_every_prefix`     the same count after every prefix of the run, and the increment:
                                 spread step number k (0-based) matures exactly `xs[k - L]` if
                                 `L ≤ k` and nothing otherwise - a host exposed at spread step t is
                                 counted as infected from spread step t + L on and not earlier;
  * `C05_early_closed`           the general closed form behind both (any initial cohorts `Q`, any
                                 step numbers), under the condition that at every spread step the
                                 guard holds or the front cohort is empty (the regime of
                                 `C05_exact_latency`, `latency ≤ step0`, meets the condition;
                                 that theorem is about `latencyRun` and is not derived here);
  * `C05_preloaded_old_cohort_is_recycled`  the EXCLUDED case: a non-empty front cohort at a step
                                 number < L is not matured but rotated to the youngest position
                                 (hosts exposed "before the run" wait another L + 1 spread steps).

  Key fact: the k-th spread step (0-based) has number ≥ k; so for k ≥ L the guard holds, and for
  k < L the front cohort is one of the initial empty ones, so the guard does not matter.
  The exposures need not be non-negative for any of this.
-/
import PopsModel.Props.C05
import PopsModel.Lemmas.C05Early
namespace Pops

/-- Exact latency from a fresh start. `steps`: strictly increasing spread-step numbers (any first
    number, any gaps); `xs`: the exposures, one per spread step; `c`: a cell with L + 1 empty
    exposed cohorts and a non-empty mortality tracker. After the n = |xs| spread steps

    * infected = initial + the exposures of the first n - L spread steps, nothing else;
    * the exposed vector is: L - n empty cohorts (only while n < L), then the last min(n, L)
      exposures in order of exposure (oldest first), then the empty youngest cohort;
    * total_exposed = initial + their sum (= the sum of the exposed vector);
    * the matured hosts sit in the youngest (last) mortality cohort, the other cohorts are
      untouched;
    * susceptible = initial - all exposures; resistant, died, total hosts unchanged. -/
theorem C05_early_exact_latency (L : Nat) (steps : List Nat) (xs : List Int) (c : Cell)
    (hinc : steps.Pairwise (· < ·)) (hlen : steps.length = xs.length)
    (he : c.e = List.replicate (L + 1) 0) (hm : c.mort ≠ []) :
    (latencyRunAt L steps xs c).i = c.i + sumL (xs.take (xs.length - L)) ∧
    (latencyRunAt L steps xs c).e =
      List.replicate (L - xs.length) 0 ++ xs.drop (xs.length - L) ++ [0] ∧
    (latencyRunAt L steps xs c).te = c.te + sumL (xs.drop (xs.length - L)) ∧
    sumL (latencyRunAt L steps xs c).e = sumL (xs.drop (xs.length - L)) ∧
    (latencyRunAt L steps xs c).mort =
      c.mort.dropLast ++ [c.mort.getLast! + sumL (xs.take (xs.length - L))] ∧
    (latencyRunAt L steps xs c).s = c.s - sumL xs ∧
    (latencyRunAt L steps xs c).r = c.r ∧ (latencyRunAt L steps xs c).died = c.died ∧
    (latencyRunAt L steps xs c).th = c.th := by
  rw [early_run_fresh L steps xs c hinc hlen he]
  refine ⟨rfl, rfl, rfl, ?_, guard_addLast_eq c.mort _ hm, rfl, rfl, rfl, rfl⟩
  simp only [sumL_append, sumL_replicate_zero, sumL_cons, sumL_nil]
  omega

/-- After EVERY prefix of the run (the first n spread steps, n ≤ |xs|) the infected count is the
    initial one plus the exposures of the first n - L spread steps; and spread step number n
    (0-based, i.e. the step from the prefix n to the prefix n + 1) matures exactly `xs[n - L]` when
    `L ≤ n` and nothing when `n < L`: a host exposed at spread step t becomes infected at spread
    step t + L, not before, whatever the step numbers (gaps) are, and no latency transition moves
    any host before the L-th spread step of the run. -/
theorem C05_early_every_prefix (L : Nat) (steps : List Nat) (xs : List Int) (c : Cell)
    (hinc : steps.Pairwise (· < ·)) (hlen : steps.length = xs.length)
    (he : c.e = List.replicate (L + 1) 0) (n : Nat) (hn : n ≤ xs.length) :
    (latencyRunAt L (steps.take n) (xs.take n) c).i = c.i + sumL (xs.take (n - L)) ∧
    (n < xs.length →
      (latencyRunAt L (steps.take (n + 1)) (xs.take (n + 1)) c).i =
        (latencyRunAt L (steps.take n) (xs.take n) c).i + (if L ≤ n then xs[n - L]! else 0)) := by
  have key : ∀ k, k ≤ xs.length →
      (latencyRunAt L (steps.take k) (xs.take k) c).i = c.i + sumL (xs.take (k - L)) := by
    intro k hk
    have hl : (steps.take k).length = (xs.take k).length := by
      rw [List.length_take, List.length_take, hlen]
    rw [early_run_fresh L _ _ c (hinc.sublist (List.take_sublist k steps)) hl he]
    show c.i + sumL ((xs.take k).take ((xs.take k).length - L)) = _
    rw [List.length_take, Nat.min_eq_left hk, List.take_take, Nat.min_eq_left (Nat.sub_le k L)]
  refine ⟨key n hn, fun hlt => ?_⟩
  rw [key (n + 1) hlt, key n hn]
  by_cases hLn : L ≤ n
  · rw [Nat.sub_add_comm hLn, early_sumL_take_succ, if_pos hLn, Int.add_assoc]
  · rw [Nat.sub_eq_zero_of_le (Nat.le_of_not_le hLn), Nat.sub_eq_zero_of_le (Nat.not_le.mp hLn),
      if_neg hLn, Int.add_zero]

/-- The general closed form: exposed vector `Q ++ [0]` (any cohorts `Q`, empty youngest cohort), any
    step numbers, provided that at the j-th spread step the guard holds OR the cohort then at the
    front (the j-th element of `Q ++ xs`) is empty. `Q ++ xs` lists the cohorts in the order in
    which they reach the front; the first n = |xs| of them have matured, the others are the exposed
    vector. Instance: `C05_early_exact_latency` (Q all empty, increasing step numbers); step
    numbers that are all ≥ L, the regime of `C05_exact_latency`, meet the condition too. -/
theorem C05_early_closed (L : Nat) (steps : List Nat) (xs Q : List Int) (c : Cell)
    (hlen : steps.length = xs.length) (he : c.e = Q ++ [0])
    (hcond : ∀ j, j < xs.length → L ≤ steps[j]! ∨ (Q ++ xs)[j]! = 0) :
    latencyRunAt L steps xs c =
      { c with s := c.s - sumL xs, e := (Q ++ xs).drop xs.length ++ [0],
               i := c.i + sumL ((Q ++ xs).take xs.length),
               mort := addLast c.mort (sumL ((Q ++ xs).take xs.length)),
               te := c.te + sumL xs - sumL ((Q ++ xs).take xs.length) } :=
  early_run_closed L xs steps Q c hlen he hcond

/-- The EXCLUDED case, stated explicitly (documented behaviour outside the property's domain: hosts
    already sitting in the oldest exposed cohort when the run starts, i.e. exposed before the run).
    At a step number < L the latency step does not mature the front cohort `a`: it is rotated to
    the YOUNGEST position (where the next exposure is added to it), infected and the mortality
    cohorts do not change. With L + 1 cohorts these hosts therefore wait another L + 1 spread
    steps. When `a ≠ 0` this differs from what the guard-free rule would give
    (`i + a`, youngest cohort empty). -/
theorem C05_preloaded_old_cohort_is_recycled (L step : Nat) (c : Cell) (a : Int) (T : List Int)
    (he : c.e = a :: T) (hs : step < L) :
    (c.stepForward .sei L step).e = T ++ [a] ∧ (c.stepForward .sei L step).i = c.i ∧
    (c.stepForward .sei L step).mort = c.mort ∧ (c.stepForward .sei L step).te = c.te ∧
    (a ≠ 0 → (c.stepForward .sei L step).e ≠ T ++ [0] ∧ (c.stepForward .sei L step).i ≠ c.i + a) := by
  have hns : ¬ step ≥ L := by omega
  unfold Cell.stepForward
  simp only [hns, if_false, he, rotateLeft, true_and]
  intro ha
  refine ⟨fun h => ?_, by omega⟩
  have := List.append_cancel_left h
  simp only [List.cons.injEq, and_true] at this
  exact ha this

/-! ### instances -/

/-- L = 2, spread steps numbered 0, 1, 4, 5, 9 (a run from step 0 with two gaps), exposures
    3, 1, 4, 2, 6: the hypotheses hold, and the theorem gives: infected 7 + (3 + 1 + 4) = 15,
    cohorts [2, 6, 0], total exposed 8, the 8 matured hosts in the last mortality cohort. -/
example :
    let c : Cell := ⟨40, [0, 0, 0], 7, 0, 0, [5, 2], 0, 47⟩
    [0, 1, 4, 5, 9].Pairwise (· < ·) ∧ c.e = List.replicate (2 + 1) 0 ∧ c.mort ≠ [] ∧
    (latencyRunAt 2 [0, 1, 4, 5, 9] [3, 1, 4, 2, 6] c).i = 15 ∧
    (latencyRunAt 2 [0, 1, 4, 5, 9] [3, 1, 4, 2, 6] c).e = [2, 6, 0] ∧
    (latencyRunAt 2 [0, 1, 4, 5, 9] [3, 1, 4, 2, 6] c).te = 8 ∧
    (latencyRunAt 2 [0, 1, 4, 5, 9] [3, 1, 4, 2, 6] c).mort = [5, 10] ∧
    (latencyRunAt 2 [0, 1, 4, 5, 9] [3, 1, 4, 2, 6] c).s = 24 := by
  intro c
  have hinc : [0, 1, 4, 5, 9].Pairwise (· < ·) := by decide
  obtain ⟨h1, h2, h3, _, h5, h6, _⟩ :=
    C05_early_exact_latency 2 [0, 1, 4, 5, 9] [3, 1, 4, 2, 6] c hinc rfl rfl (by decide)
  exact ⟨hinc, rfl, by decide, by rw [h1]; decide, by rw [h2]; decide, by rw [h3]; decide,
    by rw [h5]; decide, by rw [h6]; decide⟩

/-- The same run observed after every spread step: infected 7, 7, 10, 11, 15 after 1..5 spread
    steps - nothing matures in the first L = 2 spread steps (numbers 0 and 1 < L), the 3 hosts of
    spread step 0 mature at spread step 2 (number 4), the 1 of step 1 at step 3 (number 5), the 4 of
    step 2 at step 4 (number 9). -/
example :
    let c : Cell := ⟨40, [0, 0, 0], 7, 0, 0, [5, 2], 0, 47⟩
    (List.range 6).map (fun n =>
      (latencyRunAt 2 ([0, 1, 4, 5, 9].take n) ([3, 1, 4, 2, 6].take n) c).i) = [7, 7, 7, 10, 11, 15] ∧
    (List.range 6).map (fun n =>
      (latencyRunAt 2 ([0, 1, 4, 5, 9].take n) ([3, 1, 4, 2, 6].take n) c).e) =
        [[0, 0, 0], [0, 3, 0], [3, 1, 0], [1, 4, 0], [4, 2, 0], [2, 6, 0]] := by
  decide

/-- A run that starts late in a gap-free schedule is covered too (numbers 7, 8, 9; L = 2). -/
example :
    (latencyRunAt 2 [7, 8, 9] [3, 1, 4] ⟨40, [0, 0, 0], 7, 0, 0, [5, 2], 0, 47⟩).i = 7 + 3 ∧
    (latencyRunAt 2 [7, 8, 9] [3, 1, 4] ⟨40, [0, 0, 0], 7, 0, 0, [5, 2], 0, 47⟩).e = [1, 4, 0] := by
  obtain ⟨h1, h2, _⟩ := C05_early_exact_latency 2 [7, 8, 9] [3, 1, 4]
    ⟨40, [0, 0, 0], 7, 0, 0, [5, 2], 0, 47⟩ (by decide) rfl rfl (by decide)
  exact ⟨by rw [h1]; decide, by rw [h2]; decide⟩

/-- The excluded case on numbers: e = [5, 0, 0], L = 2, spread steps 0, 1, 2, 3 without new
    exposures. Step 0 < L rotates the 5 preloaded hosts to the youngest position ([0, 0, 5]); they
    reach the front again after steps 1 and 2 and mature at step 3 - not at step 0 (guard-free
    rule), and not at step 2 = L either. -/
example :
    let c : Cell := ⟨40, [5, 0, 0], 7, 0, 5, [5, 2], 0, 52⟩
    (c.stepForward .sei 2 0).e = [0, 0, 5] ∧ (c.stepForward .sei 2 0).i = 7 ∧
    (List.range 5).map (fun n => (latencyRunAt 2 ([0, 1, 2, 3].take n) ([0, 0, 0, 0].take n) c).i) =
      [7, 7, 7, 7, 12] ∧
    (List.range 5).map (fun n => (latencyRunAt 2 ([0, 1, 2, 3].take n) ([0, 0, 0, 0].take n) c).e) =
      [[5, 0, 0], [0, 0, 5], [0, 5, 0], [5, 0, 0], [0, 0, 0]] := by
  intro c
  obtain ⟨h1, h2, _⟩ := C05_preloaded_old_cohort_is_recycled 2 0 c 5 [0, 0] rfl (by decide)
  exact ⟨h1, h2, by decide, by decide⟩

/-- `C05_early_closed` with preloaded cohorts and late step numbers (the regime of
    `C05_exact_latency`): Q = [5, 1], steps 2, 3, 4 ≥ L = 2, exposures 3, 1, 4: the cohorts reach
    the front in the order 5, 1, 3, 1, 4; the first three have matured. -/
example :
    latencyRunAt 2 [2, 3, 4] [3, 1, 4] ⟨40, [5, 1, 0], 7, 0, 6, [5, 2], 0, 53⟩ =
      ⟨32, [1, 4, 0], 16, 0, 5, [5, 11], 0, 53⟩ := by
  rw [C05_early_closed 2 [2, 3, 4] [3, 1, 4] [5, 1] _ rfl rfl (by decide)]
  decide

end Pops
