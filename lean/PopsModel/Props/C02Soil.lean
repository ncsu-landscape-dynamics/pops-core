/-
  C02 (soil part): soil cohorts stay non-negative and the deterministic release never exceeds what
  the soil holds. The stochastic release is the open finding F22 (its Poisson sum is not clamped).
-/
import PopsModel.Model.Actions
import PopsModel.Lemmas.Actions
namespace Pops

/-- The deterministic soil release `floor (weather x stored)` lies between 0 and what is stored,
    for every weather coefficient in [0,1]; storing a disperser keeps the cohorts non-negative. -/
theorem C02_soil_release_bounded (cohorts : List Int) (w : Rat) (h0 : 0 ≤ w) (h1 : w ≤ 1)
    (hn : ∀ x ∈ cohorts, 0 ≤ x) :
    0 ≤ soilReleaseDet cohorts w ∧ soilReleaseDet cohorts w ≤ sumL cohorts ∧
    (∀ (sto : Bool) (pEst u : Rat), ∀ x ∈ soilDisperserTo cohorts w sto pEst u, 0 ≤ x) := by
  have hs := sumL_nonneg hn
  obtain ⟨a, b⟩ := rfloor_share hs h0 h1
  have hc : w * ((sumL cohorts : Int) : Rat) = ((sumL cohorts : Int) : Rat) * w := Rat.mul_comm _ _
  refine ⟨by unfold soilReleaseDet; rw [hc]; exact a, by unfold soilReleaseDet; rw [hc]; exact b, ?_⟩
  intro sto pEst u x hx
  unfold soilDisperserTo at hx
  by_cases hc : (if sto = true then u else 1 - pEst) < w
  · rw [if_pos hc] at hx; exact allNN_addLast hn (by decide) x hx
  · rw [if_neg hc] at hx; exact hn x hx

/-- Full statement for the stochastic release (any released number `n`): the number handed to
    the caller never exceeds what the soil held. False of the code: `n` is an unclamped Poisson
    sum while only the cohorts are clamped (finding F22). -/
def C02_soil_stochastic_full : Prop :=
  ∀ (cohorts : List Int) (n : Int), (∀ x ∈ cohorts, 0 ≤ x) → 0 ≤ n → n ≤ sumL cohorts

theorem C02_soil_stochastic_full_fails : ¬ C02_soil_stochastic_full := by
  intro h
  exact absurd (h [1] 5 (by decide) (by decide)) (by decide)

example : soilReleaseDet [3, 4] 1 = 7 := by
  unfold soilReleaseDet
  have : (1 : Rat) * ((sumL [3, 4] : Int) : Rat) = ((7 : Int) : Rat) := by
    simp [sumL]
  rw [this]; exact rfloor_int 7

end Pops
