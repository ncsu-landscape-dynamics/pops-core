/-
  C10, treatments by date and over a run (complements Props/C10.lean).

  * `C10_registered_at_containing_step`: `Treatments::add_treatment` registers a treatment at the
    index of THE step containing its date (and a pesticide's end at the step containing the date
    `num_days` days later); a date outside every step is rejected.
  * `C10_run_treatments_once`: when the events a run sees are those `manage` derives from the
    registered list, each treatment contributes its application operations exactly once in the whole
    run - at its start step if that step is in the run, never otherwise - and a pesticide its end
    operations exactly once, at its end step.
  * `C10_cleared_never_run_over_run`: after `clear_after_step(s)` no treatment is applied after step `s`.
-/
import PopsModel.Lemmas.C10Dates
import PopsModel.Lemmas.RunModel
namespace Pops
open Date

/-- For a tiled calendar (`C07_tiles`: every calendar the `Scheduler` constructor accepts) and a
    valid start date, `Treatments::add_treatment(map, date, n, app)`:

    * succeeds with `spec` only if `spec.start` is the index of a step containing `date`, and that
      step is the only one containing it; a simple treatment (`n = 0`) has `end_ = start`; for
      `n > 0` the treatment is a pesticide and `spec.end_` is the index of the one step containing
      the date `n` days later (`n` successive `add_day`s), which is not before the start step;
    * is rejected with `invalid_argument` when no step contains `date`, or (`n > 0`) when no step
      contains the end date;
    * conversely succeeds, with exactly those indices, whenever the dates lie in steps. -/
theorem C10_registered_at_containing_step (start end_ : Date) (steps : List Step)
    (htile : TilesCalendar start end_ steps = true) (date : Date) (hv : date.Valid) (n : Nat) :
    (∀ spec, addTreatment steps date n = .ok spec →
      (∃ st, steps[spec.start]? = some st ∧ st.contains date = true) ∧
      (∀ k st, steps[k]? = some st → st.contains date = true → k = spec.start) ∧
      (n = 0 → spec.pesticide = false ∧ spec.end_ = spec.start) ∧
      (0 < n → spec.pesticide = true ∧
        (∃ st, steps[spec.end_]? = some st ∧ st.contains (iter Date.addDay n date) = true) ∧
        (∀ k st, steps[k]? = some st → st.contains (iter Date.addDay n date) = true → k = spec.end_) ∧
        spec.start ≤ spec.end_)) ∧
    ((∀ st ∈ steps, st.contains date = false) → addTreatment steps date n = .error .invalid_argument) ∧
    (0 < n → (∀ st ∈ steps, st.contains (iter Date.addDay n date) = false) →
      addTreatment steps date n = .error .invalid_argument) ∧
    (∀ k st, steps[k]? = some st → st.contains date = true →
      (n = 0 → addTreatment steps date n = .ok ⟨false, k, k⟩) ∧
      (0 < n → ∀ k' st', steps[k']? = some st' → st'.contains (iter Date.addDay n date) = true →
        addTreatment steps date n = .ok ⟨true, k, k'⟩)) := by
  obtain ⟨hve, hoe⟩ := iter_good (f := Date.addDay) (fun t hv => addDay_spec t hv) n date hv
  have hord : date.ord ≤ (iter Date.addDay n date).ord :=
    Int.le_trans (Int.le_add_of_nonneg_right (Int.natCast_nonneg n)) hoe
  have uniq : ∀ (x : Date), x.Valid → ∀ (j k : Nat) (s1 s2 : Step), steps[j]? = some s1 → steps[k]? = some s2 →
      s1.contains x = true → s2.contains x = true → j = k :=
    fun x hx => (C07_partition start end_ steps htile x hx).1
  have rej : ∀ (x : Date), x.Valid → (∀ st ∈ steps, st.contains x = false) →
      scheduleActionDate steps x = .error .invalid_argument :=
    fun x hx => (C07_partition start end_ steps htile x hx).2.2.2
  rw [c10d_addTreatment_eq]
  refine ⟨?_, ?_, ?_, ?_⟩
  · intro spec hspec
    cases hs : scheduleActionDate steps date with
    | error e => simp only [hs, reduceCtorEq] at hspec
    | ok s =>
      simp only [hs] at hspec
      obtain ⟨st, h1, h2⟩ := (c10d_lookup_iff start end_ steps htile date hv s).mp hs
      by_cases hn : n = 0
      · rw [if_pos hn] at hspec
        cases hspec
        exact ⟨⟨st, h1, h2⟩, fun k st' a b => uniq date hv k s st' st a h1 b h2, fun _ => ⟨rfl, rfl⟩,
          fun h => absurd hn (Nat.ne_of_gt h)⟩
      · rw [if_neg hn] at hspec
        cases he : scheduleActionDate steps (iter Date.addDay n date) with
        | error e => simp only [he, reduceCtorEq] at hspec
        | ok e =>
          simp only [he] at hspec
          cases hspec
          obtain ⟨st2, g1, g2⟩ := (c10d_lookup_iff start end_ steps htile _ hve e).mp he
          exact ⟨⟨st, h1, h2⟩, fun k st' a b => uniq date hv k s st' st a h1 b h2, fun h => absurd h hn, fun _ =>
            ⟨rfl, ⟨st2, g1, g2⟩, fun k st' a b => uniq _ hve k e st' st2 a g1 b g2,
              chain_ordered steps (tiles_chain htile).1 (tiles_chain htile).2 date _ hv hve hord s e st st2 h1 g1 h2 g2⟩⟩
  · intro hnone
    rw [rej date hv hnone]
  · intro hn hnone
    cases hs : scheduleActionDate steps date with
    | error e => rw [((lookup_first date steps 0).2.1 e hs).1]
    | ok s => simp only [if_neg (Nat.ne_of_gt hn), rej _ hve hnone]
  · intro k st h1 h2
    have hs := (c10d_lookup_iff start end_ steps htile date hv k).mpr ⟨st, h1, h2⟩
    refine ⟨fun hn => by simp only [hs, if_pos hn], fun hn k' st' g1 g2 => ?_⟩
    simp only [hs, if_neg (Nat.ne_of_gt hn), (c10d_lookup_iff start end_ steps htile _ hve k').mpr ⟨st', g1, g2⟩]

/-- `treatEvents` of a step is what `manage(step)` derives from the registered list: one event per
    treatment whose `eventAt step` is not `.nothing`, in list order, an application at its start
    step and (pesticide) an end at its end step. -/
theorem C10_eventsAt (ts : List Treatment) (step : Nat) :
    eventsAt ts step = ts.filterMap (·.eventOf step) ∧
    (∀ t : Treatment, (t.eventOf step = none ↔ t.1.eventAt step = .nothing) ∧
      (t.1.eventAt step = .apply → t.eventOf step = some (false, t.1.pesticide, t.2.1, t.2.2)) ∧
      (t.1.eventAt step = .finish → t.eventOf step = some (true, t.1.pesticide, t.2.1, t.2.2))) := by
  refine ⟨rfl, fun t => ?_⟩
  unfold Treatment.eventOf
  cases t.1.eventAt step <;> simp

/-- Over a run `runModel cfg inps first l` whose steps see the events of the registered list `ts`
    (`inps[k].treatEvents = eventsAt ts (first + k)`; pesticides end after they start):

    * step `first + k` of the run runs `inps[k]` (the run is: the first `k` steps, then the generators
      `stepGens cfg inps[k] (first + k)`, then the rest); these generators are the plan's actions, the
      treatments generator is among them exactly when treatments are enabled, and then once; its
      output is, in list order, each registered treatment's contribution at that step
      (`Treatment.opsAt`: application operations at the start step, end operations at a pesticide's
      end step, nothing otherwise);
    * the concatenated output of the treatments generator over the whole run (`treatOpsOfRun`) is the
      operations of the tagged trace `treatTrace ts first inps.length`;
    * in that trace the `i`-th registered treatment is applied exactly once - at its start step - if
      that step is one of the run's steps, and never otherwise; a pesticide is ended exactly once - at
      its end step - if that step is one of the run's steps, never otherwise; a simple treatment is
      never ended. -/
theorem C10_run_treatments_once (cfg : StepCfg) (ts : List Treatment) (inps : List StepInputs) (first : Nat)
    (hlt : ∀ t ∈ ts, t.1.pesticide = true → t.1.start < t.1.end_)
    (hev : ∀ k inp, inps[k]? = some inp → inp.treatEvents = eventsAt ts (first + k)) :
    (∀ k inp, inps[k]? = some inp →
      (∀ l, runModel cfg inps first l =
        (runModel cfg (inps.take k) first l >>= fun m => runGens (stepGens cfg inp (first + k)) m >>= fun m' =>
          runModel cfg (inps.drop (k + 1)) (first + k + 1) m')) ∧
      stepGens cfg inp (first + k) = (plan cfg (first + k)).map (fun a => actionGen inp (first + k) a.1) ∧
      ((plan cfg (first + k)).map (·.1)).count .treatments = (if cfg.useTreatments then 1 else 0) ∧
      (∀ l, actionGen inp (first + k) .treatments l = ts.flatMap (·.opsAt inp (first + k))) ∧
      stepInputAt inps first (first + k) = some inp) ∧
    treatOpsOfRun cfg inps first =
      (if cfg.useTreatments then (treatTrace ts first inps.length).flatMap (tagOps ts (stepInputAt inps first)) else []) ∧
    (∀ i, i < ts.length →
      (treatTrace ts first inps.length).filter (fun tag => tag.2.1 == i && !tag.2.2) =
        (if first ≤ (ts[i]!).1.start ∧ (ts[i]!).1.start < first + inps.length
         then [((ts[i]!).1.start, i, false)] else []) ∧
      (treatTrace ts first inps.length).filter (fun tag => tag.2.1 == i && tag.2.2) =
        (if (ts[i]!).1.pesticide = true ∧ first ≤ (ts[i]!).1.end_ ∧ (ts[i]!).1.end_ < first + inps.length
         then [((ts[i]!).1.end_, i, true)] else [])) := by
  have hat : ∀ k inp, inps[k]? = some inp → stepInputAt inps first (first + k) = some inp := by
    intro k inp hk
    unfold stepInputAt
    rw [if_pos (by omega), Nat.add_sub_cancel_left, hk]
  refine ⟨?_, c10d_treatOpsOfRun cfg ts inps first _ hat hev, ?_⟩
  · intro k inp hk
    refine ⟨?_, rfl, ?_, ?_, hat k inp hk⟩
    · intro l
      obtain ⟨hklt, he⟩ := List.getElem?_eq_some_iff.mp hk
      have hsplit : inps.take k ++ inp :: inps.drop (k + 1) = inps := by
        rw [← he, ← List.drop_eq_getElem_cons hklt, List.take_append_drop]
      conv => lhs; rw [← hsplit, runModel_append, List.length_take_of_le (Nat.le_of_lt hklt)]
      rfl
    · rw [act_plan_map_fst]
      have hr : cfg.runs (first + k) .treatments = cfg.useTreatments := rfl
      cases hu : cfg.useTreatments with
      | true =>
        rw [List.count_filter (by rw [hr, hu])]
        decide
      | false =>
        rw [List.count_eq_zero.mpr]
        · rfl
        · intro hm
          have := (List.mem_filter.mp hm).2
          rw [hr, hu] at this
          cases this
    · intro l
      rw [c10d_actionGen_treatments, hev k inp hk, c10d_eventsAt_flatMap]
  · intro i hi
    have hm : ts[i]! ∈ ts := act_getElem!_mem hi
    exact ⟨c10d_trace_filter_apply ts first inps.length i hi,
      c10d_trace_filter_finish ts first inps.length i hi (hlt _ hm)⟩

/-- `Treatments::clear_after_step(s)` restated over the run that follows (events derived from the
    cleared list): a treatment stays iff it was registered with a start step `<= s` (the schedules
    are those `clearAfterStep` of `C10_cleared_never_run` keeps); up to step `s` the events are
    unchanged; the events of any step are a sub-list (same order) of those of the uncleared list;
    after step `s` every event is the end of an earlier pesticide; and in the trace of any run
    no application is dated after step `s`: treatments dated after the cleared step never run. -/
theorem C10_cleared_never_run_over_run (ts : List Treatment) (s : Nat)
    (hlt : ∀ t ∈ ts, t.1.pesticide = true → t.1.start < t.1.end_) :
    (∀ t, t ∈ clearAfter ts s ↔ (t ∈ ts ∧ t.1.start ≤ s)) ∧
    (clearAfter ts s).map (·.1) = clearAfterStep (ts.map (·.1)) s ∧
    (∀ step, step ≤ s → eventsAt (clearAfter ts s) step = eventsAt ts step) ∧
    (∀ step, (eventsAt (clearAfter ts s) step).Sublist (eventsAt ts step)) ∧
    (∀ step, s < step → ∀ ev ∈ eventsAt (clearAfter ts s) step, ev.1 = true) ∧
    (∀ first n, ∀ tag ∈ treatTrace (clearAfter ts s) first n, tag.2.2 = false → tag.1 ≤ s) := by
  refine ⟨c10d_mem_clearAfter ts s, by rw [clearAfter, clearAfterStep, List.filter_map]; rfl,
    fun step h => c10d_eventsAt_clear_before ts s step h hlt,
    fun step => List.Sublist.filterMap _ List.filter_sublist, ?_, ?_⟩
  · intro step hs ev hev
    unfold eventsAt at hev
    obtain ⟨t, ht, he⟩ := List.mem_filterMap.mp hev
    have hst := ((c10d_mem_clearAfter ts s t).mp ht).2
    cases hb : ev.1 with
    | true => rfl
    | false =>
      have := (c10d_eventAt_apply t.1 step).mp ((c10d_eventOf_finish_flag t step ev he).mp hb)
      omega
  · intro first n tag htag hfin
    unfold treatTrace at htag
    obtain ⟨k, _, hk⟩ := List.mem_flatMap.mp htag
    obtain ⟨h1, h2, h3⟩ := c10d_tag_step (clearAfter ts s) (first + k) tag hk
    rcases h3 with ⟨_, ha⟩ | ⟨hb, _⟩
    · have hst := ((c10d_mem_clearAfter ts s _).mp (act_getElem!_mem h2)).2
      have := (c10d_eventAt_apply _ _).mp ha
      omega
    · rw [hfin] at hb; cases hb

/-! ### monthly steps from 2019-11-01; a pesticide from 2019-12-15 lasting 90 days -/

namespace C10DatesEx

/-- November 2019 ... April 2020. -/
def steps : List Step :=
  [⟨⟨2019, 11, 1⟩, ⟨2019, 11, 30⟩⟩, ⟨⟨2019, 12, 1⟩, ⟨2019, 12, 31⟩⟩, ⟨⟨2020, 1, 1⟩, ⟨2020, 1, 31⟩⟩,
   ⟨⟨2020, 2, 1⟩, ⟨2020, 2, 29⟩⟩, ⟨⟨2020, 3, 1⟩, ⟨2020, 3, 31⟩⟩, ⟨⟨2020, 4, 1⟩, ⟨2020, 4, 30⟩⟩]

/-- These are the steps the `Scheduler` constructor produces. -/
example : (match Scheduler.make ⟨2019, 11, 1⟩ ⟨2020, 4, 30⟩ .month 1 with | .ok sc => sc.steps | .error _ => []) = steps := by
  decide

theorem tiles : TilesCalendar ⟨2019, 11, 1⟩ ⟨2020, 4, 30⟩ steps = true := by decide

/-- 90 days after 2019-12-15 is 2020-03-14: the count passes 29 February of the leap year 2020
    (89 days after 2018-12-15 would already be 2019-03-14). -/
theorem end_date : iter Date.addDay 90 ⟨2019, 12, 15⟩ = ⟨2020, 3, 14⟩ := by decide +kernel
example : iter Date.addDay 89 ⟨2018, 12, 15⟩ = ⟨2019, 3, 14⟩ := by decide +kernel

/-- The pesticide is registered at step 1 (December) and ends at step 4 (March). -/
theorem registered : addTreatment steps ⟨2019, 12, 15⟩ 90 = .ok ⟨true, 1, 4⟩ := eq_ok_of_yields (by decide +kernel)

example : (∃ st, steps[1]? = some st ∧ st.contains ⟨2019, 12, 15⟩ = true) ∧
    (∃ st, steps[4]? = some st ∧ st.contains (iter Date.addDay 90 ⟨2019, 12, 15⟩) = true) :=
  let h := (C10_registered_at_containing_step ⟨2019, 11, 1⟩ ⟨2020, 4, 30⟩ steps tiles ⟨2019, 12, 15⟩ (by decide) 90).1
    ⟨true, 1, 4⟩ registered
  ⟨h.1, (h.2.2.2 (by decide)).2.1⟩

/-- A simple treatment on 2020-01-10 is registered at step 2; a date before the first step or a
    pesticide whose end lies after the last step is rejected. -/
example : addTreatment steps ⟨2020, 1, 10⟩ 0 = .ok ⟨false, 2, 2⟩ ∧
    addTreatment steps ⟨2019, 10, 31⟩ 0 = .error .invalid_argument ∧
    addTreatment steps ⟨2020, 4, 15⟩ 30 = .error .invalid_argument :=
  ⟨eq_ok_of_yields (by decide +kernel), c10d_eq_error (by decide +kernel), c10d_eq_error (by decide +kernel)⟩

example : addTreatment steps ⟨2019, 10, 31⟩ 0 = .error .invalid_argument :=
  (C10_registered_at_containing_step ⟨2019, 11, 1⟩ ⟨2020, 4, 30⟩ steps tiles ⟨2019, 10, 31⟩ (by decide) 0).2.1 (by decide)

/-- The registered list: the pesticide (coefficients 1/2, 1) and a removal on 2020-01-10. -/
def treats : List Treatment := [(⟨true, 1, 4⟩, .ratio, [1/2, 1]), (⟨false, 2, 2⟩, .ratio, [1, 0])]

def cfg : StepCfg :=
  { soils := false, useLethal := false, lethalSched := [], useSurvival := false, survivalSched := [],
    spreadSched := [false, false, false, false, false, false], useOverpop := false, useMovements := false,
    useTreatments := true, useMortality := false, mortalitySched := [], useSpreadRates := false, rateSched := [],
    useQuarantine := false, quarantineSched := [] }

/-- Inputs of step `k`: only the treatment events matter here; they are those of `treats`. -/
def inputs (k : Nat) : StepInputs :=
  { g := ⟨1, 2⟩, mt := .si, latency := 0, suit := [(0, 0), (0, 1)], lethalThreshold := 0, temperatures := [],
    lethalDraws := [], survivalRates := [], survivalDrawsI := [], survivalDrawsE := [], landings := [],
    stochasticEst := false, pEst := 0, overThreshold := 0, overLeaving := 0, overTargets := [], moves := [],
    treatEvents := eventsAt treats k, mortalityRate := 0, mortalityLag := 0 }

def run : List StepInputs := (List.range 6).map inputs

theorem run_events : ∀ k inp, run[k]? = some inp → inp.treatEvents = eventsAt treats (0 + k) := by
  intro k inp h
  obtain ⟨hk, rfl⟩ := List.getElem?_eq_some_iff.mp h
  simp only [run, List.getElem_map, List.getElem_range, inputs, Nat.zero_add]

/-- The whole run: pesticide applied in December (step 1), removal in January (step 2), pesticide
    ended in March (step 4); nothing in November, February and April. -/
example : treatTrace treats 0 6 = [(1, 0, false), (2, 1, false), (4, 0, true)] := by decide

example : (treatTrace treats 0 run.length).filter (fun tag => tag.2.1 == 0 && !tag.2.2) = [(1, 0, false)] ∧
    (treatTrace treats 0 run.length).filter (fun tag => tag.2.1 == 0 && tag.2.2) = [(4, 0, true)] :=
  (C10_run_treatments_once cfg treats run 0 (by decide) run_events).2.2 0 (by decide)

/-- A run of January ... March only (first step 2): the pesticide is not applied in it, but it is ended. -/
example : treatTrace treats 2 3 = [(2, 1, false), (4, 0, true)] := by decide

/-- The landscape over the run: 10 susceptible per cell; December: 5 and 10 become resistant;
    January: cell 0 loses its 5 susceptible; March: the resistant hosts are susceptible again. -/
example : runModel cfg run 0 [⟨10, [], 0, 0, 0, [0], 0, 10⟩, ⟨10, [], 0, 0, 0, [0], 0, 10⟩] =
    .ok [⟨5, [], 0, 0, 0, [0], 0, 5⟩, ⟨10, [], 0, 0, 0, [0], 0, 10⟩] := eq_ok_of_yields (by decide +kernel)

example : runModel cfg (run.take 3) 0 [⟨10, [], 0, 0, 0, [0], 0, 10⟩, ⟨10, [], 0, 0, 0, [0], 0, 10⟩] =
    .ok [⟨0, [], 0, 5, 0, [0], 0, 5⟩, ⟨0, [], 0, 10, 0, [0], 0, 10⟩] := eq_ok_of_yields (by decide +kernel)

/-- Cleared after step 1 (computational steering in December): the January removal never runs;
    the pesticide, already started, is still ended in March. -/
example : clearAfter treats 1 = [(⟨true, 1, 4⟩, .ratio, [1/2, 1])] ∧
    treatTrace (clearAfter treats 1) 0 6 = [(1, 0, false), (4, 0, true)] := by decide +kernel

example : ∀ tag ∈ treatTrace (clearAfter treats 1) 0 6, tag.2.2 = false → tag.1 ≤ 1 :=
  (C10_cleared_never_run_over_run treats 1 (by decide)).2.2.2.2.2 0 6

end C10DatesEx

end Pops
