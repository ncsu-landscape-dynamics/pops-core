/-
  C09  A model step runs exactly the enabled, scheduled actions in the documented order.
-/
import PopsModel.Model.Actions
import PopsModel.Lemmas.Actions
namespace Pops

/-- The executed actions are a sub-sequence of the documented order, without repetition. -/
theorem C09_order (cfg : StepCfg) (step : Nat) :
    ((plan cfg step).map (·.1)).Sublist documentedOrder ∧ ((plan cfg step).map (·.1)).Nodup := by
  rw [act_plan_map_fst]
  exact ⟨List.filter_sublist, List.Nodup.sublist List.filter_sublist act_documentedOrder_nodup⟩

/-- An action is executed if and only if it is enabled and its schedule marks the step. -/
theorem C09_iff (cfg : StepCfg) (step : Nat) (a : ActionKind) :
    a ∈ (plan cfg step).map (·.1) ↔ cfg.runs step a = true := act_plan_iff cfg step a

/-- The input index used by an executed action is the index of that firing: the number of
    earlier firings of its schedule, i.e. what `simulation_step_to_action_step` returns. -/
theorem C09_index (cfg : StepCfg) (step : Nat) (a : ActionKind) (k : Nat)
    (h : (a, some k) ∈ plan cfg step) :
    (a = .lethal → simulationStepToActionStep cfg.lethalSched step = .ok k) ∧
    (a = .survival → simulationStepToActionStep cfg.survivalSched step = .ok k) ∧
    (a = .spreadRate → simulationStepToActionStep cfg.rateSched step = .ok k) ∧
    (a = .quarantine → simulationStepToActionStep cfg.quarantineSched step = .ok k) ∧
    (a = .lethal ∨ a = .survival ∨ a = .spreadRate ∨ a = .quarantine) := by
  obtain ⟨hr, hi⟩ := act_mem_plan h
  cases a with
  | lethal => exact ⟨fun _ => act_index_of_runs hr hi, nofun, nofun, nofun, .inl rfl⟩
  | survival => exact ⟨nofun, fun _ => act_index_of_runs hr hi, nofun, nofun, .inr (.inl rfl)⟩
  | spreadRate => exact ⟨nofun, nofun, fun _ => act_index_of_runs hr hi, nofun, .inr (.inr (.inl rfl))⟩
  | quarantine => exact ⟨nofun, nofun, nofun, fun _ => act_index_of_runs hr hi, .inr (.inr (.inr rfl))⟩
  | _ => cases hi

/-- Schedules of disabled features have no influence on what is executed. -/
theorem C09_frame_disabled (cfg : StepCfg) (step : Nat) (x : List Bool) :
    (cfg.useLethal = false → plan { cfg with lethalSched := x } step = plan cfg step) ∧
    (cfg.useSurvival = false → plan { cfg with survivalSched := x } step = plan cfg step) ∧
    (cfg.useMortality = false → plan { cfg with mortalitySched := x } step = plan cfg step) ∧
    (cfg.useSpreadRates = false → plan { cfg with rateSched := x } step = plan cfg step) ∧
    (cfg.useQuarantine = false → plan { cfg with quarantineSched := x } step = plan cfg step) := by
  -- a disabled action does not run whatever its schedule (`false && _`); no other action reads it
  have off : ∀ {u : Bool} (s : List Bool), u = false → (u && schedAt s step) = false :=
    fun s hu => hu ▸ Bool.false_and _
  refine ⟨fun hu => act_plan_congr_off _ _ step .lethal (off _ hu) (off _ hu) fun a => ?_,
    fun hu => act_plan_congr_off _ _ step .survival (off _ hu) (off _ hu) fun a => ?_,
    fun hu => act_plan_congr_off _ _ step .mortality (off _ hu) (off _ hu) fun a => ?_,
    fun hu => act_plan_congr_off _ _ step .spreadRate (off _ hu) (off _ hu) fun a => ?_,
    fun hu => act_plan_congr_off _ _ step .quarantine (off _ hu) (off _ hu) fun a => ?_⟩
  · cases a
    case lethal => exact .inl rfl
    all_goals exact .inr ⟨rfl, rfl⟩
  · cases a
    case survival => exact .inl rfl
    all_goals exact .inr ⟨rfl, rfl⟩
  · cases a
    case mortality => exact .inl rfl
    all_goals exact .inr ⟨rfl, rfl⟩
  · cases a
    case spreadRate => exact .inl rfl
    all_goals exact .inr ⟨rfl, rfl⟩
  · cases a
    case quarantine => exact .inl rfl
    all_goals exact .inr ⟨rfl, rfl⟩

/-- Latency progression, overpopulation and host movement only happen inside a spread step,
    after the spread itself. -/
theorem C09_spread_block (cfg : StepCfg) (step : Nat) :
    (cfg.runs step .stepForward = cfg.runs step .spread) ∧
    (cfg.runs step .overpopulation = true → cfg.runs step .spread = true) ∧
    (cfg.runs step .movement = true → cfg.runs step .spread = true) := by
  simp only [StepCfg.runs, Bool.and_eq_true]
  exact ⟨trivial, fun h => h.1, fun h => h.1⟩

example : ∃ cfg : StepCfg, (plan cfg 1).length = 4 :=
  ⟨{ soils := true, useLethal := true, lethalSched := [true, true], useSurvival := false, survivalSched := [],
     spreadSched := [false, true], useOverpop := false, useMovements := false, useTreatments := false,
     useMortality := false, mortalitySched := [], useSpreadRates := false, rateSched := [],
     useQuarantine := false, quarantineSched := [] }, by decide⟩

end Pops
