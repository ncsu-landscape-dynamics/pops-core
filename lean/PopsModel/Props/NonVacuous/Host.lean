/-
  Non-vacuity audit of the host-pool family of property theorems (Props/C01, C01Step, C02, C02Soil,
  C03, C04, C05, C05Arrival, C05Removals, C10, C11, C12, C17): for every theorem with hypotheses,
  one concrete non-trivial instance that satisfies ALL of them simultaneously, with the theorem
  applied to it. Every `nv_*` below is the conclusion of the audited theorem at the instance; the
  hypotheses are discharged in the proof term, so each of them is satisfiable together with the
  others. Findings (hypotheses that are redundant, or that restrict the instance class) are listed
  at the end of the file.
-/
import PopsModel.Props.C01
import PopsModel.Props.C01Step
import PopsModel.Props.C02
import PopsModel.Props.C02Soil
import PopsModel.Props.C03
import PopsModel.Props.C04
import PopsModel.Props.C05
import PopsModel.Props.C05Arrival
import PopsModel.Props.C05Removals
import PopsModel.Props.C10
import PopsModel.Props.C11
import PopsModel.Props.C12
import PopsModel.Props.C17
import PopsModel.Lemmas.NonVacuousHost
namespace Pops

/-! ## Shared instances

  `nvA`: an SEI cell (latency 1: two exposed cohorts, two mortality cohorts), every class non-empty
  except resistant. `nvB`: a second SEI cell with a resistant host. Both are consistent. -/

def nvA : Cell := ⟨10, [2, 3], 4, 0, 5, [1, 3], 0, 19⟩
def nvB : Cell := ⟨2, [0, 1], 1, 1, 1, [0, 1], 0, 5⟩

theorem nvA_nonNeg : nvA.nonNeg = true := by decide
theorem nvA_totalsOK : nvA.totalsOK = true := by decide
theorem nvA_mortOK : nvA.mortOK = true := by decide
theorem nvB_nonNeg : nvB.nonNeg = true := by decide
theorem nvB_totalsOK : nvB.totalsOK = true := by decide
theorem nvB_mortOK : nvB.mortOK = true := by decide

/-- Survival rate 1/2 with per-cohort draws; a reclassification. -/
def nvSurv : CellOp := .survival (1/2) [1, 1] [1, 1]
theorem nvSurv_dom : nvSurv.inDomain nvA := by decide +kernel
theorem nvSurv_run : nvSurv.apply nvA = .ok ⟨14, [1, 2], 2, 0, 3, [0, 2], 0, 19⟩ :=
  eq_ok_of_yields (by decide +kernel)

/-- Host removal with coefficient 1/2; a removal. -/
def nvTreat : CellOp := .simpleTreat (1/2) .ratio
theorem nvTreat_dom : nvTreat.inDomain nvA := by decide +kernel
theorem nvTreat_run : nvTreat.apply nvA = .ok ⟨5, [1, 1], 2, 0, 2, [0, 1], 0, 9⟩ :=
  eq_ok_of_yields (by decide +kernel)

/-- Mortality with rate 1/2 and lag 0; a death. -/
def nvMort : CellOp := .mortality (1/2) 0
theorem nvMort_dom : nvMort.inDomain nvA := by decide +kernel
theorem nvMort_run : nvMort.apply nvA = .ok ⟨10, [2, 3], 2, 0, 5, [2, 0], 2, 17⟩ :=
  eq_ok_of_yields (by decide +kernel)

/-- A host move of 6 hosts out of `nvA` (2 infected, 2 susceptible, 2 exposed), with cohort draws. -/
def nvDraw : ClassDraw := ⟨2, 2, 2, 0⟩
theorem nvDraw_valid : validClassDrawB nvA 6 nvDraw = true := by decide
theorem nvDraw_E : nvDraw.e > 0 → ValidDraw nvA.e nvDraw.e [1, 1] := fun _ => by decide
theorem nvDraw_M : nvDraw.i > 0 → ValidDraw nvA.mort nvDraw.i [0, 2] := fun _ => by decide

/-- A two-cell SEI landscape and a history with mortality, a removal treatment, a host move, a
    latency step (at step 1 = latency, so the front cohort matures) and a survival-rate removal. -/
def nvLand2 : Land := [nvA, nvB]
def nvHist : List LandOp :=
  [.at 0 (.mortality (1/2) 0), .at 0 (.simpleTreat (1/2) .ratio),
   .move 0 1 3 ⟨1, 1, 1, 0⟩ [0, 1] [1, 0], .at 1 (.stepForward .sei 1 1),
   .at 1 (.survival (1/2) [0, 1] [1, 0])]
def nvLand2' : Land :=
  [⟨4, [1, 0], 0, 0, 1, [0, 0], 2, 5⟩, ⟨5, [1, 0], 1, 1, 1, [1, 0], 0, 8⟩]

theorem nvLand2_inv : nvLand2.inv := Land.inv_of_B _ (by decide)
theorem nvLand2_uniform : nvLand2.uniform := Land.uniform_of_B _ (by decide)
theorem nvHist_dom : DomainAlong nvHist nvLand2 := domainAlong_of_B _ _ (by decide +kernel)
theorem nvHist_run : runOps nvHist nvLand2 = .ok nvLand2' := eq_ok_of_yields (by decide +kernel)

/-! ## C01 -/

theorem nv_C01_cell_step_reclassify :
    ledgerOK .reclassify nvA ⟨14, [1, 2], 2, 0, 3, [0, 2], 0, 19⟩ = true :=
  C01_cell_step nvSurv nvA _ nvSurv_dom nvA_nonNeg nvA_totalsOK nvSurv_run

theorem nv_C01_cell_step_removal :
    ledgerOK .removal nvA ⟨5, [1, 1], 2, 0, 2, [0, 1], 0, 9⟩ = true :=
  C01_cell_step nvTreat nvA _ nvTreat_dom nvA_nonNeg nvA_totalsOK nvTreat_run

theorem nv_C01_cell_step_death :
    ledgerOK .death nvA ⟨10, [2, 3], 2, 0, 5, [2, 0], 2, 17⟩ = true :=
  C01_cell_step nvMort nvA _ nvMort_dom nvA_nonNeg nvA_totalsOK nvMort_run

/-- One operation of every kind (all eleven constructors of `CellOp`), each in its documented
    domain at the SEI cell `nvA` and each running successfully there: the domain hypothesis
    `op.inDomain c` of `C01_cell_step` / `C02_nonneg_step` / `C03_totals_step` is inhabited for
    every kind of action, together with consistency of the cell. -/
def nvAllOps : List CellOp :=
  [.add .sei, .dispTo .sei ⟨20, some (1/2), some (4/5)⟩ true 0 (1/10), .pestsFrom 2, .pestsTo 12,
   .simpleTreat (1/2) .allInfected, .pesticideTreat (1/2) .ratio, .pesticideEnd (1/2), nvSurv,
   .lethal [1, 3], nvMort, .stepForward .sei 1 1]

theorem nvAllOps_dom : ∀ op ∈ nvAllOps, op.inDomain nvA := by decide +kernel

theorem nvAllOps_run : ∀ op ∈ nvAllOps, ∃ c', op.apply nvA = .ok c' := by
  have h : (nvAllOps.all fun op => match op.apply nvA with | .ok _ => true | .error _ => false) = true := by
    decide +kernel
  intro op hop
  have := List.all_eq_true.mp h op hop
  cases hr : op.apply nvA with
  | ok c' => exact ⟨c', rfl⟩
  | error e => rw [hr] at this; cases this

theorem nvAllOps_each {P : CellOp → Cell → Prop}
    (hP : ∀ op c', op.inDomain nvA → op.apply nvA = .ok c' → P op c') :
    ∀ op ∈ nvAllOps, ∃ c', op.apply nvA = .ok c' ∧ P op c' :=
  fun op hop =>
    let ⟨c', h⟩ := nvAllOps_run op hop
    ⟨c', h, hP op c' (nvAllOps_dom op hop) h⟩

theorem nv_C01_cell_step_all : ∀ op ∈ nvAllOps, ∃ c', op.apply nvA = .ok c' ∧ ledgerOK op.ledger nvA c' = true :=
  nvAllOps_each fun op c' hd h => C01_cell_step op nvA c' hd nvA_nonNeg nvA_totalsOK h

theorem nv_C01_move :
    let r := moveHosts nvA nvB 6 nvDraw [1, 1] [0, 2]
    moveLedgerOK nvA nvB r.1 r.2.1 = true :=
  C01_move nvA nvB 6 nvDraw [1, 1] [0, 2] nvA_nonNeg nvA_totalsOK nvDraw_valid nvDraw_E rfl

/-- 24 hosts before, 13 after, 2 reported dead, 9 removed by the treatment. -/
theorem nv_C01_history :
    nvLand2'.hosts = nvLand2.hosts - (nvLand2'.died - nvLand2.died) - removedAlong nvHist nvLand2 ∧
    0 ≤ removedAlong nvHist nvLand2 ∧ nvLand2.died ≤ nvLand2'.died ∧ nvLand2'.hosts ≤ nvLand2.hosts :=
  C01_history nvHist nvLand2 nvLand2' nvLand2_inv nvLand2_uniform nvHist_dom nvHist_run

example : removedAlong nvHist nvLand2 = 9 ∧ nvLand2.hosts = 24 ∧ nvLand2'.hosts = 13 ∧ nvLand2'.died = 2 := by
  decide +kernel

/-! ## C01 / C09 per model step

  An SEI spread step (step 1 = latency 1) of a 1 x 2 landscape in which lethal temperature, spread
  (three landings: two establish, one fails), the latency step, overpopulation (cell 0 departs, its
  pests arrive at cell 1), a host move, a removal treatment and mortality all run. -/

def nvCfg : StepCfg :=
  { soils := false, useLethal := true, lethalSched := [false, true], useSurvival := false, survivalSched := [],
    spreadSched := [false, true], useOverpop := true, useMovements := true, useTreatments := true,
    useMortality := true, mortalitySched := [false, true], useSpreadRates := true, rateSched := [false, true],
    useQuarantine := false, quarantineSched := [] }

def nvInp : StepInputs :=
  { g := ⟨1, 2⟩, mt := .sei, latency := 1, suit := [(0, 0), (0, 1)], lethalThreshold := 0,
    temperatures := [5, -3], lethalDraws := [[], [1, 0]], survivalRates := [], survivalDrawsI := [],
    survivalDrawsE := [],
    landings := [(1, ⟨8, none, none⟩, 0), (1, ⟨8, none, none⟩, 9/10), (0, ⟨20, none, none⟩, 1/10)],
    stochasticEst := true, pEst := 0, overThreshold := 1/4, overLeaving := 1/2, overTargets := [(0, 1)],
    moves := [(0, 1, 3, ⟨1, 1, 1, 0⟩, [1, 0], [0, 1])], treatEvents := [(false, false, .ratio, [1/2, 0])],
    mortalityRate := 1/2, mortalityLag := 0 }

def nvLand : Land := [⟨4, [2, 3], 4, 0, 5, [1, 3], 0, 13⟩, ⟨6, [0, 1], 1, 0, 1, [1, 0], 0, 8⟩]
def nvLand' : Land := [⟨2, [1, 0], 0, 0, 1, [1, 0], 1, 3⟩, ⟨4, [3, 0], 4, 0, 3, [1, 0], 0, 11⟩]

theorem nv_plan : (plan nvCfg 1).map (·.1) =
    [.lethal, .spread, .stepForward, .overpopulation, .movement, .treatments, .mortality, .spreadRate] := by
  decide +kernel

theorem nvLand_inv : nvLand.inv := Land.inv_of_B _ (by decide)
theorem nvLand_uniform : nvLand.uniform := Land.uniform_of_B _ (by decide)
theorem nvStep_dom : GensDomainAlong (stepGens nvCfg nvInp 1) nvLand :=
  gensDomainAlong_of_B _ _ (by decide +kernel)
theorem nvStep_run : runStepHosts nvCfg nvInp 1 nvLand = .ok nvLand' := eq_ok_of_yields (by decide +kernel)

theorem nv_C01_generators :
    nvLand'.hosts = nvLand.hosts - (nvLand'.died - nvLand.died) - removedByGens (stepGens nvCfg nvInp 1) nvLand ∧
    0 ≤ removedByGens (stepGens nvCfg nvInp 1) nvLand ∧ nvLand.died ≤ nvLand'.died ∧
    nvLand'.hosts ≤ nvLand.hosts ∧ nvLand'.inv ∧ nvLand'.uniform :=
  C01_generators (stepGens nvCfg nvInp 1) nvLand nvLand' nvLand_inv nvLand_uniform nvStep_dom nvStep_run

/-- 21 hosts before, 14 after, 1 reported dead, 6 removed by the treatment. -/
theorem nv_C01_model_step :
    nvLand'.hosts = nvLand.hosts - (nvLand'.died - nvLand.died) - removedByGens (stepGens nvCfg nvInp 1) nvLand ∧
    0 ≤ removedByGens (stepGens nvCfg nvInp 1) nvLand ∧ nvLand'.hosts ≤ nvLand.hosts ∧ nvLand'.inv :=
  C01_model_step nvCfg nvInp 1 nvLand nvLand' nvLand_inv nvLand_uniform nvStep_dom nvStep_run

example : removedByGens (stepGens nvCfg nvInp 1) nvLand = 6 ∧ nvLand.hosts = 21 ∧ nvLand'.hosts = 14 ∧
    nvLand'.died = 1 := by decide +kernel

/-- Frame: inputs of features that do not run at this step (survival rates; the survival action is
    disabled) can be changed without changing the step. The two input records differ. -/
def nvInp2 : StepInputs := { nvInp with survivalRates := [1/3, 1/3], survivalDrawsI := [[1, 0]], survivalDrawsE := [[0, 1]] }

theorem nv_C09_frame_inputs : runStepHosts nvCfg nvInp 1 nvLand = runStepHosts nvCfg nvInp2 1 nvLand :=
  C09_frame_inputs nvCfg nvInp nvInp2 1 nvLand (by
    intro a ha
    cases a <;> first | rfl | (exact absurd ha (by decide)))

example : nvInp.survivalRates ≠ nvInp2.survivalRates := by decide +kernel

/-! ## C02 -/

theorem nv_C02_nonneg_step : (⟨14, [1, 2], 2, 0, 3, [0, 2], 0, 19⟩ : Cell).nonNeg = true :=
  C02_nonneg_step nvSurv nvA _ nvSurv_dom nvA_nonNeg nvA_totalsOK nvSurv_run

theorem nv_C02_nonneg_step_all : ∀ op ∈ nvAllOps, ∃ c', op.apply nvA = .ok c' ∧ c'.nonNeg = true :=
  nvAllOps_each fun op c' hd h => C02_nonneg_step op nvA c' hd nvA_nonNeg nvA_totalsOK h

theorem nv_C02_nonneg_move :
    let r := moveHosts nvA nvB 6 nvDraw [1, 1] [0, 2]
    r.1.nonNeg = true ∧ r.2.1.nonNeg = true :=
  C02_nonneg_move nvA nvB 6 nvDraw [1, 1] [0, 2] nvA_nonNeg nvA_totalsOK nvB_nonNeg (by decide)
    nvDraw_valid nvDraw_E nvDraw_M

theorem nv_C02_infected_le_total : nvA.infectedLeTotal = true :=
  C02_infected_le_total nvA nvA_nonNeg nvA_totalsOK

theorem nv_C02_died_le_infected :
    (2 : Int) - nvA.died ≤ nvA.i ∧ 0 ≤ (2 : Int) - nvA.died :=
  C02_died_le_infected nvA ⟨10, [2, 3], 2, 0, 5, [2, 0], 2, 17⟩ (1/2) 0 nvA_nonNeg nvMort_run

theorem nv_C02_taken_le_present :
    (nvA.pestsTo 12).2 ≤ 12 ∧ (nvA.pestsTo 12).2 ≤ nvA.s ∧ 0 ≤ (nvA.pestsTo 12).2 ∧
    (∀ p : Rat, 0 ≤ p → p ≤ 1 → 0 ≤ lround ((nvA.i : Rat) * p) ∧ lround ((nvA.i : Rat) * p) ≤ nvA.i) ∧
    (∀ count : Int, 0 ≤ count → hostsMoved nvA count ≤ count ∧ hostsMoved nvA count ≤ nvA.th ∧ 0 ≤ hostsMoved nvA count) :=
  C02_taken_le_present nvA 12 nvA_nonNeg (by decide)

theorem nv_C02_history : nvLand2'.inv ∧ nvLand2'.uniform :=
  C02_history nvHist nvLand2 nvLand2' nvLand2_inv nvLand2_uniform nvHist_dom nvHist_run

/-! ## C02 (soil) -/

theorem nv_sumL_nonneg_of_all : 0 ≤ sumL [3, 0, 4] :=
  sumL_nonneg (show ∀ x ∈ [3, 0, 4], 0 ≤ x by decide)

theorem nv_addLast_nonneg : ∀ x ∈ addLast [3, 0, 4] 2, 0 ≤ x :=
  allNN_addLast (show ∀ x ∈ [3, 0, 4], 0 ≤ x by decide) (by decide)

theorem nv_C02_soil_release_bounded :
    0 ≤ soilReleaseDet [3, 0, 4] (1/2) ∧ soilReleaseDet [3, 0, 4] (1/2) ≤ sumL [3, 0, 4] ∧
    (∀ (sto : Bool) (pEst u : Rat), ∀ x ∈ soilDisperserTo [3, 0, 4] (1/2) sto pEst u, 0 ≤ x) :=
  C02_soil_release_bounded [3, 0, 4] (1/2) half_in_unit.1 half_in_unit.2 (by decide)

example : soilReleaseDet [3, 0, 4] (1/2) = 3 := by decide +kernel

/-! ## C03 -/

theorem nv_C03_totals_step : (⟨5, [1, 1], 2, 0, 2, [0, 1], 0, 9⟩ : Cell).totalsOK = true :=
  C03_totals_step nvTreat nvA _ nvTreat_dom nvA_nonNeg nvA_totalsOK nvTreat_run

theorem nv_C03_totals_step_all : ∀ op ∈ nvAllOps, ∃ c', op.apply nvA = .ok c' ∧ c'.totalsOK = true :=
  nvAllOps_each fun op c' hd h => C03_totals_step op nvA c' hd nvA_nonNeg nvA_totalsOK h

theorem nv_C03_totals_move :
    let r := moveHosts nvA nvB 6 nvDraw [1, 1] [0, 2]
    r.1.totalsOK = true ∧ r.2.1.totalsOK = true :=
  C03_totals_move nvA nvB 6 nvDraw [1, 1] [0, 2] nvA_nonNeg nvA_totalsOK nvB_totalsOK
    nvDraw_valid nvDraw_E nvDraw_M rfl

/-- A ratio treatment whose per-cohort rounding agrees with the rounding of the total
    (cohorts [2, 4], coefficient 1/2): the F20 side condition `roundingOK` is met non-trivially. -/
def nvC : Cell := ⟨10, [2, 3], 6, 0, 5, [2, 4], 0, 21⟩

theorem nv_C03_cohorts_step_partial : (⟨5, [1, 1], 3, 0, 2, [1, 2], 0, 10⟩ : Cell).mortOK = true :=
  C03_cohorts_step_partial nvTreat nvC _ (by decide +kernel) (by decide) (by decide) (by decide) rfl
    (show roundingAgrees rceil (1/2) nvC = true by decide +kernel)
    (eq_ok_of_yields (by decide +kernel))

/-- The same theorem for an action without side condition (survival rate 1/2 on `nvA`). -/
theorem nv_C03_cohorts_step_partial_survival : (⟨14, [1, 2], 2, 0, 3, [0, 2], 0, 19⟩ : Cell).mortOK = true :=
  C03_cohorts_step_partial nvSurv nvA _ nvSurv_dom nvA_nonNeg nvA_totalsOK nvA_mortOK rfl trivial nvSurv_run

theorem nv_C03_mortality_never_fails : ∃ c', (CellOp.mortality (1/2) 1).apply nvA = .ok c' :=
  C03_mortality_never_fails nvA (1/2) 1 half_in_unit (by decide) nvA_nonNeg nvA_totalsOK nvA_mortOK

theorem nv_C03_cohorts_move :
    let r := moveHosts nvA nvB 6 nvDraw [1, 1] [0, 2]
    r.1.mortOK = true ∧ r.2.1.mortOK = true :=
  C03_cohorts_move nvA nvB 6 nvDraw [1, 1] [0, 2] nvA_nonNeg nvA_totalsOK nvA_mortOK nvB_mortOK
    nvDraw_valid nvDraw_M rfl

/-! ## C04 -/

theorem nv_C04_soil_split :
    0 ≤ soilShare (some (1/2)) 7 ∧ soilShare (some (1/2)) 7 ≤ 7 ∧
    soilShare (some (1/2)) 7 + (7 - soilShare (some (1/2)) 7) = 7 ∧ soilShare none 7 = 0 :=
  C04_soil_split (1/2) 7 half_in_unit.1 half_in_unit.2 (by decide)

example : soilShare (some (1/2)) 7 = 4 := by decide +kernel

/-- A release that takes half (rounded down) of every cohort: a function that satisfies the
    universally quantified hypothesis `hrel` of `C04_soil_ages_out` and is not the identity. -/
def nvRelease (l : List Int) : List Int := l.map fun x => x - x / 2

theorem nvRelease_ok (l : List Int) : (nvRelease l).length = l.length ∧
    ∀ k : Nat, k < l.length → 0 ≤ l[k]! → (0 ≤ (nvRelease l)[k]! ∧ (nvRelease l)[k]! ≤ l[k]!) := by
  refine ⟨by simp [nvRelease], fun k hk h0 => ?_⟩
  have hk' : k < (nvRelease l).length := by simpa [nvRelease] using hk
  rw [getElem!_pos (nvRelease l) k hk']
  rw [getElem!_pos l k hk] at h0 ⊢
  simp only [nvRelease, List.getElem_map]
  omega

theorem nv_C04_soil_ages_out :
    ∀ x ∈ iter (fun l => soilNext (nvRelease l)) [3, 0, 4].length [3, 0, 4], x = 0 :=
  C04_soil_ages_out [3, 0, 4] nvRelease nvRelease_ok (by decide)

example : nvRelease [3, 0, 4] = [2, 0, 2] := by decide

/-- Dispersal on the 1 x 2 SEI landscape `nvLand` with weather, stochastic establishment. -/
def nvG : Grid := ⟨1, 2⟩
def nvEnv : DisperseEnv := { mt := .sei, stochastic := true, pEst := 0, npop := [20, 8], w := some [1, 1/2] }
def nvP : PestState := ⟨[2, 1], [0, 0], []⟩
def nvLandE : Land := [⟨4, [2, 3], 4, 0, 5, [1, 3], 0, 13⟩, ⟨5, [0, 2], 1, 0, 2, [1, 0], 0, 8⟩]

theorem nvLand_exposed : nvEnv.mt = .sei → ∀ c ∈ nvLand, c.e ≠ [] := fun _ => by decide

/-- A disperser landing inside the study area and establishing (draw 1/10 < 6/8 x 1/2). -/
theorem nv_C04_each_disperser_once_inside :
    (nvG.isOutside 0 1 = true → nvLandE = nvLand ∧ nvP.outside = nvP.outside ++ [(0, 1)] ∧ true = false) ∧
    (nvG.isOutside 0 1 = false → nvP = nvP ∧ nvLandE.length = nvLand.length ∧
      (∀ k : Nat, k ≠ nvG.idx 0 1 → nvLandE[k]? = nvLand[k]?) ∧
      (true = true → (nvLandE[nvG.idx 0 1]!).s = (nvLand[nvG.idx 0 1]!).s - 1 ∧
          (nvLandE[nvG.idx 0 1]!).hosts = (nvLand[nvG.idx 0 1]!).hosts) ∧
      (true = false → nvLandE = nvLand)) ∧
    nvP.disp = nvP.disp ∧ nvP.est = nvP.est :=
  C04_each_disperser_once nvG nvEnv nvLand nvLandE nvP nvP (0, 1) [1/10, 7/10] [7/10] true nvLand_exposed
    (eq_ok_of_yields (by decide +kernel))

/-- A disperser leaving the study area. -/
theorem nv_C04_each_disperser_once_outside :
    let p' : PestState := ⟨[2, 1], [0, 0], [(0, 5)]⟩
    (nvG.isOutside 0 5 = true → nvLand = nvLand ∧ p'.outside = nvP.outside ++ [(0, 5)] ∧ false = false) ∧
    (nvG.isOutside 0 5 = false → p' = nvP ∧ nvLand.length = nvLand.length ∧
      (∀ k : Nat, k ≠ nvG.idx 0 5 → nvLand[k]? = nvLand[k]?) ∧
      (false = true → (nvLand[nvG.idx 0 5]!).s = (nvLand[nvG.idx 0 5]!).s - 1 ∧
          (nvLand[nvG.idx 0 5]!).hosts = (nvLand[nvG.idx 0 5]!).hosts) ∧
      (false = false → nvLand = nvLand)) ∧
    p'.disp = nvP.disp ∧ p'.est = nvP.est :=
  C04_each_disperser_once nvG nvEnv nvLand nvLand nvP ⟨[2, 1], [0, 0], [(0, 5)]⟩ (0, 5) [1/10, 7/10] [1/10, 7/10]
    false nvLand_exposed (eq_ok_of_yields (by decide +kernel))

/-- Three dispersers of origin cell 0: one establishes at cell 1, one leaves the study area, one
    fails at cell 0 (draw 7/10 >= 4/20); a fourth kernel result is left over. -/
theorem nv_C04_ledger_cell :
    let p' : PestState := ⟨[2, 1], [1, 0], [(0, 5)]⟩
    totalS nvLand - totalS nvLandE = p'.est[0]! - nvP.est[0]! ∧
    0 ≤ p'.est[0]! - nvP.est[0]! ∧ p'.est[0]! - nvP.est[0]! ≤ (3 : Nat) ∧
    p'.est.length = nvP.est.length ∧ (∀ k : Nat, k ≠ 0 → p'.est[k]? = nvP.est[k]?) ∧
    p'.disp = nvP.disp ∧ [(0, 1), (0, 5), (0, 0), ((0 : Int), (1 : Int))].length - [((0 : Int), (1 : Int))].length ≤ 3 ∧
    nvLandE.length = nvLand.length :=
  C04_ledger_cell nvG nvEnv 0 3 nvLand nvLandE nvP ⟨[2, 1], [1, 0], [(0, 5)]⟩
    [(0, 1), (0, 5), (0, 0), (0, 1)] [(0, 1)] [1/10, 7/10, 1/20] [1/20]
    (by decide) (eq_ok_of_yields (by decide +kernel))

/-- A whole dispersal: cell 0 sends two dispersers (one establishes at cell 1, one leaves), cell 1
    sends one (establishes at cell 0). -/
def nvLandE2 : Land := [⟨3, [2, 4], 4, 0, 6, [1, 3], 0, 13⟩, ⟨5, [0, 2], 1, 0, 2, [1, 0], 0, 8⟩]

theorem nv_C04_ledger :
    let p' : PestState := ⟨[2, 1], [1, 1], [(0, 5)]⟩
    totalS nvLand - totalS nvLandE2 = sumL p'.est - sumL nvP.est ∧ p'.disp = nvP.disp :=
  C04_ledger nvG nvEnv [(0, 0), (0, 1)] nvLand nvLandE2 nvP ⟨[2, 1], [1, 1], [(0, 5)]⟩
    [(0, 1), (0, 5), (0, 0), (0, 1)] [(0, 1)] [1/10, 1/20, 7/10] [7/10]
    (by decide) (eq_ok_of_yields (by decide +kernel))

example : totalS nvLand - totalS nvLandE2 = 2 := by decide

/-! ## C05 -/

/-- SEI cell with latency 2 (three exposed cohorts). -/
def nvL2 : Cell := ⟨5, [1, 0, 2], 3, 0, 3, [3], 0, 11⟩

/-- Step 3 >= latency 2: the front cohort matures. -/
theorem nv_C05_shift_late : stepForwardSpec 2 3 nvL2 (nvL2.stepForward .sei 2 3) = true :=
  C05_shift 2 3 nvL2 (by decide)
/-- Step 1 < latency 2: cohorts only rotate. -/
theorem nv_C05_shift_early : stepForwardSpec 2 1 nvL2 (nvL2.stepForward .sei 2 1) = true :=
  C05_shift 2 1 nvL2 (by decide)

example : nvL2.stepForward .sei 2 3 = ⟨5, [0, 2, 0], 4, 0, 2, [4], 0, 11⟩ ∧
    nvL2.stepForward .sei 2 1 = ⟨5, [0, 2, 1], 3, 0, 3, [3], 0, 11⟩ := by decide

theorem nv_C05_no_early_transition :
    (nvL2.stepForward .sei 2 1).i = nvL2.i ∧ (nvL2.stepForward .sei 2 1).mort = nvL2.mort ∧
    nvL2.stepForward .si 2 1 = nvL2 :=
  C05_no_early_transition 2 1 nvL2 (by decide)

/-- Four spread steps (more than the latency 2), numbered from step 2, exposures 3, 1, 4, 2. -/
def nvL2big : Cell := ⟨20, [1, 0, 2], 3, 0, 3, [3], 0, 26⟩

theorem nv_C05_exact_latency :
    (latencyRun 2 2 [3, 1, 4, 2] nvL2big).i =
      nvL2big.i + sumL (nvL2big.e.take [3, 1, 4, (2 : Int)].length) +
        sumL ([3, 1, 4, (2 : Int)].take ([3, 1, 4, (2 : Int)].length - 2)) ∧
    (latencyRun 2 2 [3, 1, 4, 2] nvL2big).e.length = 2 + 1 ∧
    sumL (latencyRun 2 2 [3, 1, 4, 2] nvL2big).e =
      sumL (nvL2big.e.drop [3, 1, 4, (2 : Int)].length) +
        sumL ([3, 1, 4, (2 : Int)].drop ([3, 1, 4, (2 : Int)].length - 2)) :=
  C05_exact_latency 2 2 [3, 1, 4, 2] nvL2big rfl (by decide)

example : latencyRun 2 2 [3, 1, 4, 2] nvL2big = ⟨10, [4, 2, 0], 10, 0, 6, [10], 0, 26⟩ := by decide

/-- Latency 0 (one exposed cohort, empty between steps), two landings. -/
def nvL0 : Cell := ⟨5, [0], 3, 0, 0, [1, 2], 0, 8⟩

theorem nv_C05_L0_equals_SI :
    (Cell.addN .sei 2 nvL0).stepForward .sei 0 3 = { Cell.addN .si 2 nvL0 with e := [0], te := 0 } :=
  C05_L0_equals_SI 2 3 nvL0 rfl rfl (by decide)

example : (Cell.addN .sei 2 nvL0).stepForward .sei 0 3 = ⟨3, [0], 5, 0, 0, [1, 4], 0, 8⟩ := by decide

/-! ## C05 (arrivals) -/

theorem nv_dropLast_addLast : (addLast [2, 3] 1).dropLast = [2, (3 : Int)].dropLast :=
  dropLast_addLast [2, 3] 1

/-- An establishing landing at `nvA` through the wrapper: weather 1/2, susceptibility 4/5,
    population 20, suitability 1/5, draw 1/10. -/
theorem nv_C05_arrival_stays_exposed :
    arrivalsStayExposed nvA ⟨9, [2, 4], 4, 0, 6, [1, 3], 0, 19⟩ = true :=
  C05_arrival_stays_exposed nvA _ ⟨20, some (1/2), some (4/5)⟩ true 0 (1/10) 1 1 (by decide)
    (eq_ok_of_yields (by decide +kernel))

theorem nv_C05_arrivals_compose :
    arrivalsStayExposed nvL2 ⟨3, [1, 0, 4], 3, 0, 5, [3], 0, 11⟩ = true :=
  C05_arrivals_compose nvL2 ⟨4, [1, 0, 3], 3, 0, 4, [3], 0, 11⟩ ⟨3, [1, 0, 4], 3, 0, 5, [3], 0, 11⟩
    (by decide) (by decide)

/-! ## C05 (removals) -/

/-- Latency 1, steps numbered from 1: three spread steps with two removals from the exposed
    cohorts in between. -/
def nvLatOps : List LatOp := [.spread 2, .remove [1, 0], .spread 1, .remove [1, 0], .spread 3]

theorem nvLatOps_valid : ValidHistory 1 1 nvLatOps nvA := by
  simp only [nvLatOps, ValidHistory]
  decide +kernel

theorem nv_C05_latency_with_removals :
    (latencyHistory 1 1 nvLatOps nvA).i ≤
      nvA.i + sumL (nvA.e.take (exposures nvLatOps).length) +
        sumL ((exposures nvLatOps).take ((exposures nvLatOps).length - 1)) ∧
    nvA.i ≤ (latencyHistory 1 1 nvLatOps nvA).i :=
  C05_latency_with_removals 1 1 nvLatOps nvA rfl (by decide) (by decide) nvLatOps_valid

/-- Infected 4 -> 10; the bound is 4 + 5 + 3 = 12 (strict: 2 hosts were removed while exposed). -/
example : (latencyHistory 1 1 nvLatOps nvA).i = 10 ∧ exposures nvLatOps = [2, 1, 3] := by decide

/-! ## C10 -/

theorem nv_C10_removal_ratio :
    ∃ c', nvA.simpleTreat (1/2) .ratio = .ok c' ∧
      simpleTreatSpec (1/2) (TreatApp.ratio == .allInfected) nvA c' = true ∧ c'.totalsOK = true :=
  C10_removal (1/2) .ratio nvA half_in_unit.1 half_in_unit.2 nvA_nonNeg nvA_totalsOK nvA_mortOK

theorem nv_C10_removal_allInfected :
    ∃ c', nvA.simpleTreat (1/2) .allInfected = .ok c' ∧
      simpleTreatSpec (1/2) (TreatApp.allInfected == .allInfected) nvA c' = true ∧ c'.totalsOK = true :=
  C10_removal (1/2) .allInfected nvA half_in_unit.1 half_in_unit.2 nvA_nonNeg nvA_totalsOK nvA_mortOK

example : nvA.simpleTreat (1/2) .allInfected = .ok ⟨5, [0, 0], 0, 0, 0, [0, 0], 0, 5⟩ :=
  eq_ok_of_yields (by decide +kernel)

theorem nv_C10_pesticide :
    ∃ c', nvA.pesticideTreat (1/2) .ratio = .ok c' ∧
      pesticideTreatSpec (1/2) (TreatApp.ratio == .allInfected) nvA c' = true ∧ c'.totalsOK = true :=
  C10_pesticide (1/2) .ratio nvA half_in_unit.1 half_in_unit.2 nvA_nonNeg nvA_totalsOK

example : nvA.pesticideTreat (1/2) .ratio = .ok ⟨5, [1, 2], 2, 9, 3, [1, 2], 0, 19⟩ :=
  eq_ok_of_yields (by decide +kernel)

/-- On `nvB`, which already holds a resistant host. -/
theorem nv_C10_coef_zero_one :
    nvB.simpleTreat 0 .ratio = .ok nvB ∧ nvB.pesticideTreat 0 .ratio = .ok nvB ∧
    (∃ c', nvB.simpleTreat 1 .ratio = .ok c' ∧ c'.s = 0 ∧ c'.i = 0 ∧ (∀ x ∈ c'.e, x = 0) ∧
        (∀ x ∈ c'.mort, x = 0) ∧ c'.r = nvB.r ∧ c'.th = nvB.r) ∧
    (∃ c', nvB.pesticideTreat 1 .ratio = .ok c' ∧ c'.s = 0 ∧ c'.i = 0 ∧ (∀ x ∈ c'.e, x = 0) ∧
        (∀ x ∈ c'.mort, x = 0) ∧ c'.r = nvB.hosts) :=
  C10_coef_zero_one .ratio nvB nvB_nonNeg nvB_totalsOK nvB_mortOK

/-- An establishing landing on `nvB` (susceptible 2, resistant 1, population 5, draw 1/10 < 2/5). -/
theorem nv_C10_resistant_not_infected :
    let c' : Cell := ⟨1, [0, 2], 1, 1, 2, [0, 1], 0, 5⟩
    c'.r = nvB.r ∧ ((1 : Int) = 0 ∨ (1 : Int) = 1) ∧ c'.s = nvB.s - 1 ∧ (nvB.s ≤ 0 → (1 : Int) = 0) :=
  C10_resistant_not_infected .sei nvB ⟨5, none, none⟩ true 0 (1/10) ⟨1, [0, 2], 1, 1, 2, [0, 1], 0, 5⟩ 1 1
    (eq_ok_of_yields (by decide +kernel))

/-- A pesticide starting at step 2 and ending at step 5, looked at at step 5. -/
theorem nv_C10_when :
    let t : TreatSpec := ⟨true, 2, 5⟩
    (t.eventAt 5 = .apply ↔ 5 = t.start) ∧
    (t.eventAt 5 = .finish ↔ (t.pesticide = true ∧ 5 = t.end_)) ∧
    (t.eventAt 5 = .nothing ↔ (5 ≠ t.start ∧ ¬ (t.pesticide = true ∧ 5 = t.end_))) :=
  C10_when ⟨true, 2, 5⟩ (fun _ => by decide) 5

/-! ## C11 -/

/-- Three mortality cohorts, SEI, consistent. -/
def nvM : Cell := ⟨5, [0, 1], 9, 0, 1, [1, 2, 6], 0, 15⟩

theorem nvM_nonNeg : nvM.nonNeg = true := by decide
theorem nvM_totalsOK : nvM.totalsOK = true := by decide
theorem nvM_mortOK : nvM.mortOK = true := by decide

/-- Rate 1/2, lag 1: cohort 0 dies, cohort 1 loses floor(1/2 x 2), cohort 2 is within the lag. -/
theorem nv_C11_who_dies :
    ∃ c', (CellOp.mortality (1/2) 1).apply nvM = .ok c' ∧ mortalitySpec (1/2) 1 nvM c' = true :=
  C11_who_dies nvM (1/2) 1 half_in_unit.2 (by decide) nvM_nonNeg nvM_totalsOK nvM_mortOK

example : (CellOp.mortality (1/2) 1).apply nvM = .ok ⟨5, [0, 1], 7, 0, 1, [1, 6, 0], 2, 13⟩ :=
  eq_ok_of_yields (by decide +kernel)

/-- Three mortality steps (the tracker length) with new infections 1, 0, 2 in between. -/
theorem nv_C11_eventual_death :
    let c' : Cell := ⟨2, [0, 1], 3, 0, 1, [1, 0, 2], 9, 6⟩
    sumL c'.mort ≤ sumL [1, 0, 2] ∧ nvM.i ≤ c'.died - nvM.died :=
  C11_eventual_death nvM ⟨2, [0, 1], 3, 0, 1, [1, 0, 2], 9, 6⟩ (1/2) 1 [1, 0, 2]
    (by decide +kernel) half_in_unit.2 (by decide) (by decide) nvM_nonNeg nvM_mortOK
    (by decide) rfl (eq_ok_of_yields (by decide +kernel))

/-! ## C12 -/

/-- `nvA` with weather 1/2, susceptibility 4/5, population 20: suitability 10/20 x 4/5 x 1/2 = 1/5;
    stochastic establishment with draw 1/10 (establishes). -/
def nvEnvCell : EnvCell := ⟨20, some (1/2), some (4/5)⟩

theorem nvA_suit : nvA.suitability nvEnvCell = .ok (1/5) := eq_ok_of_yields (by decide +kernel)

theorem nv_C12_establish_event :
    ∃ c' k n, nvA.disperserTo .sei nvEnvCell true 0 (1/10) = .ok (c', k, n) ∧
      establishSpec nvA nvEnvCell true 0 (1/10) k = true ∧ landingSpec .sei nvA c' k = true ∧
      (k = 1 ↔ (nvA.s > 0 ∧ (if true then (1/10 : Rat) else 1 - 0) < 1/5)) :=
  C12_establish_event .sei nvA nvEnvCell true 0 (1/10) (1/5) ⟨fun _ => by decide, fun _ => by decide⟩ nvA_suit

/-- The same cell in the SI model, deterministic establishment with probability 1/2 (fails:
    1 - 1/2 >= 1/5). -/
theorem nv_C12_establish_event_si :
    ∃ c' k n, nvA.disperserTo .si nvEnvCell false (1/2) 0 = .ok (c', k, n) ∧
      establishSpec nvA nvEnvCell false (1/2) 0 k = true ∧ landingSpec .si nvA c' k = true ∧
      (k = 1 ↔ (nvA.s > 0 ∧ (if false then (0 : Rat) else 1 - 1/2) < 1/5)) :=
  C12_establish_event .si nvA nvEnvCell false (1/2) 0 (1/5) ⟨fun _ => by decide, fun _ => by decide⟩ nvA_suit

/-- A cell without susceptible hosts (but exposed and infected ones). -/
theorem nv_C12_no_susceptible :
    (⟨0, [2, 3], 4, 0, 5, [1, 3], 0, 9⟩ : Cell).disperserTo .sei nvEnvCell true 0 (1/10) =
      .ok (⟨0, [2, 3], 4, 0, 5, [1, 3], 0, 9⟩, 0, 0) :=
  C12_no_susceptible .sei ⟨0, [2, 3], 4, 0, 5, [1, 3], 0, 9⟩ nvEnvCell true 0 (1/10) (by decide)

/-- 10 susceptible in a total population of 5: suitability 2 > 1. -/
theorem nv_C12_suitability_range_rejected :
    nvA.suitability ⟨5, none, none⟩ = .error .invalid_argument :=
  C12_suitability_range_rejected nvA ⟨5, none, none⟩ (Or.inr (by decide +kernel))

/-- Negative weather coefficient: suitability 10/20 x (-1/2) < 0. -/
theorem nv_C12_suitability_range_rejected_neg :
    nvA.suitability ⟨20, some (-1/2), none⟩ = .error .invalid_argument :=
  C12_suitability_range_rejected nvA ⟨20, some (-1/2), none⟩ (Or.inl (by decide +kernel))

theorem nv_C12_lethal :
    lethalSpec true nvA (nvA.removeAllInfected [1, 3]) = true ∧ (nvA.removeAllInfected [1, 3]).mortOK = true ∧
    (∀ x ∈ (nvA.removeAllInfected [1, 3]).mort, x = 0) :=
  C12_lethal nvA [1, 3] nvA_nonNeg nvA_mortOK (by decide)

theorem nv_C12_survival : survivalSpec (1/2) nvA ⟨14, [1, 2], 2, 0, 3, [0, 2], 0, 19⟩ = true :=
  C12_survival nvA (1/2) [1, 1] [1, 1] nvSurv_dom _ nvSurv_run

/-! ## C17 -/

theorem nv_C17_leaving :
    0 ≤ leavingCount (1/2) nvA ∧ leavingCount (1/2) nvA ≤ nvA.i ∧
    (nvA.pestsFrom (leavingCount (1/2) nvA)).1.i = nvA.i - leavingCount (1/2) nvA ∧
    (nvA.pestsFrom (leavingCount (1/2) nvA)).1.s = nvA.s + leavingCount (1/2) nvA ∧
    (nvA.pestsFrom (leavingCount (1/2) nvA)).2 = leavingCount (1/2) nvA :=
  C17_leaving (1/2) nvA half_in_unit.1 half_in_unit.2 (by decide)

example : leavingCount (1/2) nvA = 2 := by decide +kernel

/-- 12 pests arrive at a cell with 10 susceptible hosts: 10 establish. -/
theorem nv_C17_arrival :
    (nvA.pestsTo 12).2 = min 12 nvA.s ∧ (nvA.pestsTo 12).1.i = nvA.i + min 12 nvA.s ∧
    (nvA.pestsTo 12).1.s = nvA.s - min 12 nvA.s :=
  C17_arrival nvA 12

/-- Departures on `nvLand` (threshold 1/4, leaving share 1/2): cell 0 (4 of 8) departs, cell 1
    (1 infected) does not. -/
theorem nv_C17_two_phase :
    let r := departGo nvG (1/4) (1/2) [(0, 0), (0, 1)] nvLand nvP [(0, 1)] []
    r.1.length = nvLand.length ∧
    (∀ k : Nat, k < nvLand.length → (r.1[k]!).i ≤ (nvLand[k]!).i ∧
        (r.1[k]!).s + (r.1[k]!).i = (nvLand[k]!).s + (nvLand[k]!).i) ∧
    (∀ m ∈ r.2.2.2, m ∈ ([] : List (Int × Int × Int)) ∨ nvG.isOutside m.1 m.2.1 = false) ∧
    (∀ k : Nat, k < nvLand.length → departs (1/4) (nvLand[k]!) = false → r.1[k]! = nvLand[k]!) :=
  C17_two_phase nvG (1/4) (1/2) [(0, 0), (0, 1)] nvLand nvP [(0, 1)] [] half_in_unit.1 half_in_unit.2
    (by decide)

example : (departGo nvG (1/4) (1/2) [(0, 0), (0, 1)] nvLand nvP [(0, 1)] []).2.2.2 = [(0, 1, 2)] := by
  decide +kernel

theorem nvLand_departs : departs (1/4) (nvLand[nvG.idx 0 0]!) = true := by decide +kernel

/-- The departing cell's 2 pests are sent outside the study area, to (0, 7). -/
theorem nv_C17_outside_recorded :
    let res := departGo nvG (1/4) (1/2) [(0, 0)] nvLand nvP [(0, 7)] []
    (nvG.isOutside 0 7 = true →
      res.2.1.outside = nvP.outside ++ List.replicate (leavingCount (1/2) (nvLand[nvG.idx 0 0]!)).toNat (0, 7) ∧
        res.2.2.2 = []) ∧
    (nvG.isOutside 0 7 = false →
      res.2.1.outside = nvP.outside ∧ res.2.2.2 = [(0, 7, leavingCount (1/2) (nvLand[nvG.idx 0 0]!))]) :=
  C17_outside_recorded nvG (1/4) (1/2) 0 0 nvLand nvP (0, 7) nvLand_departs

example : (departGo nvG (1/4) (1/2) [(0, 0)] nvLand nvP [(0, 7)] []).2.1.outside = [(0, 7), (0, 7)] := by
  decide +kernel

/-- A movement table with rows scheduled at steps 1, 1, 3, 7; cursor 0, step 1. -/
theorem nv_C17_movement_rows :
    let r := movementRows [1, 1, 3, 7] 0 1
    0 ≤ r.2 ∧ r.2 ≤ [1, 1, 3, 7].length ∧
    r.1 = (List.range (r.2 - 0)).map (· + 0) ∧
    (∀ i, 0 ≤ i → i < r.2 → [1, 1, 3, 7][i]! = 1) ∧
    (r.2 < [1, 1, 3, 7].length → [1, 1, 3, 7][r.2]! ≠ 1) :=
  C17_movement_rows [1, 1, 3, 7] 0 1 (by decide)

example : movementRows [1, 1, 3, 7] 0 1 = ([0, 1], 2) := by decide

theorem nvSched_mono : ∀ i j, i ≤ j → j < [1, 1, 3, 7].length → [1, 1, 3, 7][i]! ≤ [1, 1, 3, 7][j]! := by
  have h : ∀ j, j < 4 → ∀ i, i ≤ j → [1, 1, 3, 7][i]! ≤ [1, 1, 3, 7][j]! := by decide
  intro i j hij hj
  exact h j hj i hij

theorem nvSched_steps : ∀ i, i < [1, 1, 3, 7].length →
    [1, 1, 3, 7][i]! ∈ [1, 3, 4] ∨ ∀ s ∈ [1, 3, 4], s < [1, 1, 3, 7][i]! := by decide

/-- The same table over the (non-contiguous) spread steps 1, 3, 4 of a run: rows 0, 1 are applied
    at step 1, row 2 at step 3, row 3 (step 7) lies beyond the run. -/
theorem nv_C17_movement_once :
    let run := movementRunOn [1, 1, 3, 7] [1, 3, 4] 0
    (run.flatMap (·.2)) = (List.range [1, 1, 3, 7].length).filter (fun i => decide ([1, 1, 3, 7][i]! ∈ [1, 3, 4])) ∧
    (∀ e ∈ run, ∀ i ∈ e.2, [1, 1, 3, 7][i]! = e.1) ∧ run.map (·.1) = [1, 3, 4] :=
  C17_movement_once [1, 1, 3, 7] [1, 3, 4] nvSched_mono (by decide) nvSched_steps

example : movementRunOn [1, 1, 3, 7] [1, 3, 4] 0 = [(1, [0, 1]), (3, [2]), (4, [])] := by decide

theorem nv_C17_movement_amount :
    let r := moveHosts nvA nvB 6 nvDraw [1, 1] [0, 2]
    r.2.2 = min 6 nvA.hosts ∧ nvA.hosts - r.1.hosts = min 6 nvA.hosts ∧
    r.2.1.hosts - nvB.hosts = min 6 nvA.hosts ∧
    addL r.1.e r.2.1.e = addL nvA.e nvB.e ∧ addL r.1.mort r.2.1.mort = addL nvA.mort nvB.mort :=
  C17_movement_amount nvA nvB 6 nvDraw [1, 1] [0, 2] nvA_nonNeg nvA_totalsOK
    nvDraw_valid nvDraw_E nvDraw_M rfl rfl

/-- More hosts requested (25) than present (19): everything moves. -/
theorem nv_C17_movement_amount_clamped :
    let r := moveHosts nvA nvB 25 ⟨4, 10, 5, 0⟩ [2, 3] [1, 3]
    r.2.2 = min 25 nvA.hosts ∧ nvA.hosts - r.1.hosts = min 25 nvA.hosts ∧
    r.2.1.hosts - nvB.hosts = min 25 nvA.hosts ∧
    addL r.1.e r.2.1.e = addL nvA.e nvB.e ∧ addL r.1.mort r.2.1.mort = addL nvA.mort nvB.mort :=
  C17_movement_amount nvA nvB 25 ⟨4, 10, 5, 0⟩ [2, 3] [1, 3] nvA_nonNeg nvA_totalsOK
    (by decide) (fun _ => by decide) (fun _ => by decide) rfl rfl

/-! ## Findings

  * No theorem of this family is vacuous: every hypothesis set above is met by an SEI instance with
    latency > 0, several cohorts, ratios strictly between 0 and 1 and a 1 x 2 grid. In particular
    `GensDomainAlong` (the domain hypothesis of `C01_generators` / `C01_model_step`) holds for a
    spread step in which the latency step is part of the plan (`nv_plan`, `nvStep_dom`).
  * Theorems without hypotheses (nothing to instantiate): `C09_compose`, `C09_measurements_pure`,
    `C02_soil_stochastic_full_fails`, `C03_cohorts_full_fails`, `C04_generation`,
    `C10_pesticide_end`, `C10_cleared_never_run`, `C11_rate_zero`, `C17_departure_rule`.
  * Hypotheses present although the proof does not use them, because outside them the C++ is
    undefined or throws while the model is total (see the doc comments of the theorems):
    `C03_mortality_never_fails` (hl), `C05_shift` (he), `C05_L0_equals_SI` (hm),
    `C12_establish_event` (hdom), `C12_survival` (hd).
  * Hypotheses that restrict the scope (by design, not degenerate): `C05_exact_latency` and
    `C05_latency_with_removals` only speak about runs whose first step number is >= the latency;
    `C05_L0_equals_SI` needs `e = [0]`, `te = 0`, which is the state between steps when the latency
    is 0; `C17_movement_once` needs every scheduled row to lie on a spread step or beyond the run;
    `C04_soil_ages_out` takes one release function for all steps (it must satisfy `hrel` on every
    list; `nvRelease` does). -/

end Pops
