/-
  Non-vacuity audit, part 1 (core Lean only, no Mathlib): every theorem of Props/C15.lean that has
  hypotheses (top-level or inside a conjunct) is applied (as `nv_<its name>`) to a concrete instance
  satisfying ALL of them. Instances: Lemmas/NonVacuousKernels.lean (`NV.net`: 4 nodes, triangle 1-2-3 whose edge 3-1
  has three cells and the others two, dead end 3-4, clipped edge 4-5, resolutions 1 x 2;
  `NV.netPC`: same edges with probability and cost columns, four different costs).
  C13 / C14 / C17Kern: Props/NonVacuous/KernelsReal.lean (their Props files import Mathlib modules).
  Theorems without hypotheses (`C15_kernel_forwards`, `C15_load_clip_rule`, `C15_F17_witness`,
  `C15_load_clip_ideal_fails`, `C15_load_header`, the closed conjuncts of `C15_load_rejects_texts`)
  need no instance.

  Before a text `"…".toList` is evaluated, `String.toList_ofList` turns it into the list of its
  characters (the kernel reads a literal as `String.ofList [c₁, …]`): evaluating `String.toList`
  decodes UTF-8 bytes, quadratic in the length. `with_reducible` keeps `rw` from unfolding it.
-/
import PopsModel.Props.C15
import PopsModel.Lemmas.NonVacuousKernels
namespace Pops.NV
open Pops Pops.Net

theorem net_wf : net.WF := .of_check net (by decide +kernel)
theorem netPC_wf : netPC.WF := .of_check netPC (by decide +kernel)
theorem net_cells : ∀ e ∈ net.segs, e.2.cells ≠ [] := net_wf.cells_ne_nil
theorem netPC_cells : ∀ e ∈ netPC.segs, e.2.cells ≠ [] := netPC_wf.cells_ne_nil
theorem netPC_costPos : ∀ e ∈ netPC.segs, 0 < e.2.cost := netPC_wf.costPos

/-- Both instances are what `load` produces from their texts. -/
theorem net_loaded : ∃ n, load grid text false = .ok n ∧ n.segs = net.segs := by
  unfold text; with_reducible rw [String.toList_ofList]
  exact ok_of_toOption (f := Net.segs) (by decide +kernel)
theorem netPC_loaded : ∃ n, load grid textPC false = .ok n ∧ n.segs = netPC.segs := by
  unfold textPC; with_reducible rw [String.toList_ofList]
  exact ok_of_toOption (f := Net.segs) (by decide +kernel)

/-- The four costs of `netPC` are pairwise different, those of `net` take two values. -/
example : netPC.segs.map (·.2.cost) = [4, 5 / 2, 6, 1] ∧ net.segs.map (·.2.cost) = [3 / 2, 3 / 2, 3, 3 / 2] := by
  decide +kernel

theorem net_walk_2 : Outcome.at (2, 2) ∈ net.walkG true (1, 1) 2 false := by decide +kernel
theorem net_walk_5 : Outcome.at (3, 6) ∈ net.walk (1, 1) 5 false := by decide +kernel
theorem net_next_3 : (4 : NodeId) ∈ net.nextNodes true 3 [1, 2] := by decide +kernel
theorem netPC_node_36 : netPC.hasNodeAt (3, 6) = true := by decide +kernel

theorem nv_C15_start_needs_node :
    net.hasNodeAt (0, 0) = false ∧
    net.walk (0, 0) 2 true = [.err .invalid_argument] ∧ net.teleport (0, 0) 3 = [.err .invalid_argument] ∧
    net.isCellEligible (0, 0) = false :=
  have h : net.hasNodeAt (0, 0) = false := by decide +kernel
  have t := C15_start_needs_node net (0, 0) h
  ⟨h, t.1 2 true, t.2.1 3, t.2.2.2⟩

theorem nv_C15_start_with_node :
    net.hasNodeAt (3, 6) = true ∧ net.isCellEligible (3, 6) = true ∧ net.nodesAt (3, 6) ≠ [] :=
  have h : net.hasNodeAt (3, 6) = true := by decide +kernel
  ⟨h, C15_start_with_node net (3, 6) h⟩

/-- Preferring walk, distance 2 from node 1: past node 2 is not reached on the long edge 1-3; the
    result `(2, 2)` is the middle cell of that edge. -/
theorem nv_C15_walk_derivation :
    Outcome.at (2, 2) ∈ net.walkG true (1, 1) 2 false ∧
    ∃ nd ∈ net.nodesAt (1, 1), Trip net true false (1, 1) nd [] 2 (.at (2, 2)) := by
  refine ⟨net_walk_2, ?_⟩
  rcases C15_walk_derivation net true (1, 1) 2 false _ net_walk_2 with h1 | ⟨_, h1⟩ | h1
  · cases h1
  · cases h1
  · exact h1

/-- Relaxed walk with snapping over several edges (4 -> 3 -> 1, costs 1 + 6). -/
theorem nv_C15_walk_derivation_relaxed :
    Outcome.at (1, 1) ∈ netPC.walkG false (3, 6) (13 / 2) true ∧
    ∃ nd ∈ netPC.nodesAt (3, 6), Trip netPC false true (3, 6) nd [] (13 / 2) (.at (1, 1)) := by
  have h : Outcome.at (1, 1) ∈ netPC.walkG false (3, 6) (13 / 2) true := by decide +kernel
  refine ⟨h, ?_⟩
  rcases C15_walk_derivation netPC false (3, 6) (13 / 2) true _ h with h1 | ⟨_, h1⟩ | h1
  · cases h1
  · cases h1
  · exact h1

theorem nv_C15_stays_on_network :
    (∀ e ∈ net.segs, e.2.cells ≠ []) ∧ Outcome.at (3, 6) ∈ net.walk (1, 1) 5 false ∧
    onNetwork net (1, 1) (3, 6) = true :=
  ⟨net_cells, net_walk_5, C15_stays_on_network net net_cells (1, 1) 5 false (3, 6) net_walk_5⟩

theorem nv_C15_terminates :
    (∀ e ∈ netPC.segs, 0 < e.2.cost) ∧
    Outcome.diverge ∉ netPC.walk (1, 1) 1000 true ∧ Outcome.diverge ∉ netPC.walkRelaxed (1, 1) 1000 true :=
  ⟨netPC_costPos, C15_terminates netPC netPC_costPos (1, 1) 1000 true⟩

/-- From the dead end (node 4) with distance 13/2: 4 -> 3 costs 1, then both 3 -> 1 (cost 6) and
    3 -> 2 -> 1 (costs 5/2 + 4) end in node 1's cell. -/
theorem nv_C15_cost :
    netPC.WF ∧ (0 : Rat) ≤ 13 / 2 ∧ netPC.hasNodeAt (3, 6) = true ∧
    Outcome.at (1, 1) ∈ netPC.walk (3, 6) (13 / 2) false ∧
    ∃ nd ∈ netPC.nodesAt (3, 6), Trip netPC false false (3, 6) nd [] (13 / 2) (.at (1, 1)) :=
  have hd : (0 : Rat) ≤ 13 / 2 := by decide +kernel
  have h : Outcome.at (1, 1) ∈ netPC.walk (3, 6) (13 / 2) false := by decide +kernel
  ⟨netPC_wf, hd, netPC_node_36, h, (C15_cost netPC netPC_wf (3, 6) (13 / 2) hd netPC_node_36 _ h).2⟩

/-- The same for the cost-less network, stopping inside the three-cell edge. -/
theorem nv_C15_cost_net :
    net.WF ∧ (0 : Rat) ≤ 2 ∧ net.hasNodeAt (1, 1) = true ∧ Outcome.at (2, 2) ∈ net.walk (1, 1) 2 false ∧
    ∃ nd ∈ net.nodesAt (1, 1), Trip net false false (1, 1) nd [] 2 (.at (2, 2)) :=
  have hd : (0 : Rat) ≤ 2 := by decide +kernel
  have hn : net.hasNodeAt (1, 1) = true := by decide +kernel
  ⟨net_wf, hd, hn, net_walk_2, (C15_cost net net_wf (1, 1) 2 hd hn _ net_walk_2).2⟩

/-- Edge 3-1 (three cells, cost 6) seen from node 1 (reversed view), remaining distance 4:
    index `lround (4 / 3) = 1`. -/
def viewPC13 : SegView := ⟨[(1, 1), (2, 2), (3, 3)], ⟨[(3, 3), (2, 2), (1, 1)], 0, 6, 0⟩⟩

theorem netPC_view_13 : netPC.getSegment 1 3 = some viewPC13 := by decide +kernel

theorem nv_C15_cost_index :
    netPC.WF ∧ netPC.getSegment 1 3 = some viewPC13 ∧ (0 : Rat) ≤ 4 ∧ (4 : Rat) ≤ viewPC13.cost ∧
    ∃ (i : Nat) (x : Cell), (i : Int) = lround (4 / viewPC13.costPerCell) ∧ i ≤ viewPC13.cells.length - 1 ∧
      viewPC13.cells[i]? = some x ∧ Net.finish false viewPC13 4 = .at x :=
  have h0 : (0 : Rat) ≤ 4 := by decide +kernel
  have h1 : (4 : Rat) ≤ viewPC13.cost := by decide +kernel
  ⟨netPC_wf, netPC_view_13, h0, h1, C15_cost_index netPC netPC_wf 1 3 viewPC13 netPC_view_13 4 h0 h1⟩

example : Net.finish false viewPC13 4 = .at (2, 2) := by decide +kernel

theorem nv_C15_jump :
    (∀ e ∈ net.segs, e.2.cells ≠ []) ∧ Outcome.at (3, 3) ∈ net.walk (1, 1) 2 true ∧
    isNodeCell net (3, 3) = true ∧
    Net.finish true viewPC13 (5 / 2) = (if (5 / 2 : Rat) < viewPC13.cost / 2 then .at viewPC13.front else .at viewPC13.back) :=
  have h : Outcome.at (3, 3) ∈ net.walk (1, 1) 2 true := by decide +kernel
  have t := C15_jump net net_cells
  ⟨net_cells, h, t.2 (1, 1) 2 (3, 3) h, t.1 viewPC13 (5 / 2)⟩

/-- At node 3 with nodes 1 and 2 behind, the only choice is the unvisited node 4; at the dead end
    the visited node 3 is returned. -/
theorem nv_C15_prefers_unvisited :
    (4 : NodeId) ∈ net.nextNodes true 3 [1, 2] ∧ (∃ u ∈ net.neighbours 3, u ∉ [(1 : NodeId), 2]) ∧
    (4 : NodeId) ∉ [(1 : NodeId), 2] ∧ (4 : NodeId) ∈ net.neighbours 3 := by
  have hu : ∃ u ∈ net.neighbours 3, u ∉ [(1 : NodeId), 2] := ⟨4, by decide +kernel, by decide⟩
  have t := C15_prefers_unvisited net 3 4 [1, 2] net_next_3
  refine ⟨net_next_3, hu, t.2.1 hu, ?_⟩
  rcases t.1 with h1 | ⟨h1, _⟩
  · exact h1
  · exact absurd h1 (by decide +kernel)

theorem nv_C15_prefers_unvisited_dead_end :
    (3 : NodeId) ∈ net.nextNodes true 4 [3] ∧
    ((3 : NodeId) ∈ net.neighbours 4 ∨ (net.neighbours 4 = [] ∧ (3 : NodeId) = 4)) :=
  have h : (3 : NodeId) ∈ net.nextNodes true 4 [3] := by decide +kernel
  ⟨h, (C15_prefers_unvisited net 4 3 [3] h).1⟩

theorem nv_C15_prefers_unvisited_trip :
    Outcome.at (3, 6) ∈ net.walk (1, 1) 5 false ∧ Outcome.at (3, 6) ≠ .diverge ∧ net.nodesAt (1, 1) ≠ [] ∧
    ∃ nd ∈ net.nodesAt (1, 1), Trip net true false (1, 1) nd [] 5 (.at (3, 6)) :=
  have hd : Outcome.at (3, 6) ≠ .diverge := by decide
  have hn : net.nodesAt (1, 1) ≠ [] := by decide +kernel
  ⟨net_walk_5, hd, hn, (C15_prefers_unvisited net 3 4 [1, 2] net_next_3).2.2 (1, 1) 5 false _ net_walk_5 hd hn⟩

/-- Teleporting from node 3's cell with edge probabilities 1/4 (to 2), 0 (to 1), 3/4 (to 4). -/
theorem nv_C15_teleport_adjacent :
    Outcome.at (3, 6) ∈ netPC.teleport (3, 3) 1 ∧ teleportAdjacent netPC (3, 3) (3, 6) = true ∧
    Outcome.at (3, 6) ∈ netPC.teleport (3, 3) 3 ∧ isNodeCell netPC (3, 6) = true ∧
    Outcome.at (3, 6) ∈ netPC.kernelCall true false (3, 3) 7 :=
  have h1 : Outcome.at (3, 6) ∈ netPC.teleport (3, 3) 1 := by decide +kernel
  have h3 : Outcome.at (3, 6) ∈ netPC.teleport (3, 3) 3 := by decide +kernel
  have hk : Outcome.at (3, 6) ∈ netPC.kernelCall true false (3, 3) 7 := by decide +kernel
  have t := C15_teleport_adjacent netPC (3, 3) (3, 6)
  have _ := t.2.2 true false 7 rfl hk
  ⟨h1, t.1 h1, h3, t.2.1 3 h3, hk⟩

theorem lineInside_parsed : parseRecord grid false false lineInside = .ok recInside := by
  unfold lineInside; with_reducible rw [String.toList_ofList]; decide +kernel
theorem lineEdge_parsed : parseRecord grid false false lineEdge = .ok recEdge := by
  unfold lineEdge; with_reducible rw [String.toList_ofList]; decide +kernel
theorem lineMerge_parsed : parseRecord grid false false lineMerge = .ok recMerge := by
  unfold lineMerge; with_reducible rw [String.toList_ofList]; decide +kernel
theorem lineOneCell_parsed : parseRecord grid false false lineOneCell = .ok recOneCell := by
  unfold lineOneCell; with_reducible rw [String.toList_ofList]; decide +kernel
theorem linePC_parsed : parseRecord grid true true linePC = .ok recPC := by
  unfold linePC; with_reducible rw [String.toList_ofList]; decide +kernel

theorem nv_C15_load_clip : ∃ n, load grid text false = .ok n ∧ n.segs = net.segs ∧
    (∀ k, (∃ s, n.findSeg k = some s) ↔
      ∃ hd data rs, splitHeader (getlines '\n' text) = .ok (hd, data) ∧
        parseRecords grid hd.hasCost hd.hasProb data = .ok rs ∧ ∃ r ∈ rs, r.key = k ∧ r.kept grid = true) := by
  obtain ⟨n, hn, hs⟩ := net_loaded
  refine ⟨n, hn, hs, ?_⟩
  obtain ⟨hd, data, rs, h1, h2, _, h4, _⟩ := C15_load_clip grid text false n hn
  intro k
  rw [h4 k]
  constructor
  · intro h; exact ⟨hd, data, rs, h1, h2, h⟩
  · rintro ⟨hd', data', rs', h1', h2', h⟩
    rw [h1] at h1'; cases h1'
    rw [h2] at h2'; cases h2'
    exact h

theorem nv_C15_load_clip_inside_kept :
    0 < grid.ewRes ∧ 0 < grid.nsRes ∧ parseRecord grid false false lineInside = .ok recInside ∧
    recInside.inside grid = true ∧ recInside.kept grid = true :=
  have h1 : 0 < grid.ewRes := by decide +kernel
  have h2 : 0 < grid.nsRes := by decide +kernel
  have h4 : recInside.inside grid = true := by decide +kernel
  ⟨h1, h2, lineInside_parsed, h4,
   C15_load_clip_inside_kept grid h1 h2 false false lineInside recInside lineInside_parsed h4⟩

/-- A kept record whose second end point lies OUTSIDE the box (x = 30.5 > east = 30). -/
theorem nv_C15_load_clip_region :
    0 < grid.ewRes ∧ 0 < grid.nsRes ∧ parseRecord grid false false lineEdge = .ok recEdge ∧
    recEdge.kept grid = true ∧ recEdge.inside grid = false ∧
    (grid.west ≤ recEdge.last.1 ∧ recEdge.last.1 < grid.east + grid.ewRes ∧
      grid.south - grid.nsRes < recEdge.last.2 ∧ recEdge.last.2 ≤ grid.north) :=
  have h1 : 0 < grid.ewRes := by decide +kernel
  have h2 : 0 < grid.nsRes := by decide +kernel
  have h4 : recEdge.kept grid = true := by decide +kernel
  ⟨h1, h2, lineEdge_parsed, h4, by decide +kernel,
   (C15_load_clip_region grid h1 h2 false false lineEdge recEdge lineEdge_parsed h4).2⟩

/-- Edge (3,1) of `netPC`: stored under that key, seen reversed from node 1. -/
theorem nv_C15_load_symmetric :
    ((3, 1), (⟨[(3, 3), (2, 2), (1, 1)], 0, 6, 0⟩ : Segment)) ∈ netPC.segs ∧
    netPC.getSegment 1 3 = some viewPC13 ∧ netPC.findSeg (1, 3) = none ∧
    ((1 : NodeId) ∈ netPC.neighbours 3 ∧ (3 : NodeId) ∈ netPC.neighbours 1) ∧
    ∃ v', netPC.getSegment 3 1 = some v' ∧ v'.seg = viewPC13.seg ∧ v'.cost = viewPC13.cost ∧
      v'.cells = viewPC13.cells.reverse :=
  have he : ((3, 1), (⟨[(3, 3), (2, 2), (1, 1)], 0, 6, 0⟩ : Segment)) ∈ netPC.segs := by decide +kernel
  have hf : netPC.findSeg (1, 3) = none := by decide +kernel
  ⟨he, netPC_view_13, hf, (C15_load_symmetric netPC 3 1).2.2.1 _ he rfl,
   (C15_load_symmetric netPC 1 3).2.2.2 viewPC13 netPC_view_13 (Or.inl hf)⟩

/-- No cost column, three points of which two share a cell: two cells, cost `1 * (1 + 2) / 2`. -/
theorem nv_C15_load_merge :
    parseRecord grid false false lineMerge = .ok recMerge ∧
    recMerge.seg.cost = (recMerge.seg.steps : Rat) * grid.distancePerCell ∧ mergedOK recMerge.seg.cells = true :=
  have t := C15_load_merge grid false false lineMerge recMerge lineMerge_parsed
  ⟨lineMerge_parsed, t.2.2.2.2.2.1 rfl, t.2.1⟩

/-- Cost and probability columns, stated cost 6 (non-zero): the cost is the stated one. -/
theorem nv_C15_load_merge_cost :
    parseRecord grid true true linePC = .ok recPC ∧ recPC.seg.total ≠ 0 ∧ recPC.seg.cost = recPC.seg.total ∧
    2 ≤ recPC.seg.cells.length :=
  have ht : recPC.seg.total ≠ 0 := by decide +kernel
  have t := C15_load_merge grid true true linePC recPC linePC_parsed
  ⟨linePC_parsed, ht, t.2.2.2.2.2.2.1 rfl ht, t.1⟩

/-- All points in one cell: the completed segment `[c, c]`. -/
theorem nv_C15_load_merge_one_cell :
    parseRecord grid false false lineOneCell = .ok recOneCell ∧ 2 ≤ recOneCell.seg.cells.length ∧
    mergedOK recOneCell.seg.cells = true :=
  have t := C15_load_merge grid false false lineOneCell recOneCell lineOneCell_parsed
  ⟨lineOneCell_parsed, t.1, t.2.1⟩

theorem nv_C15_load_wf : ∃ n, load grid text false = .ok n ∧ n.segs = net.segs ∧
    splitHeader (getlines '\n' text) = .ok (⟨true, false, false⟩, (getlines '\n' text).tail) ∧
    0 < grid.distancePerCell ∧ n.WF ∧ (∀ e ∈ n.segs, 2 ≤ e.2.cells.length ∧ mergedOK e.2.cells = true) := by
  obtain ⟨n, hn, hs⟩ := net_loaded
  have hh : splitHeader (getlines '\n' text) = .ok (⟨true, false, false⟩, (getlines '\n' text).tail) := by
    unfold text; with_reducible rw [String.toList_ofList]; decide +kernel
  have hd : 0 < grid.distancePerCell := by decide +kernel
  have t := C15_load_wf grid text false n hn
  exact ⟨n, hn, hs, hh, hd, t.2 _ _ hh rfl hd, t.1⟩

/-! ### Rejections: one line per conjunct of `C15_load_rejects` -/

def rej1 : List Char := "x,2,21.5;7.5;23.5;7.5".toList
def rej2 : List Char := "1,99999999999,21.5;7.5;23.5;7.5".toList
def rej3 : List Char := "1,0,21.5;7.5;23.5;7.5".toList
def rej4 : List Char := "1,2,-0.5,21.5;7.5;23.5;7.5".toList
def rej5 : List Char := "1,2,0.5,abc,21.5;7.5;23.5;7.5".toList
def rej6 : List Char := "1,2,21.5;x;23.5;7.5".toList
def rej7 : List Char := "1,2,21.5;7.5".toList

theorem nv_C15_load_rejects_1 :
    nodeIdFromText ((getlines ',' rej1).getD 0 []) = .error .invalid_argument ∧
    parseRecord grid false false rej1 = .error .invalid_argument := by
  unfold rej1; with_reducible rw [String.toList_ofList]
  refine ⟨?h, (C15_load_rejects grid false false _).1 _ ?h⟩
  decide +kernel

theorem nv_C15_load_rejects_2 :
    nodeIdFromText ((getlines ',' rej2).getD 0 []) = .ok 1 ∧
    nodeIdFromText ((getlines ',' rej2).getD 1 []) = .error .out_of_range ∧
    parseRecord grid false false rej2 = .error .out_of_range := by
  unfold rej2; with_reducible rw [String.toList_ofList]
  refine ⟨?h1, ?h2, (C15_load_rejects grid false false _).2.1 _ _ ?h1 ?h2⟩
  all_goals decide +kernel

theorem nv_C15_load_rejects_3 :
    nodeIdFromText ((getlines ',' rej3).getD 0 []) = .ok 1 ∧
    nodeIdFromText ((getlines ',' rej3).getD 1 []) = .ok 0 ∧
    parseRecord grid false false rej3 = .error .runtime_error := by
  unfold rej3; with_reducible rw [String.toList_ofList]
  refine ⟨?h1, ?h2, (C15_load_rejects grid false false _).2.2.1 _ _ ?h1 ?h2 (Or.inr (by decide))⟩
  all_goals decide +kernel

theorem nv_C15_load_rejects_4 :
    nodeIdFromText ((getlines ',' rej4).getD 0 []) = .ok 1 ∧
    nodeIdFromText ((getlines ',' rej4).getD 1 []) = .ok 2 ∧
    probabilityFromText ((getlines ',' rej4).getD 2 []) = .error .invalid_argument ∧
    parseRecord grid false true rej4 = .error .invalid_argument := by
  unfold rej4; with_reducible rw [String.toList_ofList]
  refine ⟨?h1, ?h2, ?h3, (C15_load_rejects grid false true _).2.2.2.1 _ _ _ ?h1 ?h2 (by decide) rfl ?h3⟩
  all_goals decide +kernel

theorem nv_C15_load_rejects_5 :
    nodeIdFromText ((getlines ',' rej5).getD 0 []) = .ok 1 ∧
    nodeIdFromText ((getlines ',' rej5).getD 1 []) = .ok 2 ∧
    optProbability true ((getlines ',' rej5).getD 2 []) = .ok (1 / 2) ∧
    costFromText ((getlines ',' rej5).getD 3 []) = .error .invalid_argument ∧
    parseRecord grid true true rej5 = .error .invalid_argument := by
  unfold rej5; with_reducible rw [String.toList_ofList]
  refine ⟨?h1, ?h2, ?h3, ?h4,
    (C15_load_rejects grid true true _).2.2.2.2.1 _ _ _ _ ?h1 ?h2 (by decide) ?h3 rfl ?h4⟩
  all_goals decide +kernel

theorem nv_C15_load_rejects_6 :
    nodeIdFromText ((getlines ',' rej6).getD 0 []) = .ok 1 ∧
    nodeIdFromText ((getlines ',' rej6).getD 1 []) = .ok 2 ∧
    parsePoints (getlines ';' ((getlines ',' rej6).getD 2 [])) = .error .invalid_argument ∧
    parseRecord grid false false rej6 = .error .invalid_argument := by
  unfold rej6; with_reducible rw [String.toList_ofList]
  refine ⟨?h1, ?h2, ?h5,
    (C15_load_rejects grid false false _).2.2.2.2.2.1 _ _ 0 0 _ ?h1 ?h2 (by decide) rfl rfl ?h5⟩
  all_goals decide +kernel

theorem nv_C15_load_rejects_7 :
    nodeIdFromText ((getlines ',' rej7).getD 0 []) = .ok 1 ∧
    nodeIdFromText ((getlines ',' rej7).getD 1 []) = .ok 2 ∧
    parsePoints (getlines ';' ((getlines ',' rej7).getD 2 [])) = .ok [(43 / 2, 15 / 2)] ∧
    parseRecord grid false false rej7 = .error .runtime_error := by
  unfold rej7; with_reducible rw [String.toList_ofList]
  refine ⟨?h1, ?h2, ?h5,
    (C15_load_rejects grid false false _).2.2.2.2.2.2 _ _ 0 0 _ ?h1 ?h2 (by decide) rfl rfl ?h5 (by decide)⟩
  all_goals decide +kernel

/-- One malformed line after two good ones aborts the whole input with its class. -/
theorem nv_C15_load_rejects_texts_abort :
    (∀ l' ∈ [lineMerge, lineInside], ∃ r, parseRecord grid false false l' = .ok r) ∧
    parseRecord grid false false rej7 = .error .runtime_error ∧
    parseRecords grid false false ([lineMerge, lineInside] ++ rej7 :: [lineEdge]) = .error .runtime_error :=
  have hp : ∀ l' ∈ [lineMerge, lineInside], ∃ r, parseRecord grid false false l' = .ok r :=
    List.forall_mem_cons.mpr ⟨⟨_, lineMerge_parsed⟩, List.forall_mem_singleton.mpr ⟨_, lineInside_parsed⟩⟩
  have hl := nv_C15_load_rejects_7.2.2.2
  ⟨hp, hl, C15_load_rejects_texts.2.2.2.2.2.2.2.2.2.2.2.2.2.2.2.2.1 grid false false _ _ _ _ hp hl⟩

/-- An input whose only edge lies outside the box. -/
def textOutside : List Char := "1,2,51.5;7.5;53.5;7.5\n".toList

theorem nv_C15_load_rejects_texts_empty : ∃ n, loadSegments grid textOutside = .ok n ∧ n.segs = [] ∧
    load grid textOutside false = .error .runtime_error ∧ load grid textOutside true = .ok n := by
  obtain ⟨n, hn, hs⟩ : ∃ n, loadSegments grid textOutside = .ok n ∧ n.segs = [] := by
    unfold textOutside; with_reducible rw [String.toList_ofList]
    exact ok_of_toOption (f := Net.segs) (by decide +kernel)
  exact ⟨n, hn, hs, C15_load_rejects_texts.2.2.2.2.2.2.2.2.2.2.2.2.2.2.2.2.2 grid textOutside n hn hs⟩

/-! ### Boundary of the hypothesis "all costs positive"

  `C15_load_wf` derives `Net.WF` from `load` only for inputs WITHOUT a cost column. With a cost
  column the hypothesis of `C15_terminates` / `C15_cost` is satisfiable (`netPC`, stated costs
  4, 5/2, 6, 1) but is not implied by a successful `load`: a stated cost `0` is stored as cost 0
  (`total_cost_ = 0` and, with a cost column, `cost_per_cell_ = 0`), and the walk never ends. -/

def textZeroCost : List Char := "node_1,node_2,cost,geometry\n1,2,0,21.5;7.5;23.5;7.5\n".toList
def netZeroCost : Net := { grid := grid, hasProb := false, segs := [((1, 2), ⟨[(1, 1), (1, 3)], 0, 0, 0⟩)] }

theorem zero_cost_loaded_not_wf : ∃ n, load grid textZeroCost false = .ok n ∧ n.segs = netZeroCost.segs ∧
    ¬ (∀ e ∈ netZeroCost.segs, 0 < e.2.cost) ∧ netZeroCost.walk (1, 1) 1 false = [.diverge] := by
  obtain ⟨n, hn, hs⟩ : ∃ n, load grid textZeroCost false = .ok n ∧ n.segs = netZeroCost.segs := by
    unfold textZeroCost; with_reducible rw [String.toList_ofList]
    exact ok_of_toOption (f := Net.segs) (by decide +kernel)
  refine ⟨n, hn, hs, ?_, by decide +kernel⟩
  intro h
  exact absurd (h _ (List.mem_singleton.mpr rfl)) (by decide +kernel)

end Pops.NV
