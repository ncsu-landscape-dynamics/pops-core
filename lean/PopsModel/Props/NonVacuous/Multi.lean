/-
  Non-vacuity audit of Props/C16.lean, Props/C18.lean, Props/C18List.lean and Props/C19.lean.

  For every `C16_`, `C18_`, `C19_` theorem of those files that has hypotheses (and for
  `hostWeightsFrom_getElem`, `own_area_box`, `sumL_perm`) one concrete non-trivial instance
  satisfying ALL of them at once is exhibited and the theorem applied to it: each statement reads
  `hypothesis 1 ∧ ... ∧ hypothesis n ∧ conclusion for the instance` (the conclusion is left to
  unification where it is long); premises inside a conclusion are discharged as well.  Theorems
  without hypotheses are listed per section; the closed refutations (`*_fails`, `*_witness`) and
  `specEscapedFull_iff` have none either.  The auxiliary lemmas
  `specEscapedFull_eq_of_infected_nonneg`, `Heap.leaked_step`, `Heap.leaked_run`,
  `Heap.writePtr_live` are exercised only through the theorems that use them.
  Concrete facts are checked by `decide +kernel` (no axiom beyond the three allowed).  Instance
  names carry `nv_`; the decision procedures of Lemmas/NonVacuousMulti.lean carry `nvm`.
-/
import PopsModel.Lemmas.NonVacuousMulti
namespace Pops
/- Everything lives in `Pops.NVMulti`, so that the instance names cannot collide with those of the
   other audit files. -/
namespace NVMulti

attribute [local instance] exceptDecEq nvmDecValidDraw nvmDecValidSplit nvmDecInRange

/-! # C16  several hosts

  Without hypotheses (nothing to exhibit): `C16_sums`, `C16_single_host_negative_susceptible`,
  `C16_single_host_stream_full_fails`, `C16_competency_scaling`, `C16_table_validation`,
  `C16_move_first_host_only`.

  The common instance: two hosts at one cell with total population 10 and weather coefficient 1/2;
  host 0 is an SEI host (two exposed cohorts, stochastic establishment), host 1 an SI host
  (deterministic establishment, probability 19/20); a pest-host table with different
  susceptibilities (1/2, 1), mortality rates (1/2, 1) and time lags (0, 1); a partial competency
  table with three rows. -/

def nvA : Cell := { s := 4, e := [0, 1], i := 2, r := 1, te := 1, mort := [1, 1], died := 0, th := 8 }
def nvB : Cell := { s := 2, e := [], i := 3, r := 0, te := 0, mort := [2, 1], died := 0, th := 5 }
def nvPht : PestHostTable := { sus := [1/2, 1], rate := [1/2, 1], lag := [0, 1] }
def nvRows : List CompRow := [⟨[true, false], 1⟩, ⟨[true, true], 2⟩, ⟨[false, true], 3/2⟩]
def nvEnv : MEnv := { n := 10, w := some (1/2), pht := some nvPht, comp := some (.part nvRows) }
def nvPA : HostParams := { mt := .sei, sto := true, pEst := 0, rr := 2 }
def nvPB : HostParams := { mt := .si, sto := false, pEst := 19/20, rr := 3 }
def nvLand : MultiCfg := { arrival := .land, sto := true, pEst := 0 }
def nvInfect : MultiCfg := { arrival := .infect, sto := false, pEst := 1/2 }
/-- Host 1 after a landing (one S -> I, youngest mortality cohort + 1). -/
def nvB1 : Cell := { nvB with s := 1, i := 4, mort := [2, 2] }

/-- The tables are what the constructors build from `Config` rows: the pest-host table from three
    values per host, the competency tables from the row count (3 rows: partial; 2^2 rows: complete). -/
example : PestHostTable.ofConfig (readPestHostTable [[1/2, 1/2, 0], [1, 1, 3/2]]).1 = nvPht ∧
    (readPestHostTable [[1/2, 1/2, 0], [1, 1, 3/2]]).2 = none := by decide +kernel
example : CompetencyTable.ofConfig nvRows = .part nvRows := rfl

/-- The weights are 4/10 x 1/2 x 1/2 and 2/10 x 1 x 1/2. -/
theorem nv_suits : suitabilities nvEnv [nvA, nvB] = .ok [1/10, 1/10] := by decide +kernel

/-- "land": host 1 is drawn, the tester 3/20 lies between host 1's own weight 1/10 and the
    combined weight 1/5, so the landing establishes (it would not under "infect"); two generator
    calls. -/
theorem nv_land : multiDisperserTo nvLand [nvPA, nvPB] nvEnv [nvA, nvB] 1 (3/20) = .ok ([nvA, nvB1], 1, 2) := by
  decide +kernel

/-- "infect", host 0 drawn (stochastic, tester 3/20 not below its own weight 1/10): no
    establishment, two generator calls. -/
theorem nv_infect0 : multiDisperserTo nvInfect [nvPA, nvPB] nvEnv [nvA, nvB] 0 (3/20) = .ok ([nvA, nvB], 0, 2) := by
  decide +kernel

/-- "infect", host 1 drawn (deterministic, tester 1 - 19/20 below its own weight 1/10):
    establishment, one generator call (the pick). -/
theorem nv_infect1 : multiDisperserTo nvInfect [nvPA, nvPB] nvEnv [nvA, nvB] 1 (3/20) = .ok ([nvA, nvB1], 1, 1) := by
  decide +kernel

theorem nv_C16_at_most_one_host :
    multiDisperserTo nvLand [nvPA, nvPB] nvEnv [nvA, nvB] 1 (3/20) = .ok ([nvA, nvB1], 1, 2) ∧
    atMostOneSpec [nvPA, nvPB] [nvA, nvB] [nvA, nvB1] 1 = true ∧
    (((1 : Int) = 0 ∧ [nvA, nvB1] = [nvA, nvB]) ∨
     ((1 : Int) = 1 ∧ ∃ h, h < [nvA, nvB].length ∧ h = landingHost [nvA, nvB].length 1 ∧ 0 < ([nvA, nvB][h]!).s ∧
        [nvA, nvB1] = [nvA, nvB].set h (landed ([nvPA, nvPB][h]!).mt ([nvA, nvB][h]!)) ∧
        landingSpec ([nvPA, nvPB][h]!).mt ([nvA, nvB][h]!) ([nvA, nvB1][h]!) 1 = true)) :=
  ⟨nv_land, C16_at_most_one_host _ _ _ _ _ _ _ _ _ nv_land⟩

/-- The `k = 0` branch of the same theorem (hypothesis: `nv_infect0`). -/
example := C16_at_most_one_host _ _ _ _ _ _ _ _ _ nv_infect0

theorem nv_C16_establish_event :
    multiDisperserTo nvLand [nvPA, nvPB] nvEnv [nvA, nvB] 1 (3/20) = .ok ([nvA, nvB1], 1, 2) ∧
    multiEstablishSpec nvLand [nvPA, nvPB] (hostWeights nvEnv [nvA, nvB]) [nvA, nvB] 1 (3/20) 1 = true :=
  ⟨nv_land, C16_establish_event _ _ _ _ _ _ _ _ _ nv_land⟩

example :
    multiEstablishSpec nvInfect [nvPA, nvPB] (hostWeights nvEnv [nvA, nvB]) [nvA, nvB] 0 (3/20) 0 = true ∧
    multiEstablishSpec nvInfect [nvPA, nvPB] (hostWeights nvEnv [nvA, nvB]) [nvA, nvB] 1 (3/20) 1 = true :=
  ⟨C16_establish_event _ _ _ _ _ _ _ _ _ nv_infect0, C16_establish_event _ _ _ _ _ _ _ _ _ nv_infect1⟩

theorem nv_hostWeightsFrom_getElem :
    1 < [nvA, nvB].length ∧
    (hostWeightsFrom nvEnv 0 [nvA, nvB])[1]! = hostWeight nvEnv (0 + 1) ([nvA, nvB][1]!) :=
  ⟨by decide, hostWeightsFrom_getElem nvEnv 0 [nvA, nvB] 1 (by decide)⟩

theorem nv_C16_susceptibility :
    [1/10, 1/10] = hostWeights nvEnv [nvA, nvB] ∧
    (∀ j, j < [nvA, nvB].length →
      [(1/10 : Rat), 1/10][j]! = (([nvA, nvB][j]!).s : Rat) / (nvEnv.n : Rat) * susOf nvEnv j * nvEnv.w.getD 1 ∧
      0 ≤ [(1/10 : Rat), 1/10][j]! ∧ [(1/10 : Rat), 1/10][j]! ≤ 1) ∧
    (∀ t j x, nvEnv.pht = some t → t.sus[j]? = some x → susOf nvEnv j = x) ∧
    (nvEnv.pht = none → ∀ j, susOf nvEnv j = 1) :=
  C16_susceptibility nvEnv [nvA, nvB] _ nv_suits

/-- The premises of the two inner implications of `C16_susceptibility` for the instance. -/
example : nvEnv.pht = some nvPht ∧ nvPht.sus[1]? = some 1 ∧ susOf nvEnv 1 = 1 :=
  ⟨rfl, rfl, (C16_susceptibility nvEnv [nvA, nvB] _ nv_suits).2.2.1 nvPht 1 1 rfl rfl⟩

/-- Rejected input: every host's weight is at most one (3/4 and 1/2, so `suitabilities` succeeds)
    but they add up to 5/4.  This needs a total population (4) smaller than the susceptible hosts
    of the cell (3 + 2): inconsistent rasters, which is what the exception is for. -/
def nvEnvSmall : MEnv := { n := 4, w := none, pht := none, comp := none }
def nvC3 : Cell := { nvA with s := 3 }

theorem nv_C16_suitability_over_one_rejected :
    suitabilities nvEnvSmall [nvC3, nvB] = .ok [3/4, 1/2] ∧
    sumR (hostWeights nvEnvSmall [nvC3, nvB]) > 1 ∧
    multiDisperserTo nvLand [nvPA, nvPB] nvEnvSmall [nvC3, nvB] 1 (3/20) = .error .invalid_argument := by
  refine ⟨?suits, ?over, C16_suitability_over_one_rejected _ _ _ _ _ _ _ ?suits ?over⟩
  case suits => decide +kernel
  case over => decide +kernel

/-- Susceptible hosts in both pools, weather coefficient 0. -/
def nvEnvCold : MEnv := { nvEnv with w := some 0 }

theorem nv_C16_no_suitability_no_draw :
    suitabilities nvEnvCold [nvA, nvB] = .ok [0, 0] ∧ sumR [(0 : Rat), 0] ≤ 0 ∧
    multiDisperserTo nvLand [nvPA, nvPB] nvEnvCold [nvA, nvB] 1 (3/20) = .ok ([nvA, nvB], 0, 0) := by
  refine ⟨?suits, ?zero, C16_no_suitability_no_draw _ _ _ _ _ _ _ ?suits ?zero⟩
  case suits => decide +kernel
  case zero => decide +kernel

/-- Hosts with 2 and 3 infected, 4 requested, split 1 + 3. -/
theorem nv_C16_split_bounded : (4 : Int) < 4294967296 ∧ ValidSplit ([nvA, nvB].map (·.i)) 4 [1, 3] :=
  ⟨by decide, by decide +kernel⟩
example := C16_split_bounded [nvA, nvB] 4 [1, 3] nv_C16_split_bounded.1 nv_C16_split_bounded.2
example : (multiPestsFrom [nvA, nvB] [1, 3]).2 = 4 :=
  (C16_split_bounded [nvA, nvB] 4 [1, 3] nv_C16_split_bounded.1 nv_C16_split_bounded.2).2.1.trans (by decide)

/-- The same with a negative request (converted to 4294967295: everything is taken). -/
theorem nv_C16_split_bounded_neg : (-1 : Int) < 4294967296 ∧ ValidSplit ([nvA, nvB].map (·.i)) (-1) [2, 3] :=
  ⟨by decide, by decide +kernel⟩
example := C16_split_bounded [nvA, nvB] (-1) [2, 3] nv_C16_split_bounded_neg.1 nv_C16_split_bounded_neg.2

/-- Hosts with 4 and 2 susceptible, 5 arriving, split 3 + 2. -/
theorem nv_C16_split_bounded_to : (5 : Int) < 4294967296 ∧ ValidSplit ([nvA, nvB].map (·.s)) 5 [3, 2] :=
  ⟨by decide, by decide +kernel⟩
example := C16_split_bounded_to [nvA, nvB] 5 [3, 2] nv_C16_split_bounded_to.1 nv_C16_split_bounded_to.2

theorem nv_C16_split_negative_request :
    (-3 : Int) < 0 ∧ (-2147483648 : Int) ≤ -3 ∧ (5 : Int) ≤ 2147483647 ∧ min (toUnsigned (-3)) 5 = 5 :=
  ⟨by decide, by decide, by decide, C16_split_negative_request (-3) (by decide) (by decide) 5 (by decide)⟩

/-! ### one host inside the wrapper: host 0 (SEI, stochastic) with its table entry -/

def nvE0 : EnvCell := { n := 10, w := some (1/2), sus := some (1/2) }
/-- Host 0 after a landing (one S -> E in the youngest cohort). -/
def nvA1 : Cell := { nvA with s := 3, e := [0, 2], te := 2 }

theorem nv_bare : nvA.disperserTo nvPA.mt nvE0 nvPA.sto nvPA.pEst (1/20) = .ok (nvA1, 1, 1) := by decide +kernel

theorem nv_tester : 0 ≤ (if nvPA.sto then (1/20 : Rat) else 1 - nvPA.pEst) := by decide +kernel

theorem nv_C16_single_host_result :
    nvEnv.cellEnv 0 = .ok nvE0 ∧ 0 ≤ nvA.s ∧
    (nvLand.arrival = .land → nvLand.sto = nvPA.sto ∧ nvLand.pEst = nvPA.pEst) ∧
    0 ≤ (if nvPA.sto then (1/20 : Rat) else 1 - nvPA.pEst) ∧
    (∃ n', multiDisperserTo nvLand [nvPA] nvEnv [nvA] 7 (1/20) = .ok ([nvA1], 1, n')) :=
  ⟨rfl, by decide, fun _ => ⟨rfl, rfl⟩, nv_tester,
   (C16_single_host_result nvLand nvPA nvEnv nvA 7 (1/20) nvE0 rfl (by decide) (fun _ => ⟨rfl, rfl⟩) nv_tester).1 _ _ _
     nv_bare⟩

/-- The deterministic branch of the tester hypothesis (host 1's settings), "infect". -/
theorem nv_C16_single_host_result_det :
    nvEnv.cellEnv 0 = .ok nvE0 ∧ 0 ≤ nvA.s ∧
    (nvInfect.arrival = .land → nvInfect.sto = nvPB.sto ∧ nvInfect.pEst = nvPB.pEst) ∧
    0 ≤ (if nvPB.sto then (1/20 : Rat) else 1 - nvPB.pEst) :=
  ⟨rfl, by decide, fun h => (by cases h), by decide +kernel⟩
example := C16_single_host_result nvInfect nvPB nvEnv nvA 7 (1/20) nvE0 nv_C16_single_host_result_det.1
  nv_C16_single_host_result_det.2.1 nv_C16_single_host_result_det.2.2.1 nv_C16_single_host_result_det.2.2.2

/-- The error half of `C16_single_host_result`: with total population 1 and weather coefficient 2
    the suitability 4/1 x 1/2 x 2 is over one: rejected by the bare host and by the wrapper. -/
def nvEnvHot : MEnv := { nvEnv with w := some 2 }
def nvE0Hot : EnvCell := { n := 10, w := some 2, sus := some (1/2) }

example :
    nvA.disperserTo nvPA.mt { nvE0Hot with n := 1 } nvPA.sto nvPA.pEst (1/20) = .error .invalid_argument ∧
    multiDisperserTo nvLand [nvPA] { nvEnvHot with n := 1 } [nvA] 7 (1/20) = .error .invalid_argument :=
  have hb : nvA.disperserTo nvPA.mt { nvE0Hot with n := 1 } nvPA.sto nvPA.pEst (1/20) = .error .invalid_argument := by
    decide +kernel
  ⟨hb, (C16_single_host_result nvLand nvPA { nvEnvHot with n := 1 } nvA 7 (1/20) { nvE0Hot with n := 1 } rfl
    (by decide) (fun _ => ⟨rfl, rfl⟩) nv_tester).2 _ hb⟩

theorem nv_C16_single_host_stream_partial :
    nvEnv.cellEnv 0 = .ok nvE0 ∧ 0 ≤ nvA.s ∧
    (nvLand.arrival = .land → nvLand.sto = nvPA.sto ∧ nvLand.pEst = nvPA.pEst) ∧
    0 ≤ (if nvPA.sto then (1/20 : Rat) else 1 - nvPA.pEst) ∧
    ¬ (nvA.s > 0 ∧ nvA.suitability nvE0 = .ok 0) ∧
    nvA.disperserTo nvPA.mt nvE0 nvPA.sto nvPA.pEst (1/20) = .ok (nvA1, 1, 1) ∧
    multiDisperserTo nvLand [nvPA] nvEnv [nvA] 7 (1/20) = .ok ([nvA1], 1, 1) := by
  have r := nv_C16_single_host_result
  refine ⟨r.1, r.2.1, r.2.2.1, nv_tester, ?suit, nv_bare,
    C16_single_host_stream_partial nvLand nvPA nvEnv nvA 7 (1/20) nvE0 r.1 r.2.1 r.2.2.1 nv_tester ?suit _ _ _ nv_bare⟩
  decide +kernel

/-- F19 region: susceptible hosts, weather coefficient 0. -/
def nvE0Cold : EnvCell := { nvE0 with w := some 0 }

theorem nv_C16_single_host_stream_gap :
    nvEnvCold.cellEnv 0 = .ok nvE0Cold ∧
    (nvLand.arrival = .land → nvLand.sto = nvPA.sto ∧ nvLand.pEst = nvPA.pEst) ∧
    0 ≤ (if nvPA.sto then (1/20 : Rat) else 1 - nvPA.pEst) ∧
    nvA.s > 0 ∧ nvA.suitability nvE0Cold = .ok 0 ∧
    nvA.disperserTo nvPA.mt nvE0Cold nvPA.sto nvPA.pEst (1/20) = .ok (nvA, 0, if nvPA.sto then 1 else 0) ∧
    multiDisperserTo nvLand [nvPA] nvEnvCold [nvA] 7 (1/20) = .ok ([nvA], 0, 0) := by
  refine ⟨rfl, nv_C16_single_host_result.2.2.1, nv_tester, by decide, ?z,
    C16_single_host_stream_gap nvLand nvPA nvEnvCold nvA 7 (1/20) nvE0Cold rfl nv_C16_single_host_result.2.2.1 nv_tester
      (by decide) ?z⟩
  decide +kernel

/-- A complete table for two hosts (2^2 rows) and the row of host 1 alone; and a table that passes
    `competency_table_is_complete` (four rows) but lists one combination twice, so that
    `[false, true]` is missing: out_of_range. -/
def nvComplete : List CompRow := [⟨[false, false], 0⟩, ⟨[true, false], 1⟩, ⟨[false, true], 3/2⟩, ⟨[true, true], 2⟩]
def nvDup : List CompRow := [⟨[false, false], 0⟩, ⟨[true, false], 1⟩, ⟨[true, false], 1/2⟩, ⟨[true, true], 2⟩]

example : CompetencyTable.ofConfig nvComplete = .complete nvComplete ∧
    CompetencyTable.ofConfig nvDup = .complete nvDup := ⟨rfl, rfl⟩

theorem nv_C16_competency_complete :
    competencyTableIsComplete nvComplete = true ∧ competencyTableIsComplete nvDup = true ∧
    (∀ r' ∈ [(⟨[true, true], 2⟩ : CompRow)], r'.presence ≠ [false, true]) ∧
    (CompetencyTable.complete nvComplete).competencyAt [false, true] 1 = .ok (3/2) ∧
    (∀ r' ∈ nvDup, r'.presence ≠ [false, true]) ∧
    (CompetencyTable.complete nvDup).competencyAt [false, true] 1 = .error .out_of_range := by
  have t := C16_competency_complete [⟨[false, false], 0⟩, ⟨[true, false], 1⟩] [⟨[true, true], 2⟩] ⟨[false, true], 3/2⟩
    nvDup [false, true] 1
  refine ⟨by decide, by decide, ?last, t.1 ?last, ?none, t.2.1 ?none⟩
  case last => decide
  case none => decide

/-- Partial table, both hosts present, host 0 asking: rows 0 and 1 are eligible, the value is 2. -/
theorem nv_C16_competency_partial :
    (∀ r ∈ nvRows, r.presence.getD 0 false = true → r.presence.length = [true, true].length) ∧
    ∃ v, (CompetencyTable.part nvRows).competencyAt [true, true] 0 = .ok v ∧ v = maxEligible nvRows [true, true] 0 ∧
      0 ≤ v ∧
      (∀ r ∈ nvRows, rowEligible [true, true] 0 r = true → r.competency ≤ v) ∧
      (v = 0 ∨ ∃ r ∈ nvRows, rowEligible [true, true] 0 r = true ∧ r.competency = v) ∧
      ((∀ r ∈ nvRows, rowEligible [true, true] 0 r = false) → v = 0) := by
  refine ⟨?fit, C16_competency_partial nvRows [true, true] 0 ?fit⟩
  decide

example : maxEligible nvRows [true, true] 0 = 2 ∧ maxEligible nvRows [true, false] 0 = 1 ∧
    maxEligible nvRows [true, false] 1 = 0 := by decide +kernel

/-- A table written for three hosts used with two. -/
def nvRows3 : List CompRow := [⟨[false, true, false], 1⟩, ⟨[true, true, false], 2⟩]

theorem nv_C16_competency_size_mismatch :
    (∃ r ∈ nvRows3, r.presence.getD 0 false = true ∧ r.presence.length ≠ [true, true].length) ∧
    (CompetencyTable.part nvRows3).competencyAt [true, true] 0 = .error .invalid_argument := by
  refine ⟨?bad, C16_competency_size_mismatch nvRows3 [true, true] 0 ?bad⟩
  decide

theorem nv_C16_host_dispersers :
    nvEnv.comp = some (.part nvRows) ∧ (CompetencyTable.part nvRows).competencyAt [true, true] 0 = .ok 2 ∧
    hostDispersersFrom nvEnv [true, true] 0 nvPA nvA =
      .ok (if nvA.i ≤ 0 then 0 else lround (nvPA.rr * nvEnv.w.getD 1 * 2 * (nvA.i : Rat))) := by
  refine ⟨rfl, ?k, C16_host_dispersers nvEnv [true, true] 0 nvPA nvA _ 2 rfl ?k⟩
  decide +kernel

/-- The value: round (2 x 1/2 x 2 x 2) + round (3 x 1/2 x 2 x 3) = 4 + 9. -/
example : multiDispersersFrom nvEnv [nvPA, nvPB] [nvA, nvB] = .ok 13 ∧
    dispersersSpec nvEnv [nvPA, nvPB] [nvA, nvB] = some 13 := by
  have h : multiDispersersFrom nvEnv [nvPA, nvPB] [nvA, nvB] = .ok 13 := by decide +kernel
  refine ⟨h, ?_⟩
  rw [C16_competency_scaling, h]

/-! ### mortality: rate 1/2 with lag 0 for host 0, rate 1 with lag 1 for host 1 -/

def nvAm : Cell := { nvA with i := 1, mort := [0, 1], died := 1, th := 7 }
def nvBm : Cell := { nvB with i := 1, mort := [0, 1], died := 2, th := 3 }

theorem nv_C16_per_host_mortality :
    nvEnv.pht = some nvPht ∧ multiApplyMortality nvEnv [nvA, nvB] = .ok [nvAm, nvBm] ∧
    ([nvAm, nvBm].length = [nvA, nvB].length ∧
      ∀ h, h < [nvA, nvB].length → ∃ rate lag, nvPht.rate[h]? = some rate ∧ nvPht.lag[h]? = some lag ∧
        ([nvA, nvB][h]!).applyMortality rate lag = .ok ([nvAm, nvBm][h]!)) ∧
    ({ nvEnv with pht := none }.pht = none ∧ [nvA, nvB] ≠ [] ∧
      multiApplyMortality { nvEnv with pht := none } [nvA, nvB] = .error .invalid_argument) := by
  refine ⟨rfl, ?m, (C16_per_host_mortality nvEnv [nvA, nvB] [nvAm, nvBm]).1 nvPht rfl ?m,
    rfl, by decide, (C16_per_host_mortality { nvEnv with pht := none } [nvA, nvB] []).2 rfl (by decide)⟩
  decide +kernel

/-! # C18  metrics

  Without hypotheses: `C18_qfrom_make`, `C18_average_rate`.  All rasters below have
  `rows ≠ cols`. -/

section C18
/- With `Metric` open, `Cell` and `sumR` are ambiguous between `Pops.Metric` (index pairs, a recursive
   sum) and `Pops` (host cells, the left fold of `total_suitability_score`); this section uses neither unqualified. -/
open Metric

/-- Suitable cells of the 6 x 3 raster `exInf63` (infected at (3,1) and (4,2)): a proper sublist
    of the grid, in no particular order, that contains the infected cells. -/
def nvSuit63 : List (Int × Int) := [(4, 2), (0, 2), (3, 1), (5, 0), (2, 2)]

theorem nv_C18_bbox :
    (∀ c ∈ nvSuit63, InRange 6 3 c) ∧ infectedCells exInf63 nvSuit63 = [(4, 2), (3, 1)] ∧
    infectionBoundary 6 3 exInf63 nvSuit63 = specBoxOr (infectedCells exInf63 nvSuit63) ∧
    IsBBox (infectedCells exInf63 nvSuit63) (infectionBoundary 6 3 exInf63 nvSuit63) ∧
    infectionBoundary 6 3 exInf63 nvSuit63 = ⟨3, 4, 2, 1⟩ := by
  have hne : infectedCells exInf63 nvSuit63 ≠ [] := by decide +kernel
  refine ⟨?inr, by decide +kernel, (C18_bbox 6 3 exInf63 nvSuit63 ?inr).1,
    ((C18_bbox 6 3 exInf63 nvSuit63 ?inr).2.2.1 hne).1, by decide +kernel⟩
  decide +kernel

/-- The sentinel branch: the same cells, an empty raster. -/
example : infectedCells ⟨6, 3, List.replicate 18 0⟩ nvSuit63 = [] ∧ infectionBoundary 6 3 ⟨6, 3, List.replicate 18 0⟩ nvSuit63 = noBox :=
  have he : infectedCells ⟨6, 3, List.replicate 18 0⟩ nvSuit63 = [] := by decide +kernel
  ⟨he, (C18_bbox 6 3 ⟨6, 3, List.replicate 18 0⟩ nvSuit63 (by decide +kernel)).2.1 he⟩

theorem nv_C18_bbox_raster :
    (∀ c ∈ nvSuit63, InRange 6 3 c) ∧
    (∀ i j, InRange 6 3 (i, j) → exInf63.at i j > 0 → (i, j) ∈ nvSuit63) ∧
    (∃ i j, InRange 6 3 (i, j) ∧ exInf63.at i j > 0) :=
  ⟨by decide +kernel, nvm_cover_of_allCells 6 3 exInf63 nvSuit63 (by decide +kernel), 3, 1, by decide +kernel, by decide +kernel⟩
example := (C18_bbox_raster 6 3 exInf63 nvSuit63 nv_C18_bbox_raster.1 nv_C18_bbox_raster.2.1).2 nv_C18_bbox_raster.2.2

/-- Three measurements on a 2 x 5 raster, resolutions 5/2 (east-west) and 30 (north-south), three
    steps foreseen, two taken. -/
def nvM0 : IRaster := ⟨2, 5, [0,0,0,0,0, 0,1,0,0,0]⟩
def nvM1 : IRaster := ⟨2, 5, [0,0,0,0,0, 0,1,3,0,0]⟩
def nvM2 : IRaster := ⟨2, 5, [0,0,0,2,0, 1,1,3,0,0]⟩

theorem nv_C18_rate_undefined : (30 : Rat) ≠ 0 ∧ (5/2 : Rat) ≠ 0 :=
  ⟨by decide +kernel, by decide +kernel⟩

theorem nv_C18_rate :
    (30 : Rat) ≠ 0 ∧ (5/2 : Rat) ≠ 0 ∧ (∀ c ∈ allCells 2 5, InRange 2 5 c) ∧ [nvM1, nvM2].length ≤ 3 ∧
    ∃ sr, SpreadRate.run (allCells 2 5) (SpreadRate.new nvM0 (allCells 2 5) 2 5 (5/2) 30 3) [nvM1, nvM2] 0 = .ok sr ∧
      sr.rates[1]? = some (specRatesOpt 2 5 30 (5/2) ⟨1, 1, 2, 1⟩ (some ⟨0, 1, 3, 0⟩)) := by
  obtain ⟨h1, h2⟩ := nv_C18_rate_undefined
  have hin : ∀ c ∈ allCells 2 5, InRange 2 5 c := fun _ hc => mem_allCells.mp hc
  refine ⟨h1, h2, hin, by decide, ?_⟩
  obtain ⟨sr, hr, h⟩ := C18_rate 2 5 (5/2) 30 h1 h2 3 (allCells 2 5) hin nvM0 [nvM1, nvM2] (by decide)
  refine ⟨sr, hr, ?_⟩
  have hb1 : specBox (infectedCells nvM1 (allCells 2 5)) = some ⟨1, 1, 2, 1⟩ := by decide +kernel
  have hb2 : specBox (infectedCells nvM2 (allCells 2 5)) = some ⟨0, 1, 3, 0⟩ := by decide +kernel
  rw [h 1 nvM1 nvM2 ⟨1, 1, 2, 1⟩ rfl rfl hb1, hb2]

/-- previous box (1,1,2,1), current box (0,1,3,0) of a 2 x 5 raster: both premises of the
    conclusion (`valid = false`, `valid = true`) are met by `noBox` and by the current box. -/
example :
    measuredRates 2 5 30 (5/2) ⟨1, 1, 2, 1⟩ noBox = nanRates ∧
    ((measuredRates 2 5 30 (5/2) ⟨1, 1, 2, 1⟩ ⟨0, 1, 3, 0⟩).s = none ↔ (1 : Int) = 2 - 1 ∧ (1 : Int) = 1) :=
  ⟨(C18_rate_undefined 2 5 (5/2) 30 nv_C18_rate_undefined.1 nv_C18_rate_undefined.2 ⟨1, 1, 2, 1⟩ noBox).1 rfl,
   ((C18_rate_undefined 2 5 (5/2) 30 nv_C18_rate_undefined.1 nv_C18_rate_undefined.2 ⟨1, 1, 2, 1⟩ ⟨0, 1, 3, 0⟩).2 rfl).2.1⟩

/-! ### quarantine: a 4 x 6 raster with two areas (ids 2 and 5) and cells outside every area;
    directions N, S, E enabled (W disabled); resolutions 10 (ew) and 30 (ns) in `nvQ`, 5/4 and 11/8 in `nvQf` -/

def nvAreas : IRaster := ⟨4, 6, [0,2,2,2,5,5, 0,2,2,2,5,5, 0,2,2,2,5,5, 0,0,0,0,5,5]⟩
/-- infected cells (1,2) in area 2 and (2,4) in area 5 -/
def nvInfIn : IRaster := ⟨4, 6, [0,0,0,0,0,0, 0,0,3,0,0,0, 0,0,0,0,1,0, 0,0,0,0,0,0]⟩
/-- ... and (3,2) outside every area -/
def nvInfOut : IRaster := ⟨4, 6, [0,0,0,0,0,0, 0,0,3,0,0,0, 0,0,0,0,1,0, 0,0,7,0,0,0]⟩
def nvDirs : Dirs := ⟨true, true, true, false⟩
def nvQ : Quarantine := Quarantine.make nvAreas ((10 : Int) : Rat) ((30 : Int) : Rat) 3 nvDirs

theorem nv_C18_area_bbox : (0 : Int) < 5 ∧ findBox (quarantineBoundary nvAreas) 5 = specAreaBox nvAreas 5 ∧
    specAreaBox nvAreas 5 = some ⟨0, 3, 5, 4⟩ :=
  ⟨by decide +kernel, (C18_area_bbox nvAreas 5 (by decide +kernel)).1, by decide +kernel⟩

theorem nv_own_area_box : InRange nvAreas.rows nvAreas.cols (2, 4) ∧ 0 < nvAreas.at (2, 4).1 (2, 4).2 :=
  ⟨by decide +kernel, by decide +kernel⟩
example := own_area_box nvAreas (2, 4) nv_own_area_box.1 nv_own_area_box.2

theorem nv_C18_escape_iff :
    QFrom nvQ nvAreas 3 ∧ (∀ c ∈ allCells 4 6, InRange nvAreas.rows nvAreas.cols c) ∧
    (∀ c ∈ allCells 4 6, 0 ≤ nvAreas.at c.1 c.2) ∧ 1 < 3 :=
  ⟨C18_qfrom_make _ _ _ _ _, fun _ hc => mem_allCells.mp hc, by decide +kernel, by decide +kernel⟩
/-- applied to a contained infection (`nvInfIn`) and to one outside every area (`nvInfOut`) -/
example := C18_escape_iff nvAreas nvInfIn 3 nvQ nv_C18_escape_iff.1 (allCells 4 6) nv_C18_escape_iff.2.1
  nv_C18_escape_iff.2.2.1 1 nv_C18_escape_iff.2.2.2
example := C18_escape_iff nvAreas nvInfOut 3 nvQ nv_C18_escape_iff.1 (allCells 4 6) nv_C18_escape_iff.2.1
  nv_C18_escape_iff.2.2.1 1 nv_C18_escape_iff.2.2.2
example : specEscaped nvInfIn nvAreas (allCells 4 6) = false ∧ specEscaped nvInfOut nvAreas (allCells 4 6) = true := by
  decide +kernel

/-- NON-integer resolutions 5/4 (ew) and 11/8 (ns): cell (1,2) is 11/8 from the north and south
    sides of area 2 and 5/4 from its east side; cell (2,4) is 22/8, 11/8 and 5/4 from the sides of
    area 5. The nearest pair is ((1,2), E) at 5/4 (first of two at that distance); the report is
    (1, E). A rounded running minimum would have kept N (11/8 stored as 1, 5/4 not below 1). -/
def nvQf : Quarantine := Quarantine.make nvAreas (5/4) (11/8) 3 nvDirs

theorem nv_C18_nearest :
    QFrom nvQf nvAreas 3 ∧ 0 ≤ nvQf.ns ∧ 0 ≤ nvQf.ew ∧
    (nvAreas.rows : Rat) * nvQf.ns < (dblMax : Rat) ∧ (nvAreas.cols : Rat) * nvQf.ew < (dblMax : Rat) ∧
    (∃ d, nvQf.dirs.enabled d = true) ∧
    (∀ c ∈ allCells 4 6, InRange nvAreas.rows nvAreas.cols c) ∧ (∀ c ∈ allCells 4 6, 0 ≤ nvAreas.at c.1 c.2) ∧
    1 < 3 ∧ (¬ ∃ c ∈ allCells 4 6, nvInfIn.at c.1 c.2 ≠ 0 ∧ nvAreas.at c.1 c.2 = 0) ∧
    (∃ c ∈ allCells 4 6, nvInfIn.at c.1 c.2 ≠ 0) :=
  ⟨C18_qfrom_make _ _ _ _ _, by decide +kernel, by decide +kernel, by decide +kernel, by decide +kernel, ⟨.E, rfl⟩,
   fun _ hc => mem_allCells.mp hc, nv_C18_escape_iff.2.2.1, by decide, by decide +kernel, by decide +kernel⟩
example :=
  have h := nv_C18_nearest
  C18_nearest nvAreas nvInfIn 3 nvQf h.1 h.2.1 h.2.2.1 h.2.2.2.1 h.2.2.2.2.1 h.2.2.2.2.2.1
    (allCells 4 6) h.2.2.2.2.2.2.1 h.2.2.2.2.2.2.2.1 1 h.2.2.2.2.2.2.2.2.1
    h.2.2.2.2.2.2.2.2.2.1 h.2.2.2.2.2.2.2.2.2.2
/-- the candidates in scan order, and the report (1, E) -/
example : nearestCandidates nvInfIn nvAreas (allCells 4 6) nvDirs (11/8) (5/4) =
    [(11/8, .N), (11/8, .S), (5/4, .E), (22/8, .N), (11/8, .S), (5/4, .E)] := by decide +kernel
example : ((nvQf.action (allCells 4 6) nvInfIn nvAreas 1).toOption.map (·.infos)) =
    some [EscapeInfo.init, ⟨false, .val 1, .E⟩, EscapeInfo.init] := by decide +kernel
example : nearestOK nvInfIn nvAreas (allCells 4 6) nvDirs (11/8) (5/4) 1 .E = true ∧
    nearestOK nvInfIn nvAreas (allCells 4 6) nvDirs (11/8) (5/4) 1 .N = false := by decide +kernel

/-! ### quarantine with NEGATIVE area ids at cells without infection (finding F30): the layout of
    `nvAreas` with the nodata value -9999 in column 0. `hnn` of `C18_escape_iff` / `C18_nearest`
    fails there; the hypotheses of the `_infected_nonneg` theorems hold. -/

def nvAreasNeg : IRaster := ⟨4, 6, [-9999,2,2,2,5,5, -9999,2,2,2,5,5, -9999,2,2,2,5,5, -9999,0,0,0,5,5]⟩
def nvQn : Quarantine := Quarantine.make nvAreasNeg (5/4) (11/8) 3 nvDirs

theorem nv_C18_escape_iff_infected_nonneg :
    QFrom nvQn nvAreasNeg 3 ∧ (∀ c ∈ allCells 4 6, InRange nvAreasNeg.rows nvAreasNeg.cols c) ∧
    (∀ c ∈ allCells 4 6, nvInfIn.at c.1 c.2 ≠ 0 → 0 ≤ nvAreasNeg.at c.1 c.2) ∧
    (∀ c ∈ allCells 4 6, nvInfOut.at c.1 c.2 ≠ 0 → 0 ≤ nvAreasNeg.at c.1 c.2) ∧
    ¬ (∀ c ∈ allCells 4 6, 0 ≤ nvAreasNeg.at c.1 c.2) ∧ 1 < 3 :=
  ⟨C18_qfrom_make _ _ _ _ _, fun _ hc => mem_allCells.mp hc, by decide +kernel, by decide +kernel, by decide +kernel, by decide +kernel⟩
/-- applied to a contained infection (`nvInfIn`) and to one outside every area (`nvInfOut`) -/
example := C18_escape_iff_infected_nonneg nvAreasNeg nvInfIn 3 nvQn nv_C18_escape_iff_infected_nonneg.1 (allCells 4 6)
  nv_C18_escape_iff_infected_nonneg.2.1 nv_C18_escape_iff_infected_nonneg.2.2.1 1 nv_C18_escape_iff_infected_nonneg.2.2.2.2.2
example := C18_escape_iff_infected_nonneg nvAreasNeg nvInfOut 3 nvQn nv_C18_escape_iff_infected_nonneg.1 (allCells 4 6)
  nv_C18_escape_iff_infected_nonneg.2.1 nv_C18_escape_iff_infected_nonneg.2.2.2.1 1 nv_C18_escape_iff_infected_nonneg.2.2.2.2.2
example : specEscapedFull nvInfIn nvAreasNeg (allCells 4 6) = false ∧ specEscapedFull nvInfOut nvAreasNeg (allCells 4 6) = true ∧
    negativeIdAtInfected nvInfIn nvAreasNeg (allCells 4 6) = false ∧ negativeIdAtInfected nvInfOut nvAreasNeg (allCells 4 6) = false := by
  decide +kernel

theorem nv_C18_nearest_infected_nonneg :
    QFrom nvQn nvAreasNeg 3 ∧ 0 ≤ nvQn.ns ∧ 0 ≤ nvQn.ew ∧
    (nvAreasNeg.rows : Rat) * nvQn.ns < (dblMax : Rat) ∧ (nvAreasNeg.cols : Rat) * nvQn.ew < (dblMax : Rat) ∧
    (∃ d, nvQn.dirs.enabled d = true) ∧
    (∀ c ∈ allCells 4 6, InRange nvAreasNeg.rows nvAreasNeg.cols c) ∧
    (∀ c ∈ allCells 4 6, nvInfIn.at c.1 c.2 ≠ 0 → 0 ≤ nvAreasNeg.at c.1 c.2) ∧
    1 < 3 ∧ (¬ ∃ c ∈ allCells 4 6, nvInfIn.at c.1 c.2 ≠ 0 ∧ nvAreasNeg.at c.1 c.2 = 0) ∧
    (∃ c ∈ allCells 4 6, nvInfIn.at c.1 c.2 ≠ 0) :=
  ⟨C18_qfrom_make _ _ _ _ _, by decide +kernel, by decide +kernel, by decide +kernel, by decide +kernel, ⟨.E, rfl⟩,
   fun _ hc => mem_allCells.mp hc, nv_C18_escape_iff_infected_nonneg.2.2.1, by decide, by decide +kernel,
   nv_C18_nearest.2.2.2.2.2.2.2.2.2.2⟩
example :=
  have h := nv_C18_nearest_infected_nonneg
  C18_nearest_infected_nonneg nvAreasNeg nvInfIn 3 nvQn h.1 h.2.1 h.2.2.1 h.2.2.2.1 h.2.2.2.2.1 h.2.2.2.2.2.1
    (allCells 4 6) h.2.2.2.2.2.2.1 h.2.2.2.2.2.2.2.1 1 h.2.2.2.2.2.2.2.2.1
    h.2.2.2.2.2.2.2.2.2.1 h.2.2.2.2.2.2.2.2.2.2
/-- the report is the one of the raster without the nodata column: (1, E) -/
example : ((nvQn.action (allCells 4 6) nvInfIn nvAreasNeg 1).toOption.map (·.infos)) =
    some [EscapeInfo.init, ⟨false, .val 1, .E⟩, EscapeInfo.init] := by decide +kernel

/-- `C18_escape_full` is a `def ... : Prop` that is refuted (`C18_escape_full_fails`): its
    quantifier domain is inhabited by the refuting instance itself, witness (a) of finding F30. -/
example : QFrom f30Q f30Areas 1 ∧ (∀ c ∈ allCells 1 5, InRange f30Areas.rows f30Areas.cols c) ∧ 0 < 1 :=
  ⟨C18_qfrom_make _ _ _ _ _, fun _ hc => mem_allCells.mp hc, by decide +kernel⟩

theorem nv_C18_sum_area :
    (∀ c ∈ allCells 6 3, decide (c ∈ nvSuit63) = false → exInf63.at c.1 c.2 = 0) ∧
    0 ≤ rasterSum exInf63 6 3 ∧ rasterSum exInf63 6 3 < 4294967296 ∧
    sumOfInfected exInf63 ((allCells 6 3).filter fun c => decide (c ∈ nvSuit63)) = rasterSum exInf63 6 3 ∧
    areaOfInfected exInf63 (5/2) 30 ((allCells 6 3).filter fun c => decide (c ∈ nvSuit63)) =
      (rasterCount exInf63 6 3 : Rat) * (5/2) * 30 := by
  have t := C18_sum_area exInf63 6 3 (5/2) 30 (fun c => decide (c ∈ nvSuit63))
  refine ⟨?out, ?nn, ?lt, (t ?out).2.2.1 ?nn ?lt, (t ?out).2.2.2⟩
  case out => decide +kernel
  case nn => decide +kernel
  case lt => decide +kernel

theorem nv_C18_raster_totals :
    0 ≤ exInf63.cols ∧ exInf63.data.length = exInf63.rows.toNat * exInf63.cols.toNat ∧
    rasterSum exInf63 exInf63.rows exInf63.cols = sumL exInf63.data ∧
    rasterCount exInf63 exInf63.rows exInf63.cols = exInf63.data.countP (· > 0) :=
  ⟨by decide +kernel, by decide +kernel, C18_raster_totals exInf63 (by decide +kernel) (by decide +kernel)⟩

/-- Three runs of the quarantine action at step 1: contained, escaped, contained. -/
def nvRuns : List Quarantine :=
  [{ nvQ with infos := [EscapeInfo.init, ⟨false, .val 10, .E⟩, EscapeInfo.init] },
   { nvQ with infos := [EscapeInfo.init, ⟨true, .nan, .none⟩, EscapeInfo.init] },
   { nvQ with infos := [EscapeInfo.init, ⟨false, .val 30, .S⟩, EscapeInfo.init] }]

theorem nv_C18_escape_probability :
    nvRuns ≠ [] ∧ (∀ q ∈ nvRuns, 1 < q.infos.length) ∧
    escapeProbability nvRuns 1 =
      .ok (some (((nvRuns.countP fun q => (q.infos.getD 1 default).escaped : Nat) : Rat) / (nvRuns.length : Rat))) := by
  refine ⟨?ne, ?len, (C18_escape_probability nvRuns 1 ?ne ?len).2⟩
  case ne => simp [nvRuns]
  case len => decide +kernel
example : nvRuns.countP (fun q => (q.infos.getD 1 default).escaped) = 1 ∧ nvRuns.length = 3 := by decide +kernel

end C18

/-! # C18List

  Without hypotheses: `sumL_filter_map`. -/

theorem nv_sumL_perm : ([1, 2, 3, 2] : List Int).Perm [2, 3, 2, 1] ∧ sumL [1, 2, 3, 2] = sumL [2, 3, 2, 1] := by
  refine ⟨?perm, sumL_perm ?perm⟩
  decide +kernel

/-- A 2 x 3 raster flattened, infected cells 1, 3, 5; the list names them and two uninfected cells,
    in the order a run leaves them (cell 0 appended by a host move). -/
theorem nv_C18_sum_over_suitable_list :
    suitableListOK (fun k => [0, 2, 0, 5, 0, 1][k]!) 6 [1, 3, 4, 5, 0] = true ∧
    infectedOverList (fun k => [0, 2, 0, 5, 0, 1][k]!) [1, 3, 4, 5, 0] =
      infectedOverRaster (fun k => [0, 2, 0, 5, 0, 1][k]!) 6 := by
  refine ⟨?ok, C18_sum_over_suitable_list _ 6 _ ?ok⟩
  decide +kernel

/-! # C19  raster arithmetic and raster storage

  Without hypotheses: `C19_int_stays_int`, `C19_heap_safe` (its run over the operation list below is
  shown to take the `ok` branch).

  ## Part A (values): a 2 x 3 and a 3 x 1 raster of each cell type -/

def nvRI : Raster Int := ⟨2, 3, [7, -7, 9, 1, 0, 5]⟩
def nvRI' : Raster Int := ⟨2, 3, [2, 2, -3, 1, 4, 5]⟩
def nvRI31 : Raster Int := ⟨3, 1, [5, -5, 4]⟩
def nvRD : Raster Rat := ⟨2, 3, [1/2, -3/4, 2, 1, 5/2, -1]⟩
def nvRD' : Raster Rat := ⟨2, 3, [1/4, 3, -2, 1/2, 5, 8]⟩
def nvRD31 : Raster Rat := ⟨3, 1, [1/2, -3/4, 2]⟩

theorem nvRI_wf : nvRI.WF := by decide
theorem nvRI'_wf : nvRI'.WF := by decide
theorem nvRI31_wf : nvRI31.WF := by decide
theorem nvRD_wf : nvRD.WF := by decide
theorem nvRD'_wf : nvRD'.WF := by decide
theorem nvRD31_wf : nvRD31.WF := by decide

theorem nv_C19_elementwise_raster_scalar :
    nvRI.WF ∧ nvRD31.WF ∧
    ElemMapOK (fun x => BinOp.div.int x 2) nvRI (nvRI.rsII .div 2) = true ∧
    ElemMapOK (fun x => d2i (BinOp.div.dbl (i2d x) (3/2))) nvRI (nvRI.rsID .div (3/2)) = true ∧
    ElemMapOK (fun x => BinOp.div.dbl x (i2d 2)) nvRD31 (nvRD31.rsDI .div 2) = true ∧
    ElemMapOK (fun x => BinOp.div.dbl x (3/2)) nvRD31 (nvRD31.rsDD .div (3/2)) = true :=
  have t := C19_elementwise_raster_scalar .div
  ⟨nvRI_wf, nvRD31_wf, t.1 nvRI 2 nvRI_wf, t.2.1 nvRI (3/2) nvRI_wf, t.2.2.1 nvRD31 2 nvRD31_wf,
   t.2.2.2 nvRD31 (3/2) nvRD31_wf⟩

example : nvRI.rsID .div (3/2) = ⟨2, 3, [4, -4, 6, 0, 0, 3]⟩ := by decide +kernel

theorem nv_C19_elementwise_scalar_raster : nvRI31.WF ∧ nvRD.WF := ⟨nvRI31_wf, nvRD_wf⟩
example := C19_elementwise_scalar_raster nvRI31 nvRD 7 (3/2) nv_C19_elementwise_scalar_raster.1
  nv_C19_elementwise_scalar_raster.2

theorem nv_C19_elementwise_scalar_raster_spec :
    nvRI31.WF ∧ nvRD.WF ∧
    ElemMapOK (specSR_II .sub 7) nvRI31 (Raster.srII .sub 7 nvRI31) = true ∧
    ElemMapOK (specSR_ID .sub (3/2)) nvRI31 (Raster.srID .sub (3/2) nvRI31) = true ∧
    ElemMapOK (specSR_DI .sub 7) nvRD (Raster.srDI .sub 7 nvRD) = true ∧
    ElemMapOK (specSR_DD .sub (3/2)) nvRD (Raster.srDD .sub (3/2) nvRD) = true :=
  have t := C19_elementwise_scalar_raster_spec .sub
  ⟨nvRI31_wf, nvRD_wf, t.1 _ 7 nvRI31_wf, t.2.1 _ (3/2) nvRI31_wf, t.2.2.1 _ 7 nvRD_wf,
   t.2.2.2 _ (3/2) nvRD_wf⟩

/-- The four results of `raster / raster` on equal shapes (no zero divisor). -/
theorem nv_rr :
    nvRI.rrII .div nvRI' = .ok ⟨2, 3, [3, -3, -3, 1, 0, 1]⟩ ∧
    nvRI.rrID .div nvRD' = .ok ⟨2, 3, [28, -7/3, -9/2, 2, 0, 5/8]⟩ ∧
    nvRD.rrDI .div nvRI' = .ok ⟨2, 3, [1/4, -3/8, -2/3, 1, 5/8, -1/5]⟩ ∧
    nvRD.rrDD .div nvRD' = .ok ⟨2, 3, [2, -1/4, -1, 2, 1/2, -1/8]⟩ := by decide +kernel

theorem nv_C19_elementwise_raster_raster :
    ElemZipOK BinOp.div.int nvRI nvRI' ⟨2, 3, [3, -3, -3, 1, 0, 1]⟩ = true ∧
    ElemZipOK (fun x y => BinOp.div.dbl (i2d x) y) nvRI nvRD' ⟨2, 3, [28, -7/3, -9/2, 2, 0, 5/8]⟩ = true ∧
    ElemZipOK (fun x y => BinOp.div.dbl x (i2d y)) nvRD nvRI' ⟨2, 3, [1/4, -3/8, -2/3, 1, 5/8, -1/5]⟩ = true ∧
    ElemZipOK BinOp.div.dbl nvRD nvRD' ⟨2, 3, [2, -1/4, -1, 2, 1/2, -1/8]⟩ = true :=
  have t := C19_elementwise_raster_raster .div
  ⟨t.1 _ _ _ nvRI_wf nvRI'_wf nv_rr.1, t.2.1 _ _ _ nvRI_wf nvRD'_wf nv_rr.2.1,
   t.2.2.1 _ _ _ nvRD_wf nvRI'_wf nv_rr.2.2.1, t.2.2.2 _ _ _ nvRD_wf nvRD'_wf nv_rr.2.2.2⟩

theorem nv_C19_elementwise_compound_scalar :
    nvRI31.WF ∧ nvRD.WF ∧
    ElemMapOK (fun x => BinOp.mul.int x 3) nvRI31 (nvRI31.asII .mul 3) = true ∧
    ElemMapOK (fun x => d2i (BinOp.mul.dbl (i2d x) (1/2))) nvRI31 (nvRI31.asID .mul (1/2)) = true ∧
    ElemMapOK (fun x => BinOp.mul.dbl x (i2d 3)) nvRD (nvRD.asDI .mul 3) = true ∧
    ElemMapOK (fun x => BinOp.mul.dbl x (1/2)) nvRD (nvRD.asDD .mul (1/2)) = true :=
  have t := C19_elementwise_compound_scalar .mul
  ⟨nvRI31_wf, nvRD_wf, t.1 _ 3 nvRI31_wf, t.2.1 _ (1/2) nvRI31_wf, t.2.2.1 _ 3 nvRD_wf,
   t.2.2.2 _ (1/2) nvRD_wf⟩

example : nvRI31.asID .mul (1/2) = ⟨3, 1, [2, -2, 2]⟩ := by decide +kernel

theorem nv_ar :
    nvRI.arII .sub nvRI' = .ok ⟨2, 3, [5, -9, 12, 0, -4, 0]⟩ ∧
    nvRD.arDI .sub nvRI' = .ok ⟨2, 3, [-3/2, -11/4, 5, 0, -3/2, -6]⟩ ∧
    nvRD.arDD .sub nvRD' = .ok ⟨2, 3, [1/4, -15/4, 4, 1/2, -5/2, -9]⟩ := by decide +kernel

theorem nv_C19_elementwise_compound_raster :
    ElemZipOK BinOp.sub.int nvRI nvRI' ⟨2, 3, [5, -9, 12, 0, -4, 0]⟩ = true ∧
    ElemZipOK (fun x y => BinOp.sub.dbl x (i2d y)) nvRD nvRI' ⟨2, 3, [-3/2, -11/4, 5, 0, -3/2, -6]⟩ = true ∧
    ElemZipOK BinOp.sub.dbl nvRD nvRD' ⟨2, 3, [1/4, -15/4, 4, 1/2, -5/2, -9]⟩ = true :=
  have t := C19_elementwise_compound_raster .sub
  ⟨t.1 _ _ _ nvRI_wf nvRI'_wf nv_ar.1, t.2.1 _ _ _ nvRD_wf nvRI'_wf nv_ar.2.1,
   t.2.2 _ _ _ nvRD_wf nvRD'_wf nv_ar.2.2⟩

/-- `C19_elementwise` is the conjunction of the five theorems above; one component of each. -/
theorem nv_C19_elementwise :
    ElemMapOK (fun x => BinOp.div.int x 2) nvRI (nvRI.rsII .div 2) = true ∧
    ElemMapOK (specSR_DD .div (3/2)) nvRD (Raster.srDD .div (3/2) nvRD) = true ∧
    ElemZipOK (fun x y => BinOp.div.dbl (i2d x) y) nvRI nvRD' ⟨2, 3, [28, -7/3, -9/2, 2, 0, 5/8]⟩ = true ∧
    ElemMapOK (fun x => d2i (BinOp.div.dbl (i2d x) (3/2))) nvRI (nvRI.asID .div (3/2)) = true :=
  have t := C19_elementwise .div
  ⟨t.1.1 _ 2 nvRI_wf, t.2.1.2.2.2 _ (3/2) nvRD_wf, t.2.2.1.2.1 _ _ _ nvRI_wf nvRD'_wf nv_rr.2.1,
   t.2.2.2.1.2.1 _ (3/2) nvRI_wf⟩

theorem nv_C19_elementwise_meaning :
    ElemMapOK (fun x => d2i (BinOp.div.dbl (i2d x) (3/2))) nvRI ⟨2, 3, [4, -4, 6, 0, 0, 3]⟩ = true ∧
    (⟨2, 3, [4, -4, 6, 0, 0, 3]⟩ : Raster Int).rows = nvRI.rows ∧ (⟨2, 3, [4, -4, 6, 0, 0, 3]⟩ : Raster Int).cols = nvRI.cols ∧
    (⟨2, 3, [4, -4, 6, 0, 0, 3]⟩ : Raster Int).WF ∧
    ∀ i j, i < nvRI.rows → j < nvRI.cols →
      (⟨2, 3, [4, -4, 6, 0, 0, 3]⟩ : Raster Int).at? i j = (nvRI.at? i j).map fun x => d2i (BinOp.div.dbl (i2d x) (3/2)) := by
  refine ⟨?ok, C19_elementwise_meaning _ _ _ ?ok⟩
  decide +kernel

/-- Both premises of `C19_shape_mismatch_rejected`: 2 x 3 against 3 x 1, and 2 x 3 against 2 x 3. -/
theorem nv_C19_shape_mismatch_rejected :
    (nvRI.rows ≠ nvRD31.rows ∨ nvRI.cols ≠ nvRD31.cols) ∧
    (Raster.zip (cRR_ID .add) nvRI nvRD31 = .error .invalid_argument ∧
      Raster.zipAssign (fun x _ => x) nvRI nvRD31 = .error .invalid_argument) ∧
    (nvRI.rows = nvRD.rows ∧ nvRI.cols = nvRD.cols) ∧
    (∃ r, Raster.zip (cRR_ID .add) nvRI nvRD = .ok r ∧ r.rows = nvRI.rows ∧ r.cols = nvRI.cols) := by
  refine ⟨?ne, (C19_shape_mismatch_rejected (cRR_ID .add) (fun x _ => x) nvRI nvRD31).1 ?ne, ?eq,
    ((C19_shape_mismatch_rejected (cRR_ID .add) (fun x _ => x) nvRI nvRD).2 ?eq).1⟩
  case ne => decide
  case eq => decide

/-- Transposed shapes with the same number of cells (2 x 3 against 3 x 2), and 2 x 3 against 3 x 1. -/
def nvRI32 : Raster Int := ⟨3, 2, [1, 2, 3, 4, 5, 6]⟩
def nvRD32 : Raster Rat := ⟨3, 2, [1, 2, 3, 4, 5, 6]⟩

theorem nv_C19_shape_mismatch_rejected_ops :
    (nvRI.rows ≠ nvRI32.rows ∨ nvRI.cols ≠ nvRI32.cols) ∧ (nvRI.rows ≠ nvRD31.rows ∨ nvRI.cols ≠ nvRD31.cols) ∧
    (nvRD31.rows ≠ nvRI.rows ∨ nvRD31.cols ≠ nvRI.cols) ∧ (nvRD31.rows ≠ nvRD32.rows ∨ nvRD31.cols ≠ nvRD32.cols) ∧
    nvRI.rrII .mul nvRI32 = .error .invalid_argument ∧ nvRI.rrID .mul nvRD31 = .error .invalid_argument ∧
    nvRD31.rrDI .mul nvRI = .error .invalid_argument ∧ nvRD31.rrDD .mul nvRD32 = .error .invalid_argument ∧
    nvRI.arII .mul nvRI32 = .error .invalid_argument ∧ nvRD31.arDI .mul nvRI = .error .invalid_argument ∧
    nvRD31.arDD .mul nvRD32 = .error .invalid_argument := by
  refine ⟨?a, ?b, ?c, ?d, C19_shape_mismatch_rejected_ops .mul nvRI nvRI32 nvRD31 nvRD32 ?a ?b ?c ?d⟩
  case a => decide
  case b => decide
  case c => decide
  case d => decide

theorem nv_C19_eq_iff :
    nvRD.WF ∧ nvRD'.WF ∧
    (nvRD.eqOp nvRD' = true ↔ (nvRD.rows = nvRD'.rows ∧ nvRD.cols = nvRD'.cols ∧ nvRD.cells = nvRD'.cells)) ∧
    nvRD.neOp nvRD' = !nvRD.eqOp nvRD' :=
  ⟨nvRD_wf, nvRD'_wf, C19_eq_iff nvRD nvRD' nvRD_wf nvRD'_wf⟩
/-- `C19_eq_equivalence` on three well-formed rasters with both premises of transitivity true. -/
theorem nv_C19_eq_equivalence :
    nvRI32.eqOp ⟨3, 2, [1, 2, 3, 4, 5, 6]⟩ = true ∧ (⟨3, 2, [1, 2, 3, 4, 5, 6]⟩ : Raster Int).eqOp nvRI32 = true ∧
    nvRI32.eqOp nvRI32 = true := by
  have h := C19_eq_equivalence nvRI32 ⟨3, 2, [1, 2, 3, 4, 5, 6]⟩ nvRI32 (by decide +kernel) (by decide +kernel) (by decide +kernel)
  have e : nvRI32.eqOp ⟨3, 2, [1, 2, 3, 4, 5, 6]⟩ = true := by decide +kernel
  exact ⟨e, h.2.1 e, h.2.2 e (h.2.1 e)⟩
/-- ... and the `true` side: a raster and an equal copy. -/
example : nvRI32.eqOp ⟨3, 2, [1, 2, 3, 4, 5, 6]⟩ = true :=
  (C19_eq_iff nvRI32 ⟨3, 2, [1, 2, 3, 4, 5, 6]⟩ (by decide +kernel) (by decide +kernel)).1.mpr ⟨rfl, rfl, rfl⟩

/-! ## Part B (storage)

  Two caller arrays; one well-scoped operation list with a wrapper over caller memory (variable 0),
  a constructed owner (1), a copy of the wrapper (2), a move construction (3 from 1), a copy
  assignment into the moved-from variable, a write through the wrapper, a write by the caller, a
  fresh-result operator (4), an in-place operator, a second wrapper of another shape (5), the two
  throwing raster-raster operators, a move assignment and the destruction of everything.
  `nvAt k` is the state after the first `k` operations. -/

section C19B
open Heap

def nvExts : List (List Int) := [[1, 2, 3, 4, 5, 6], [10, 20]]

def nvOps : List (HOp Int) :=
  [.wrap 0 0 2 3, .construct 1 2 3 7, .copyCtor 2 0, .moveCtor 3 1, .copyAssign 1 2, .write 0 1 2 99,
   .extWrite 0 0 50, .zipNew 4 2 3 (· + ·), .mapInPlace 2 (· * 2), .wrap 5 1 1 2, .zipInPlace 2 5 (· + ·),
   .zipNew 6 2 5 (· + ·), .moveAssign 3 4, .destroy 0, .destroy 1, .destroy 2, .destroy 3, .destroy 4, .destroy 5]

def nvAt (k : Nat) : Heap Int := Heap.okOr ((Heap.init nvExts).run (nvOps.take k))

/-- The whole list is inside the caller's contract and completes. This is the one evaluation of
    the run; what the statements below say about the states on the way follows from it. -/
theorem nv_run_all : (Heap.init nvExts).run nvOps = .ok (nvAt 19) := rfl

theorem nv_inv_at (k : Nat) : Inv (nvAt k) :=
  inv_of_run (inv_init nvExts) (Heap.run_take nv_run_all k)

theorem nv_seg (k m : Nat) : (nvAt k).run ((nvOps.drop k).take m) = .ok (nvAt (k + m)) :=
  Heap.run_segment nv_run_all k m

theorem nv_from (k : Nat) : (nvAt k).run (nvOps.drop k) = .ok (nvAt 19) :=
  Heap.run_drop nv_run_all k

theorem nv_step (k : Nat) (op : HOp Int) (hop : (nvOps.drop k).take 1 = [op]) :
    (nvAt k).inScope op = true ∧ (nvAt k).step op = .ok (nvAt (k + 1)) := by
  have h := nv_seg k 1
  rw [hop] at h
  obtain ⟨hs, h1, e1, r1⟩ := run_cons h
  have : h1 = nvAt (k + 1) := by simpa [Heap.run] using r1
  exact ⟨hs, this ▸ e1⟩

theorem nv_step7 : (nvAt 7).inScope (.zipNew 4 2 3 (· + ·)) = true ∧ (nvAt 7).step (.zipNew 4 2 3 (· + ·)) = .ok (nvAt 8) :=
  nv_step 7 _ rfl
theorem nv_step8 : (nvAt 8).inScope (.mapInPlace 2 (· * 2)) = true ∧ (nvAt 8).step (.mapInPlace 2 (· * 2)) = .ok (nvAt 9) :=
  nv_step 8 _ rfl
theorem nv_step10 :
    (nvAt 10).inScope (.zipInPlace 2 5 (· + ·)) = true ∧ (nvAt 10).step (.zipInPlace 2 5 (· + ·)) = .ok (nvAt 11) :=
  nv_step 10 _ rfl
theorem nv_step11 : (nvAt 11).inScope (.zipNew 6 2 5 (· + ·)) = true ∧ (nvAt 11).step (.zipNew 6 2 5 (· + ·)) = .ok (nvAt 12) :=
  nv_step 11 _ rfl

theorem nv_C19_heap_safe : ∃ h', (Heap.init nvExts).run nvOps = .ok h' ∧ Inv h' := by
  rcases C19_heap_safe nvExts nvOps with h | h
  · exact h
  · rw [nv_run_all] at h; cases h

/-- From the state after the move construction, the rest of the list. -/
theorem nv_C19_heap_safe_from :
    Inv (nvAt 4) ∧ (nvAt 4).run (nvOps.drop 4) = .ok (nvAt 19) ∧
    ((∃ h', (nvAt 4).run (nvOps.drop 4) = .ok h' ∧ Inv h') ∨ (nvAt 4).run (nvOps.drop 4) = .error .illScoped) :=
  ⟨nv_inv_at 4, nv_from 4, C19_heap_safe_from (nvAt 4) (nv_inv_at 4) (nvOps.drop 4)⟩

theorem nv_C19_no_double_free : Inv (nvAt 4) ∧ (nvAt 4).run (nvOps.drop 4) ≠ .error .doubleFree :=
  ⟨nv_inv_at 4, C19_no_double_free (nvAt 4) (nv_inv_at 4) (nvOps.drop 4)⟩

theorem nv_C19_no_use_after_free : Inv (nvAt 4) ∧ (nvAt 4).run ((nvOps.drop 4).take 9) = .ok (nvAt 13) :=
  ⟨nv_inv_at 4, nv_seg 4 9⟩
example := C19_no_use_after_free (nvAt 4) nv_C19_no_use_after_free.1 ((nvOps.drop 4).take 9)
/-- the inner statement at the moved-to variable 3 of the end state -/
example : ∃ cells, (nvAt 13).bufs 5 = .live cells ∧ 2 * 3 ≤ cells.length :=
  (C19_no_use_after_free (nvAt 4) nv_C19_no_use_after_free.1 ((nvOps.drop 4).take 9)).2.2.2.2 _
    nv_C19_no_use_after_free.2 3 ⟨2, 3, some 5, true⟩ 5 rfl rfl

theorem nv_C19_no_external_free :
    Inv (nvAt 4) ∧ (nvAt 4).run (nvOps.drop 4) = .ok (nvAt 19) ∧
    (nvAt 19).nExt = (nvAt 4).nExt ∧ ∀ e, e < (nvAt 4).nExt → ∃ cells, (nvAt 19).ext e = some cells :=
  ⟨nv_inv_at 4, nv_from 4, (C19_no_external_free (nvAt 4) (nv_inv_at 4) (nvOps.drop 4)).2 _ (nv_from 4)⟩

/-- After six operations variable 3 owns buffer 2 (moved from variable 1) and variable 1 owns its
    own new buffer 4. -/
theorem nv_C19_owners_disjoint :
    Inv (Heap.init nvExts) ∧ (Heap.init nvExts).run (nvOps.take 6) = .ok (nvAt 6) ∧
    (nvAt 6).slots 3 = some ⟨2, 3, some 2, true⟩ ∧ (1 : Nat) ≠ 3 ∧ (nvAt 6).slots 1 = some ⟨2, 3, some 4, true⟩ ∧
    ((⟨2, 3, some 4, true⟩ : RObj).data ≠ some 2 ∧ (nvAt 6).nExt ≤ 2) :=
  ⟨inv_init nvExts, Heap.run_take nv_run_all 6, rfl, by decide +kernel, rfl,
   C19_owners_disjoint (Heap.init nvExts) (inv_init nvExts) (nvOps.take 6) (nvAt 6) (Heap.run_take nv_run_all 6) 3 1
     ⟨2, 3, some 2, true⟩ ⟨2, 3, some 4, true⟩ 2 rfl rfl rfl (by decide +kernel) rfl⟩

/-- `Raster v2(v0)`: the copy of the wrapper. Afterwards the wrapper is written through, the caller
    writes its array, other variables are moved and assigned: variable 2 still shows the old
    contents; then `v2 *= 2` is invisible elsewhere. -/
theorem nv_C19_copy_independent :
    Inv (nvAt 2) ∧ ((HOp.copyCtor 2 0 : HOp Int) = .copyCtor 2 0 ∨ ((HOp.copyCtor 2 0 : HOp Int) = .copyAssign 2 0 ∧ 2 ≠ 0)) ∧
    (nvAt 2).inScope (.copyCtor 2 0) = true ∧ (nvAt 2).step (.copyCtor 2 0) = .ok (nvAt 3) ∧
    (∀ op' ∈ (nvOps.drop 3).take 5, op'.reseats 2 = false ∧ op'.writesVia 2 = false) ∧
    (nvAt 3).run ((nvOps.drop 3).take 5) = .ok (nvAt 8) ∧
    (HOp.mapInPlace 2 (· * 2) : HOp Int).writesVia 2 = true ∧ (nvAt 8).inScope (.mapInPlace 2 (· * 2)) = true ∧
    (nvAt 8).step (.mapInPlace 2 (· * 2)) = .ok (nvAt 9) ∧
    -- conclusions
    (nvAt 8).view 2 = (nvAt 2).view 0 ∧ (nvAt 8).view 0 ≠ (nvAt 2).view 0 ∧
    (∀ u, u ≠ 2 → (nvAt 9).view u = (nvAt 8).view u) ∧ (∀ e, e < (nvAt 8).nExt → (nvAt 9).ext e = (nvAt 8).ext e) :=
  have hn : ∀ op' ∈ (nvOps.drop 3).take 5, op'.reseats 2 = false ∧ op'.writesVia 2 = false := by decide +kernel
  have s2 := nv_step 2 (.copyCtor 2 0) rfl
  have s8 := nv_step8
  have t := C19_copy_independent (nvAt 2) (nvAt 3) (nv_inv_at 2) 2 0 (.copyCtor 2 0) (.inl rfl) s2.1 s2.2
  have t5 := t.2.2.2.2 ((nvOps.drop 3).take 5) (nvAt 8) (.mapInPlace 2 (· * 2)) (nvAt 9) (fun o ho => (hn o ho).1)
    (nv_seg 3 5) rfl s8.1 s8.2
  ⟨nv_inv_at 2, .inl rfl, s2.1, s2.2, hn, nv_seg 3 5, rfl, s8.1, s8.2, t.2.2.2.1 _ _ hn (nv_seg 3 5), by decide +kernel,
   t5.1, t5.2⟩

/-- `v1 = v2` (copy assignment into the moved-from variable 1, `1 ≠ 2`). -/
theorem nv_C19_copy_independent_assign :
    Inv (nvAt 4) ∧ ((HOp.copyAssign 1 2 : HOp Int) = .copyCtor 1 2 ∨ ((HOp.copyAssign 1 2 : HOp Int) = .copyAssign 1 2 ∧ 1 ≠ 2)) ∧
    (nvAt 4).inScope (.copyAssign 1 2) = true ∧ (nvAt 4).step (.copyAssign 1 2) = .ok (nvAt 5) ∧
    (nvAt 5).view 1 = (nvAt 4).view 2 :=
  have s := nv_step 4 (.copyAssign 1 2) rfl
  ⟨nv_inv_at 4, .inr ⟨rfl, by decide +kernel⟩, s.1, s.2,
   (C19_copy_independent (nvAt 4) (nvAt 5) (nv_inv_at 4) 1 2 (.copyAssign 1 2) (.inr ⟨rfl, by decide +kernel⟩) s.1 s.2).1⟩

theorem nv_C19_move_transfers :
    Inv (nvAt 3) ∧ ((HOp.moveCtor 3 1 : HOp Int) = .moveCtor 3 1 ∨ ((HOp.moveCtor 3 1 : HOp Int) = .moveAssign 3 1 ∧ 3 ≠ 1)) ∧
    (nvAt 3).inScope (.moveCtor 3 1) = true ∧ (nvAt 3).slots 1 = some ⟨2, 3, some 2, true⟩ ∧
    (nvAt 3).step (.moveCtor 3 1) = .ok (nvAt 4) ∧
    (nvAt 4).slots 3 = some ⟨2, 3, some 2, true⟩ ∧ (nvAt 4).slots 1 = some ⟨2, 3, none, true⟩ ∧
    (nvAt 4).view 3 = (nvAt 3).view 1 ∧ (nvAt 4).next = (nvAt 3).next ∧
    (∀ u, u ≠ 3 → u ≠ 1 → (nvAt 4).view u = (nvAt 3).view u) ∧ (∀ e, e < (nvAt 3).nExt → (nvAt 4).ext e = (nvAt 3).ext e) :=
  have s := nv_step 3 (.moveCtor 3 1) rfl
  ⟨nv_inv_at 3, .inl rfl, s.1, rfl, s.2,
   C19_move_transfers (nvAt 3) (nvAt 4) (nv_inv_at 3) 3 1 (.moveCtor 3 1) ⟨2, 3, some 2, true⟩ (.inl rfl) s.1 rfl s.2⟩

/-- `v3 = std::move(v4)`: variable 3 owns buffer 2, which is released; it takes over buffer 5. -/
theorem nv_C19_move_transfers_assign :
    Inv (nvAt 12) ∧ ((HOp.moveAssign 3 4 : HOp Int) = .moveCtor 3 4 ∨ ((HOp.moveAssign 3 4 : HOp Int) = .moveAssign 3 4 ∧ 3 ≠ 4)) ∧
    (nvAt 12).inScope (.moveAssign 3 4) = true ∧ (nvAt 12).slots 4 = some ⟨2, 3, some 5, true⟩ ∧
    (nvAt 12).step (.moveAssign 3 4) = .ok (nvAt 13) ∧ (nvAt 13).view 3 = (nvAt 12).view 4 :=
  have s := nv_step 12 (.moveAssign 3 4) rfl
  ⟨nv_inv_at 12, .inr ⟨rfl, by decide +kernel⟩, s.1, rfl, s.2,
   (C19_move_transfers (nvAt 12) (nvAt 13) (nv_inv_at 12) 3 4 (.moveAssign 3 4) ⟨2, 3, some 5, true⟩
     (.inr ⟨rfl, by decide +kernel⟩) s.1 rfl s.2).2.2.1⟩

/-- `Raster v0(array 0, 2, 3)` in the initial state, then six operations that do not rebind
    variable 0 (one of them writes through it, one is the caller's own write); then a further write
    through it and its destruction. -/
theorem nv_C19_wrap_writes_through :
    Inv (nvAt 0) ∧ (nvAt 0).inScope (.wrap 0 0 2 3) = true ∧ (nvAt 0).step (.wrap 0 0 2 3) = .ok (nvAt 1) ∧
    (∀ op ∈ (nvOps.drop 1).take 6, op.reseats 0 = false) ∧ (nvAt 1).run ((nvOps.drop 1).take 6) = .ok (nvAt 7) ∧
    (nvAt 7).slots 0 = some ⟨2, 3, some 0, false⟩ ∧
    (∃ cells, (nvAt 7).ext 0 = some cells ∧ 2 * 3 ≤ cells.length ∧ (nvAt 7).view 0 = some ⟨2, 3, cells.take (2 * 3)⟩) ∧
    (nvAt 7).ext 0 = some [50, 2, 3, 4, 5, 99] ∧
    (nvAt 7).inScope (.write 0 0 1 8) = true ∧
    (∃ cells, (nvAt 7).ext 0 = some cells ∧ 0 * 3 + 1 < cells.length ∧
      (Heap.okOr ((nvAt 7).step (.write 0 0 1 8))).ext 0 = some (cells.set (0 * 3 + 1) 8)) ∧
    ((Heap.okOr ((nvAt 7).step (.destroy 0))).ext 0 = (nvAt 7).ext 0 ∧
      ∃ cells, (Heap.okOr ((nvAt 7).step (.destroy 0))).ext 0 = some cells) :=
  have hn : ∀ op ∈ (nvOps.drop 1).take 6, op.reseats 0 = false := by decide +kernel
  have s := nv_step 0 (.wrap 0 0 2 3) rfl
  have t := C19_wrap_writes_through (nvAt 0) (nvAt 1) (nv_inv_at 0) 0 0 2 3 s.1 s.2 ((nvOps.drop 1).take 6) (nvAt 7) hn
    (nv_seg 1 6)
  ⟨nv_inv_at 0, s.1, s.2, hn, nv_seg 1 6, t.1, t.2.1, by decide +kernel, rfl, t.2.2.1 0 1 8 _ rfl rfl, t.2.2.2 _ rfl⟩

/-- The three parts of `C19_operands_unchanged`: a fresh-result operator (`v4 = v2 + v3`), an
    in-place operator on private storage (`v2 *= 2`), and the two throwing operators (2 x 3 against
    1 x 2). -/
theorem nv_C19_operands_unchanged :
    (Inv (nvAt 7) ∧ (nvAt 7).inScope (.zipNew 4 2 3 (· + ·)) = true ∧ (nvAt 7).step (.zipNew 4 2 3 (· + ·)) = .ok (nvAt 8) ∧
      (∀ u, u ≠ 4 → (nvAt 8).view u = (nvAt 7).view u) ∧ (∀ e, e < (nvAt 7).nExt → (nvAt 8).ext e = (nvAt 7).ext e)) ∧
    (Inv (nvAt 8) ∧ (nvAt 8).inScope (.mapInPlace 2 (· * 2)) = true ∧ (nvAt 8).step (.mapInPlace 2 (· * 2)) = .ok (nvAt 9) ∧
      (HOp.mapInPlace 2 (· * 2) : HOp Int).writesVia 2 = true ∧ Private (nvAt 8) 2 ∧
      (∀ u, u ≠ 2 → (nvAt 9).view u = (nvAt 8).view u) ∧ (∀ e, e < (nvAt 8).nExt → (nvAt 9).ext e = (nvAt 8).ext e)) ∧
    (Inv (nvAt 10) ∧ (nvAt 10).inScope (.zipInPlace 2 5 (· + ·)) = true ∧
      (nvAt 10).step (.zipInPlace 2 5 (· + ·)) = .ok (nvAt 11) ∧
      (nvAt 10).throws (.zipInPlace 2 5 (· + ·)) = some .invalid_argument ∧ nvAt 11 = nvAt 10) ∧
    (Inv (nvAt 11) ∧ (nvAt 11).inScope (.zipNew 6 2 5 (· + ·)) = true ∧
      (nvAt 11).step (.zipNew 6 2 5 (· + ·)) = .ok (nvAt 12) ∧
      (nvAt 11).throws (.zipNew 6 2 5 (· + ·)) = some .invalid_argument ∧ nvAt 12 = nvAt 11) :=
  have hp : Private (nvAt 8) 2 := private_of_owner (nv_inv_at 8) (o := ⟨2, 3, some 3, true⟩) rfl rfl rfl
  ⟨⟨nv_inv_at 7, nv_step7.1, nv_step7.2,
     (C19_operands_unchanged (nvAt 7) (nvAt 8) (nv_inv_at 7) (.zipNew 4 2 3 (· + ·)) nv_step7.1 nv_step7.2).1 4
       (.inr (.inl ⟨2, 3, _, rfl⟩))⟩,
   ⟨nv_inv_at 8, nv_step8.1, nv_step8.2, rfl, hp,
     (C19_operands_unchanged (nvAt 8) (nvAt 9) (nv_inv_at 8) (.mapInPlace 2 (· * 2)) nv_step8.1 nv_step8.2).2.1 2 rfl hp⟩,
   ⟨nv_inv_at 10, nv_step10.1, nv_step10.2, rfl,
     (C19_operands_unchanged (nvAt 10) (nvAt 11) (nv_inv_at 10) (.zipInPlace 2 5 (· + ·)) nv_step10.1 nv_step10.2).2.2
       .invalid_argument rfl⟩,
   ⟨nv_inv_at 11, nv_step11.1, nv_step11.2, rfl,
     (C19_operands_unchanged (nvAt 11) (nvAt 12) (nv_inv_at 11) (.zipNew 6 2 5 (· + ·)) nv_step11.1 nv_step11.2).2.2
       .invalid_argument rfl⟩⟩

/-- The four parts of `C19_elementwise_heap`, the two raster-raster ones in both outcomes. -/
theorem nv_C19_elementwise_heap :
    -- `pow(v2, 2)` into the unused variable 6
    (Inv (nvAt 9) ∧ (nvAt 9).inScope (.powNew 6 2 (fun x => x * x)) = true ∧
      ∃ va, (nvAt 9).view 2 = some va ∧
        (Heap.okOr ((nvAt 9).step (.powNew 6 2 (fun x => x * x)))).view 6 = some (va.map fun x => x * x)) ∧
    -- `v2 *= 2`
    (Inv (nvAt 8) ∧ (nvAt 8).inScope (.mapInPlace 2 (· * 2)) = true ∧ (nvAt 8).step (.mapInPlace 2 (· * 2)) = .ok (nvAt 9) ∧
      ∃ va, (nvAt 8).view 2 = some va ∧ (nvAt 9).view 2 = some (va.map (· * 2))) ∧
    -- `v4 = v2 + v3` (same shape) and `v6 = v2 + v5` (2 x 3 against 1 x 2)
    (Inv (nvAt 7) ∧ (nvAt 7).inScope (.zipNew 4 2 3 (· + ·)) = true ∧ (nvAt 7).step (.zipNew 4 2 3 (· + ·)) = .ok (nvAt 8) ∧
      (nvAt 8).view 4 = some ⟨2, 3, [8, 9, 10, 11, 12, 13]⟩) ∧
    (Inv (nvAt 11) ∧ (nvAt 11).inScope (.zipNew 6 2 5 (· + ·)) = true ∧ (nvAt 11).step (.zipNew 6 2 5 (· + ·)) = .ok (nvAt 12) ∧
      (nvAt 11).view 5 = some ⟨1, 2, [10, 20]⟩) ∧
    -- `v2 += v5` (rejected) and `v2 += v3`
    (Inv (nvAt 10) ∧ (nvAt 10).inScope (.zipInPlace 2 5 (· + ·)) = true ∧
      (nvAt 10).step (.zipInPlace 2 5 (· + ·)) = .ok (nvAt 11)) ∧
    (Inv (nvAt 10) ∧ (nvAt 10).inScope (.zipInPlace 2 3 (· + ·)) = true ∧
      (Heap.okOr ((nvAt 10).step (.zipInPlace 2 3 (· + ·)))).view 2 = some ⟨2, 3, [9, 11, 13, 15, 17, 19]⟩) :=
  ⟨⟨nv_inv_at 9, rfl,
     (C19_elementwise_heap (nvAt 9) (Heap.okOr ((nvAt 9).step (.powNew 6 2 (fun x => x * x)))) (nv_inv_at 9)).1 6 2
       (fun x => x * x) (.powNew 6 2 (fun x => x * x)) (.inr rfl) rfl rfl⟩,
   ⟨nv_inv_at 8, nv_step8.1, nv_step8.2,
     (C19_elementwise_heap (nvAt 8) (nvAt 9) (nv_inv_at 8)).2.1 2 (· * 2) nv_step8.1 nv_step8.2⟩,
   ⟨nv_inv_at 7, nv_step7.1, nv_step7.2, by decide +kernel⟩,
   ⟨nv_inv_at 11, nv_step11.1, nv_step11.2, by decide +kernel⟩,
   ⟨nv_inv_at 10, nv_step10.1, nv_step10.2⟩,
   ⟨nv_inv_at 10, rfl, by decide +kernel⟩⟩

/-- The raster-raster parts applied (the conclusions contain a `match` on the value-level result). -/
example := (C19_elementwise_heap (nvAt 7) (nvAt 8) (nv_inv_at 7)).2.2.1 4 2 3 (· + ·) nv_step7.1 nv_step7.2
example := (C19_elementwise_heap (nvAt 11) (nvAt 12) (nv_inv_at 11)).2.2.1 6 2 5 (· + ·) nv_step11.1 nv_step11.2
example := (C19_elementwise_heap (nvAt 10) (nvAt 11) (nv_inv_at 10)).2.2.2 2 5 (· + ·) nv_step10.1 nv_step10.2
example := (C19_elementwise_heap (nvAt 10) (Heap.okOr ((nvAt 10).step (.zipInPlace 2 3 (· + ·)))) (nv_inv_at 10)).2.2.2
  2 3 (· + ·) rfl rfl

/-! Finding F31. `C19_wrap_writes_through_full_fails` and `C19_wrap_writes_through_over_assignments_fails` are
    refutations by a closed witness (no hypotheses). `C19_assign_into_wrapper_leaks`: in the state after
    `Raster v0(array 0, 2, 3); Raster v1(2, 3, 7)` the assignment `v0 = v1` is in scope and in the region of F31;
    the fresh buffer has id 3; a continuation that writes through `v0`, moves it to `v2` and destroys every
    variable ends with buffer 3 allocated and without an owner; destroying `v0` at once leaves it unreachable. -/
def nvF31 : Heap Int := Heap.okOr ((nvAt 2).step (.copyAssign 0 1))
def nvF31Ops : List (HOp Int) := [.write 0 0 0 9, .moveCtor 2 0, .destroy 2, .destroy 0, .destroy 1]
def nvF31End : Heap Int := Heap.okOr (nvF31.run nvF31Ops)
def nvF31Destroyed : Heap Int := Heap.okOr (nvF31.step (.destroy 0))

theorem nv_C19_assign_into_wrapper_leaks :
    Inv (nvAt 2) ∧ (nvAt 2).f31Region (.copyAssign 0 1) = true ∧ (nvAt 2).inScope (.copyAssign 0 1) = true ∧
    (nvAt 2).step (.copyAssign 0 1) = .ok nvF31 ∧ (nvAt 2).next = 3 ∧
    nvF31.slots 0 = some ⟨2, 3, some 3, false⟩ ∧ nvF31.ext 0 = some [1, 2, 3, 4, 5, 6] ∧
    (nvF31.run nvF31Ops = .ok nvF31End ∧ Live nvF31End 3 ∧ Unowned nvF31End 3 ∧ ∀ s, s < 7 → nvF31End.slots s = none) ∧
    (nvF31.step (.destroy 0) = .ok nvF31Destroyed ∧ Live nvF31Destroyed 3 ∧ Unreachable nvF31Destroyed 3) :=
  have t := C19_assign_into_wrapper_leaks (nvAt 2) nvF31 (nv_inv_at 2) 0 1 (by decide +kernel) rfl rfl
  have t1 := t.2.2.2.2.1 nvF31Ops nvF31End rfl
  have t2 := t.2.2.2.2.2 nvF31Destroyed rfl
  ⟨nv_inv_at 2, by decide +kernel, rfl, rfl, rfl, by decide +kernel, by decide +kernel, ⟨rfl, t1.1, t1.2, by decide +kernel⟩, ⟨rfl, t2.1, t2.2⟩⟩

end C19B

end NVMulti
end Pops
