/-
  Non-vacuity audit of Props/C06 (random streams), Props/C07 (dates / scheduler), Props/C08
  (schedules), Props/C09 (plan of a model step), Props/C20 (documented errors, index ranges).

  For every theorem with hypotheses (top-level, or antecedents inside the conclusion) one concrete,
  non-trivial instance that meets ALL of them at once, and the theorem applied to it: `nv_X` is the
  instance for theorem `X`. The shared instances and the facts evaluated of them are in `NVCal`.
  The calendar instances are multi-year schedulers starting in November (of the leap year 2020,
  `scMonth` of 2019):
    * `scDay`   20-day steps  (first step 25 Nov - 31 Dec: the merged year end of the F9 repair,
                               leap day 29 Feb 2024 inside the run),
    * `scWeek`  one-week steps,
    * `scWeek2` two-week steps (the steps 23/24 Dec - 7 Jan straddle every year boundary),
    * `scMonth` three-month steps from 1 Nov 2019 (Nov - Jan straddles every year boundary).
-/
import PopsModel.Props.C06
import PopsModel.Props.C07
import PopsModel.Props.C08
import PopsModel.Props.C09
import PopsModel.Props.C20
namespace Pops
open Date

namespace NVCal

/-- 25 November of a leap year. -/
def s20 : Date := ⟨2020, 11, 25⟩
def e24 : Date := ⟨2024, 3, 15⟩
/-- The leap day inside the run. -/
def leapDay : Date := ⟨2024, 2, 29⟩

def scDay : Scheduler := ⟨s20, e24, .day, 20, stepsLoop .day 20 e24 (stepsFuel s20 e24) s20⟩
def scWeek : Scheduler := ⟨s20, e24, .week, 1, stepsLoop .week 1 e24 (stepsFuel s20 e24) s20⟩
def scWeek2 : Scheduler := ⟨s20, e24, .week, 2, stepsLoop .week 2 e24 (stepsFuel s20 e24) s20⟩

theorem s20_valid : s20.Valid := by decide
theorem e24_valid : e24.Valid := by decide
theorem leapDay_valid : leapDay.Valid := by decide
theorem ok_day20 : StepOK .day 20 := ⟨by decide, fun _ => by decide⟩
theorem ok_week1 : StepOK .week 1 := ⟨by decide, fun h => by cases h⟩
theorem ok_week2 : StepOK .week 2 := ⟨by decide, fun h => by cases h⟩
theorem ok_month3 : StepOK .month 3 := ⟨by decide, fun h => by cases h⟩

theorem scDay_make : Scheduler.make s20 e24 .day 20 = .ok scDay := by rfl
theorem scWeek_make : Scheduler.make s20 e24 .week 1 = .ok scWeek := by rfl
theorem scWeek2_make : Scheduler.make s20 e24 .week 2 = .ok scWeek2 := by rfl

/-- All that is evaluated of the step list of `scDay` stands in one statement (so do `scWeek2_eval`,
    `scMonth_eval`): within one declaration the kernel computes the list once. -/
theorem scDay_eval :
    scDay.steps.length = 59 ∧ scDay.steps.head? = some ⟨⟨2020, 11, 25⟩, ⟨2020, 12, 31⟩⟩ ∧
    scDay.steps.getLast? = some ⟨⟨2024, 3, 1⟩, ⟨2024, 3, 20⟩⟩ ∧
    scDay.steps[57]? = some ⟨⟨2024, 2, 10⟩, ⟨2024, 2, 29⟩⟩ ∧
    (∀ st ∈ scDay.steps, st.contains ⟨2020, 11, 24⟩ = false) ∧
    scDay.steps.take 2 = [⟨⟨2020, 11, 25⟩, ⟨2020, 12, 31⟩⟩, ⟨⟨2021, 1, 1⟩, ⟨2021, 1, 20⟩⟩] := by decide +kernel

theorem scWeek2_eval :
    scWeek2.steps.length = 86 ∧ (∀ st ∈ scWeek2.steps, st.e.y ≤ st.s.y + 1) ∧
    scWeek2.steps.head? = some ⟨⟨2020, 11, 25⟩, ⟨2020, 12, 8⟩⟩ ∧
    scWeek2.steps.getLast? = some ⟨⟨2024, 3, 4⟩, ⟨2024, 3, 17⟩⟩ ∧
    scWeek2.steps[28]? = some ⟨⟨2021, 12, 24⟩, ⟨2022, 1, 7⟩⟩ ∧
    scWeek2.steps.filter (fun st => st.s.y != st.e.y) =
      [⟨⟨2020, 12, 23⟩, ⟨2021, 1, 7⟩⟩, ⟨⟨2021, 12, 24⟩, ⟨2022, 1, 7⟩⟩,
       ⟨⟨2022, 12, 24⟩, ⟨2023, 1, 7⟩⟩, ⟨⟨2023, 12, 24⟩, ⟨2024, 1, 7⟩⟩] := by decide +kernel

/-- 59 / 172 / 86 steps over three and a half years. -/
theorem sc_lengths : scDay.steps.length = 59 ∧ scWeek.steps.length = 172 ∧ scWeek2.steps.length = 86 :=
  ⟨scDay_eval.1, by decide +kernel, scWeek2_eval.1⟩

/-- The first 20-day step is merged with the year end (37 days), the next starts on 1 January. -/
theorem scDay_first : scDay.steps.take 2 =
    [⟨⟨2020, 11, 25⟩, ⟨2020, 12, 31⟩⟩, ⟨⟨2021, 1, 1⟩, ⟨2021, 1, 20⟩⟩] := scDay_eval.2.2.2.2.2

/-- The two-week steps that straddle a year boundary (one per year of the run). -/
theorem scWeek2_straddle : scWeek2.steps.filter (fun st => st.s.y != st.e.y) =
    [⟨⟨2020, 12, 23⟩, ⟨2021, 1, 7⟩⟩, ⟨⟨2021, 12, 24⟩, ⟨2022, 1, 7⟩⟩,
     ⟨⟨2022, 12, 24⟩, ⟨2023, 1, 7⟩⟩, ⟨⟨2023, 12, 24⟩, ⟨2024, 1, 7⟩⟩] := scWeek2_eval.2.2.2.2.2

def sM : Date := ⟨2019, 11, 1⟩
def eM : Date := ⟨2022, 6, 30⟩
def scMonth : Scheduler := ⟨sM, eM, .month, 3, stepsLoop .month 3 eM (stepsFuel sM eM) sM⟩
theorem sM_valid : sM.Valid := by decide
theorem eM_valid : eM.Valid := by decide
theorem scMonth_make : Scheduler.make sM eM .month 3 = .ok scMonth := by rfl
theorem scMonth_eval :
    (∀ st ∈ scMonth.steps, st.e.y ≤ st.s.y + 1) ∧
    scMonth.steps.head? = some ⟨⟨2019, 11, 1⟩, ⟨2020, 1, 31⟩⟩ ∧
    scMonth.steps.getLast? = some ⟨⟨2022, 5, 1⟩, ⟨2022, 7, 31⟩⟩ ∧
    scMonth.steps[2]? = some ⟨⟨2020, 5, 1⟩, ⟨2020, 7, 31⟩⟩ ∧
    scMonth.steps.map (fun st => (st.s.y, st.s.m, st.e.y, st.e.m)) =
      [(2019, 11, 2020, 1), (2020, 2, 2020, 4), (2020, 5, 2020, 7), (2020, 8, 2020, 10),
       (2020, 11, 2021, 1), (2021, 2, 2021, 4), (2021, 5, 2021, 7), (2021, 8, 2021, 10),
       (2021, 11, 2022, 1), (2022, 2, 2022, 4), (2022, 5, 2022, 7)] := by decide +kernel
theorem scMonth_steps : scMonth.steps.map (fun st => (st.s.y, st.s.m, st.e.y, st.e.m)) =
    [(2019, 11, 2020, 1), (2020, 2, 2020, 4), (2020, 5, 2020, 7), (2020, 8, 2020, 10),
     (2020, 11, 2021, 1), (2021, 2, 2021, 4), (2021, 5, 2021, 7), (2021, 8, 2021, 10),
     (2021, 11, 2022, 1), (2022, 2, 2022, 4), (2022, 5, 2022, 7)] := scMonth_eval.2.2.2.2

/-- A step straddling the year boundary, taken from `scWeek2`. -/
def stStraddle : Step := ⟨⟨2021, 12, 24⟩, ⟨2022, 1, 7⟩⟩

/-- Calendar part of a configuration with every optional feature switched on. -/
def calCfg : CalCfg :=
  { start := sM, end_ := eM, unit := .month, n := 3, seasonStart := 5, seasonEnd := 9,
    outFreq := "year", outN := 0, useMortality := true, mortFreq := "year", mortN := 0,
    useLethal := true, lethalMonth := 1, useSurvival := true, survMonth := 3, survDay := 15,
    useRates := true, ratesFreq := "month", ratesN := 0,
    useQuarantine := true, quarFreq := "every_n_steps", quarN := 2,
    weatherSize := 5 }

def calSchedules : Schedules := match createSchedules calCfg with | .ok s => s | .error _ => default
theorem calSchedules_ok : createSchedules calCfg = .ok calSchedules := by rfl

/-! Random streams: an engine on `Nat`, a configuration with soils, anthropogenic kernel and two
    hosts, and the process skeletons with concrete oracles. -/

def E : Engine Nat := ⟨fun s => 1000 * s, fun g => (g % 7, g + 1)⟩

def cSoil : UseCfg := { soils := true, useAnthro := true, hosts := 2 }
/-- Everything deterministic, no soils: generation uses no stream. -/
def cDet : UseCfg := { generateStochastic := false, establishmentStochastic := false, dispersalStochastic := false }

def genAct (c : UseCfg) (w : Nat) : Act Nat Nat :=
  generateAct c (fun _ => [(0, 0), (0, 1)]) (fun _ _ => 2) (fun _ _ g => (g % 5, g + 1))
    (fun _ _ xs => ((xs.length + 1 : Nat) : Int)) (fun _ _ d => d.toNat) (fun g => (g % 3, g + 2))
    (fun w _ d us => w + d.toNat + us.length) w

def kern (c : UseCfg) : Nat → Int × Int → Act Nat Nat := fun w _ =>
  libraryKernelAct c (w % 2 == 0) (fun g => (g % 2, g + 1)) (fun g => (g % 4, g + 1)) (fun g => (g % 6, g + 1)) 0 1

def dispAct (c : UseCfg) (w : Nat) : Act Nat Nat :=
  disperseAct c (kern c) (fun _ => [(0, 0), (1, 1)]) (fun _ _ => 2) (fun _ t => t % 2 == 0) (fun w t => w + t)
    (landAct c (fun _ _ => true) (fun _ _ => true) (fun g => (g % 2, g + 1)) (fun g => (g % 10, g + 1))
      (fun w t h u => w + t + h + u.getD 0))
    (fun _ _ => 1) (fun _ _ g => (g % 3, g + 1)) (fun _ _ g => (g % 2, g + 1))
    (fun _ _ xs sh => xs.length + sh) (fun w _ _ _ => w + 1) (fun cell => cell.1.toNat) w

def spreadAct (c : UseCfg) (w : Nat) : Act Nat Nat := (genAct c w).bind (dispAct c)

theorem uses_spread_cSoil : uses .spread cSoil =
    [.disperserGeneration, .soil, .naturalDispersal, .anthropogenicDispersal, .establishment, .soil] := by decide

theorem kern_within (c : UseCfg) (hinj : c.injectedKernel = none) (w : Nat) (cell : Int × Int) :
    (kern c w cell).Within (kernelUses c) := C06_within_kernel c hinj ..

theorem dispAct_within (c : UseCfg) (hinj : c.injectedKernel = none) (w : Nat) :
    (dispAct c w).Within (uses .disperse c) := C06_within_disperse c (kern c) (kern_within c hinj) ..

theorem spreadAct_model (c : UseCfg) (hinj : c.injectedKernel = none) (w : Nat) :
    ModelProcess c .spread Nat (spreadAct c w) :=
  .spread (genAct c) (dispAct c) (fun _ => .generate ..) (fun _ => .disperse (kern c) (kern_within c hinj) ..) w

theorem spreadAct_within : (spreadAct cSoil 0).Within (uses .spread cSoil) :=
  C06_model_process_within cSoil .spread Nat _ (spreadAct_model cSoil rfl 0)

/-- A complete seed map (all ten names) and an incomplete one. -/
def fullMap : SeedMap := StreamName.all.map fun n => (n.key, n.index + 100)
def partMap : SeedMap := [("soil", 3), ("weather", 4)]

theorem fullMap_ok : ∃ s : Streams Nat, Provider.ofMap E fullMap = .ok (.multi s) ∧ ∀ n, s.get n = E.seed (n.index + 100) := by
  obtain ⟨s, hs, hg, _⟩ := (C06_missing_seed_rejected E fullMap).2 _ (SeedMap.find_ofNames fun n => n.index + 100)
  exact ⟨s, hs, hg⟩

/-- Step plan: SEI-like run with lethal temperature, spread rates and quarantine on, survival off. -/
def stepCfg : StepCfg :=
  { soils := true, useLethal := true, lethalSched := [true, false, true], useSurvival := false,
    survivalSched := [true, true, true], spreadSched := [false, true, true], useOverpop := true,
    useMovements := false, useTreatments := true, useMortality := true, mortalitySched := [false, false, true],
    useSpreadRates := true, rateSched := [false, true, true], useQuarantine := false,
    quarantineSched := [true, true, true] }

/-- An SEI cell with two exposed and three mortality cohorts. -/
def cell : Cell := { s := 10, e := [2, 3], i := 4, r := 0, te := 5, mort := [1, 2, 1], died := 0, th := 19 }

/-- Weather from a distribution on a 1 x 3 raster: the normal draws are above the range, inside,
    below the range, so both branches of the fallback are taken; the uniform draws are inside
    [0,1] at every index (beyond the list `us[k]!` is the default 0, so the hypothesis quantified
    over all `k : Nat` is satisfiable). -/
def wMeans : List Rat := [1/2, 1, 0]
def wZs : List Rat := [3/2, 1/4, -1]
def wUs : List Rat := [1/3, 1/2, 0]
theorem wOut_ok : updateWeatherFromDistribution 1 3 1 3 wMeans wZs wUs = .ok [1/3, 1/4, 0] := by decide +kernel
theorem wUs_range : ∀ k : Nat, k < wMeans.length → 0 ≤ wUs[k]! ∧ wUs[k]! ≤ 1 := by decide +kernel

/-- Degenerate deviations at cells 0 and 2 (means 1 and 0, on the border of the range), a
    proper deviation at cell 1 whose draw 1/2 + 3 * 1 falls outside (fallback 1/2). -/
def dMeans : List Rat := [1, 1/2, 0]
def dSds : List Rat := [0, 3, 0]
def dNs : List Rat := [7, 1, -2]
theorem dOut_ok :
    updateWeatherFromDistribution 1 3 1 3 dMeans (weatherZs dMeans dSds dNs) wUs = .ok [1, 1/2, 0] := by
  decide +kernel

/-- A 3 x 5 raster (rows ≠ cols). -/
def grid : Grid := ⟨3, 5⟩
def dispEnv : DisperseEnv := { mt := .sei, stochastic := true, pEst := 1/2, npop := List.replicate 15 20, w := none }
def pest : PestState := { disp := List.replicate 15 2, est := List.replicate 15 0, outside := [(9, 9)] }

end NVCal
open NVCal

/-- November of a leap year, 20 days (crosses the year end: 1 January), week, month; and a first
    of the month for the last component. -/
theorem nv_C07_valid :
    s20.Valid ∧ (s20.increasedByDays 20).Valid ∧ s20.increasedByDays 20 = ⟨2021, 1, 1⟩ ∧
    s20.increasedByWeek.Valid ∧ s20.increasedByMonth.Valid ∧ sM.increasedByMonth.d = 1 :=
  have h := C07_valid s20 s20_valid
  ⟨s20_valid, h.1 20 (by decide) (by decide), by decide, h.2.1, h.2.2.1,
   (C07_valid sM sM_valid).2.2.2 (by decide)⟩

/-- Day, week and month steps from 25 November 2020. -/
theorem nv_C07_increasing :
    s20.lt (increaseDate .day 20 s20) = true ∧ s20.lt (increaseDate .week 2 s20) = true ∧
    sM.lt (increaseDate .month 3 sM) = true :=
  ⟨C07_increasing .day 20 ok_day20 s20 s20_valid, C07_increasing .week 2 ok_week2 s20 s20_valid,
   C07_increasing .month 3 ok_month3 sM sM_valid⟩

/-- Two different valid dates (the leap day and the start). -/
theorem nv_C07_order : s20.Valid ∧ leapDay.Valid ∧ s20 ≠ leapDay ∧ s20.lt leapDay = true := by
  have h := C07_order s20 leapDay s20_valid leapDay_valid
  exact ⟨s20_valid, leapDay_valid, by decide, h.1.mpr (by decide)⟩

/-- All four hypotheses at once for the three schedulers starting in November 2020. -/
theorem nv_C07_tiles :
    TilesCalendar s20 e24 scDay.steps = true ∧ TilesCalendar s20 e24 scWeek.steps = true ∧
    TilesCalendar s20 e24 scWeek2.steps = true ∧ TilesCalendar sM eM scMonth.steps = true :=
  ⟨C07_tiles s20 e24 .day 20 scDay s20_valid e24_valid ok_day20 scDay_make,
   C07_tiles s20 e24 .week 1 scWeek s20_valid e24_valid ok_week1 scWeek_make,
   C07_tiles s20 e24 .week 2 scWeek2 s20_valid e24_valid ok_week2 scWeek2_make,
   C07_tiles sM eM .month 3 scMonth sM_valid eM_valid ok_month3 scMonth_make⟩

/-- The leap day is found in exactly one step (number 57 of 59); the day before the start is
    rejected. All four components of the conclusion are used with their antecedents. -/
theorem nv_C07_partition :
    scheduleActionDate scDay.steps leapDay = .ok 57 ∧
    scheduleActionDate scDay.steps ⟨2020, 11, 24⟩ = .error .invalid_argument := by
  have ht := nv_C07_tiles.1
  obtain ⟨h1, h2, h3, _⟩ := C07_partition s20 e24 scDay.steps ht leapDay leapDay_valid
  obtain ⟨_, hfirst, hlast, h57, hbefore, _⟩ := scDay_eval
  obtain ⟨k, st, hk, hc⟩ := h3 _ _ hfirst hlast (by decide) (by decide)
  have hk57 : k = 57 := h1 k 57 st _ hk h57 hc (by decide)
  subst hk57
  exact ⟨h2 57 st hk hc, (C07_partition s20 e24 scDay.steps ht ⟨2020, 11, 24⟩ (by decide)).2.2.2 hbefore⟩

/-- Both alternatives of `hu`: 20-day steps and one-week steps, November start in a leap year. -/
theorem nv_C07_day_steps :
    dayStepsOK 20 scDay.steps = true ∧ dayStepsOK 7 scWeek.steps = true :=
  ⟨C07_day_steps s20 e24 .day 20 scDay s20_valid e24_valid ok_day20 (.inl rfl) scDay_make,
   C07_day_steps s20 e24 .week 1 scWeek s20_valid e24_valid ok_week1 (.inr ⟨rfl, rfl⟩) scWeek_make⟩

/-- A two-week step over the year end: 1 January fires (through the end year), 15 June does not. -/
theorem nv_C08_yearly :
    stepWF stStraddle = true ∧ yearlyFires 1 1 stStraddle = true ∧ yearlyFires 6 15 stStraddle = false ∧
    ¬ ∃ y : Int, stStraddle.contains ⟨y, 6, 15⟩ = true := by
  have hwf : stepWF stStraddle = true := by decide
  have h := C08_yearly stStraddle hwf (by decide)
  have h1 := h 1 1 (by decide) (by decide) (by decide) (by decide)
  have h2 := h 6 15 (by decide) (by decide) (by decide) (by decide)
  exact ⟨hwf, h1.mpr ⟨2022, by decide⟩, by decide, fun hex => absurd (h2.mpr hex) (by decide)⟩

/-- Two-week steps from November 2020: every step is shorter than a year although four of them
    straddle a year boundary; 1 January 2022 fires in exactly one step (number 28). -/
theorem nv_C08_yearly_once :
    ∃ k : Nat, (∃ st : Step, scWeek2.steps[k]? = some st ∧ st.contains ⟨2022, 1, 1⟩ = true ∧
        st.s.y ≠ st.e.y ∧ (scheduleYearly scWeek2.steps 1 1)[k]? = some true) ∧
      ∀ (j : Nat) (st' : Step), scWeek2.steps[j]? = some st' → st'.contains ⟨2022, 1, 1⟩ = true → j = k := by
  obtain ⟨_, hshort, hfirst, hlast, h28, _⟩ := scWeek2_eval
  obtain ⟨k, ⟨st, hk, hc, hf⟩, huniq⟩ := C08_yearly_once s20 e24 scWeek2.steps nv_C07_tiles.2.2.1 hshort 1 1
    (by decide) (by decide) (by decide) (by decide) 2022 _ _ hfirst hlast (by decide) (by decide)
  have : 28 = k := huniq 28 stStraddle h28 (by decide)
  subst this
  have : st = stStraddle := by rw [h28] at hk; exact (Option.some.inj hk).symm
  subst this
  exact ⟨28, ⟨stStraddle, hk, hc, by decide, hf⟩, huniq⟩

/-- The month scheduler as well (three-month steps November - January). -/
theorem nv_C08_yearly_once_month :
    ∃ k : Nat, (∃ st : Step, scMonth.steps[k]? = some st ∧ st.contains ⟨2021, 1, 1⟩ = true ∧
        (scheduleYearly scMonth.steps 1 1)[k]? = some true) ∧
      ∀ (j : Nat) (st' : Step), scMonth.steps[j]? = some st' → st'.contains ⟨2021, 1, 1⟩ = true → j = k :=
  C08_yearly_once sM eM scMonth.steps nv_C07_tiles.2.2.2 scMonth_eval.1 1 1
    (by decide) (by decide) (by decide) (by decide) 2021 _ _ scMonth_eval.2.1 scMonth_eval.2.2.1
    (by decide) (by decide)

theorem nv_C08_end_of_year :
    endOfYearFires stStraddle = true ∧ endOfYearFires ⟨⟨2021, 1, 8⟩, ⟨2021, 1, 21⟩⟩ = false :=
  ⟨(C08_end_of_year stStraddle (by decide)).mpr ⟨2021, by decide⟩, by decide⟩

theorem nv_C08_monthly :
    monthlyFires ⟨⟨2024, 2, 10⟩, ⟨2024, 2, 29⟩⟩ = true ∧ monthlyFires ⟨⟨2021, 1, 8⟩, ⟨2021, 1, 21⟩⟩ = false :=
  ⟨(C08_monthly ⟨⟨2024, 2, 10⟩, ⟨2024, 2, 29⟩⟩ (by decide +kernel)).mpr ⟨leapDay, by decide +kernel, by decide +kernel, by decide +kernel⟩,
   by decide +kernel⟩

theorem nv_C08_nsteps :
    (scheduleNSteps scDay.steps 4)[7]? = some true ∧ (scheduleNSteps scDay.steps 4)[8]? = some false ∧
    (scheduleEndOfSimulation scDay.steps)[58]? = some true := by
  have hlt : ∀ k, k < 59 → k < scDay.steps.length := fun k h => sc_lengths.1.symm ▸ h
  have h7 := C08_nsteps scDay.steps 4 7 (hlt 7 (by decide))
  have h8 := C08_nsteps scDay.steps 4 8 (hlt 8 (by decide))
  have h58 := C08_nsteps scDay.steps 4 58 (hlt 58 (by decide))
  refine ⟨h7.1, h8.1, ?_⟩
  rw [h58.2.2.1, sc_lengths.1]; rfl

/-- Season May - September, step 2 of the month scheduler (May - July) and step 0 (Nov - Jan). -/
theorem nv_C08_spread :
    (scheduleSpread scMonth.steps 5 9)[2]? = some true ∧ (scheduleSpread scMonth.steps 5 9)[0]? = some false := by
  have h2 := C08_spread scMonth.steps 5 9 2 _ scMonth_eval.2.2.2.1
  have h0 := C08_spread scMonth.steps 5 9 0 _ (List.head?_eq_getElem?.symm.trans scMonth_eval.2.1)
  exact ⟨h2.trans (by decide), h0.trans (by decide)⟩

/-- Antecedents inside `C08_frequency` and `C08_weather`. -/
theorem nv_C08_frequency :
    scheduleFromString scWeek "weekly" 0 = .ok (scheduleNSteps scWeek.steps 1) ∧
    scheduleFromString scDay "weekly" 0 = .error .invalid_argument ∧
    scheduleFromString scDay "every_n_steps" 3 = .ok (scheduleNSteps scDay.steps 3) := by
  have h := C08_frequency
  refine ⟨?_, ?_, (h scDay 3).2.2.2.2.2.2.1 (by decide)⟩
  · rw [(h scWeek 0).1 "weekly" (.inr rfl)]; rfl
  · rw [(h scDay 0).1 "weekly" (.inr rfl)]; rfl

theorem nv_C08_index_bijection :
    simulationStepToActionStep [true, false, true, true] 3 = .ok 2 ∧
    simulationStepToActionStep [true, false, true, true] 4 = .error .out_of_range := by
  have h := C08_index_bijection [true, false, true, true]
  exact ⟨(h.1 3 (by decide)).trans (by decide), h.2.1 4 (by decide)⟩

theorem nv_C08_weather : ∃ l, scheduleWeather 11 5 = .ok l ∧ l.length = 11 ∧ l[7]? = some 2 := by
  obtain ⟨l, h1, h2, h3⟩ := (C08_weather 11 5).2 (by decide)
  exact ⟨l, h1, h2, h3 7 (by decide)⟩

/-- `create_schedules` accepts a configuration with every feature on (three-month steps over
    year boundaries, 11 steps), so the hypothesis is met; the wiring follows. -/
theorem nv_C08_config_wiring :
    createSchedules calCfg = .ok calSchedules ∧ calSchedules.steps.length = 11 ∧
    calSchedules.lethal = some (scheduleYearly scMonth.steps 1 1) ∧
    calSchedules.survival = some (scheduleYearly scMonth.steps 3 15) ∧
    (∃ m, scheduleFromString scMonth "year" 0 = .ok m ∧ calSchedules.mortality = some m) := by
  obtain ⟨sc, hsc, h1, _, _, hl, hsv, hm, _⟩ := C08_config_wiring calCfg calSchedules calSchedules_ok
  have : sc = scMonth := Except.ok.inj (hsc.symm.trans scMonth_make)
  subst this
  have hlen : scMonth.steps.length = 11 := by
    rw [← List.length_map (fun st : Step => (st.s.y, st.s.m, st.e.y, st.e.m)), scMonth_steps]
    rfl
  exact ⟨calSchedules_ok, h1 ▸ hlen, hl, hsv, hm rfl⟩

/-- The situation of seeded change C09k: a second configuration on the same calendar whose output,
    mortality and spread-rate schedules all use `every_n_steps` (n = 1, 3, 5) like the quarantine
    schedule (n = 2); it is accepted, and its quarantine schedule is that of `calCfg`. -/
def calCfgShared : CalCfg :=
  { calCfg with outFreq := "every_n_steps", outN := 1, mortFreq := "every_n_steps", mortN := 3,
                ratesFreq := "every_n_steps", ratesN := 5 }
def calSchedulesShared : Schedules := match createSchedules calCfgShared with | .ok s => s | .error _ => default
theorem calSchedulesShared_ok : createSchedules calCfgShared = .ok calSchedulesShared := by rfl

theorem nv_C08_config_own_n :
    createSchedules calCfgShared = .ok calSchedulesShared ∧
    calSchedulesShared.quarantine = calSchedules.quarantine ∧
    calSchedulesShared.mortality ≠ calSchedulesShared.quarantine :=
  ⟨calSchedulesShared_ok,
   (C08_config_own_n calCfg calCfgShared calSchedules calSchedulesShared calSchedules_ok calSchedulesShared_ok
      ⟨rfl, rfl, rfl, rfl⟩).1 rfl rfl rfl,
   by decide +kernel⟩

/-- Step 2 of `stepCfg`: lethal temperature runs with input index 1 (second firing), the spread
    rate with index 1. -/
theorem nv_C09_index :
    (ActionKind.lethal, some 1) ∈ plan stepCfg 2 ∧
    simulationStepToActionStep stepCfg.lethalSched 2 = .ok 1 ∧
    simulationStepToActionStep stepCfg.rateSched 2 = .ok 1 := by
  have hl : (ActionKind.lethal, some 1) ∈ plan stepCfg 2 := by decide
  have hr : (ActionKind.spreadRate, some 1) ∈ plan stepCfg 2 := by decide
  exact ⟨hl, (C09_index stepCfg 2 .lethal 1 hl).1 rfl, (C09_index stepCfg 2 .spreadRate 1 hr).2.2.1 rfl⟩

/-- The plan of step 2 has eight actions; survival and quarantine are disabled and their
    schedules (all `true`) can be replaced by anything. -/
theorem nv_C09_frame_disabled :
    (plan stepCfg 2).length = 8 ∧
    plan { stepCfg with survivalSched := [false, true] } 2 = plan stepCfg 2 ∧
    plan { stepCfg with quarantineSched := [] } 2 = plan stepCfg 2 :=
  ⟨by decide, (C09_frame_disabled stepCfg 2 [false, true]).2.1 rfl,
   (C09_frame_disabled stepCfg 2 []).2.2.2.2 rfl⟩

/-- `C09_order`, `C09_iff`, `C09_spread_block` have no hypotheses; the instance shows the
    antecedent of the second component of `C09_spread_block`. -/
theorem nv_C09_spread_block : stepCfg.runs 2 .overpopulation = true ∧ stepCfg.runs 2 .spread = true :=
  ⟨by decide, (C09_spread_block stepCfg 2).2.1 (by decide)⟩

/-- Antecedents inside `C06_seed_order`: a seed without wrap-around, and a configuration with
    multiple seeds and an empty map. -/
theorem nv_C06_seed_order :
    (seedMulti E 5).get .soil = E.seed 14 ∧
    Provider.ofConfig E { randomSeed := -1, multipleRandomSeeds := true } =
      .ok (.multi (seedMulti E 4294967295)) := by
  have h := C06_seed_order E 5
  refine ⟨(h.2.2.2.2.2.1 (by decide) .soil).trans rfl, ?_⟩
  exact (C06_seed_order E 0).2.2.2.2.2.2.2 { randomSeed := -1, multipleRandomSeeds := true } rfl rfl

/-- A map lacking `movement` (first antecedent), a complete map (second antecedent). -/
theorem nv_C06_missing_seed_rejected :
    Provider.ofMap E partMap = .error .invalid_argument ∧
    (∀ r, Provider.ofConfig E { randomSeed := r, multipleRandomSeeds := true, randomSeeds := partMap }
        = .error .invalid_argument) ∧
    ∃ s : Streams Nat, Provider.ofMap E fullMap = .ok (.multi s) ∧ s.get .weather = E.seed 104 := by
  have h1 := (C06_missing_seed_rejected E partMap).1 .movement (by decide +kernel)
  obtain ⟨s, hs, hg⟩ := fullMap_ok
  exact ⟨h1.2.1, h1.2.2.2 (by decide +kernel), s, hs, hg .weather⟩

/-- Antecedents inside `C06_single_use_rejected`: providers that were really constructed. -/
theorem nv_C06_single_use_rejected :
    (∃ p, Provider.ofMap E fullMap = .ok p ∧ p.isMulti = true) ∧
    (∃ p, Provider.ofConfig E { randomSeed := 7 } = .ok p ∧ p.isMulti = false) := by
  have h := C06_single_use_rejected E
  obtain ⟨s, hs, _⟩ := fullMap_ok
  have hc : Provider.ofConfig E { randomSeed := 7 } = .ok (.single (E.seed 7)) :=
    (C06_single_aliases E 0 .soil (fun g => (g, g))).2.2.2.2.2 { randomSeed := 7 } rfl
  exact ⟨⟨_, hs, h.2.2.1 _ _ hs⟩, ⟨_, hc, h.2.2.2.1 _ _ hc⟩⟩

/-- `m ≠ n` antecedents of `C06_isolated`. -/
theorem nv_C06_isolated :
    (((Provider.multi (seedMulti E 5)).drawFrom E .weather).2.get .soil = E.seed 14) ∧
    (((Provider.multi (seedMulti E 5)).drawFrom E .weather).2.get .weather ≠ E.seed 9) :=
  ⟨((C06_isolated E (seedMulti E 5) .weather E.next).2.2.2 .soil (by decide)).trans rfl, by decide⟩

/-- **Frame**, on the whole spread action (generate, then disperse with the library kernel,
    soils, anthropogenic kernel, two hosts): six streams allowed, all stream states of `p` and `q`
    different outside them (weather, lethal temperature, movement, overpopulation, survival rate). -/
theorem nv_C06_frame :
    let p := seedMulti E 5
    let q : Streams Nat := { p with weather := 1, lethalTemperature := 2, movement := 3, overpopulation := 4, survivalRate := 6 }
    p ≠ q ∧ (uses .spread cSoil).length = 6 ∧
    ((spreadAct cSoil 0).run (.multi p)).1 = ((spreadAct cSoil 0).run (.multi q)).1 := by
  intro p q
  have hpq : ∀ n ∈ uses .spread cSoil, p.get n = q.get n := by decide +kernel
  exact ⟨by decide +kernel, by decide +kernel, (C06_frame .spread cSoil _ spreadAct_within p q hpq).1⟩

/-- Changing the weather seed does not change the spread action. -/
theorem nv_C06_unused_seed_irrelevant :
    StreamName.weather ∉ uses .spread cSoil ∧
    ((spreadAct cSoil 0).run (.multi (Streams.ofFn fun m => E.seed (m.index + 10)))).1 =
    ((spreadAct cSoil 0).run (.multi (Streams.ofFn fun m => E.seed (if m = .weather then 77 else m.index + 10)))).1 := by
  have hn : StreamName.weather ∉ uses .spread cSoil := by decide
  exact ⟨hn, (C06_unused_seed_irrelevant E .spread cSoil _ spreadAct_within .weather hn (fun m => m.index + 10) 77).1⟩

/-- Deterministic generation without soils: the generate skeleton (two cells, oracles as above)
    is within the empty list, hence returns the provider untouched. -/
theorem nv_C06_no_stream_no_effect :
    uses .generate cDet = [] ∧ ∃ x, ∀ q : Provider Nat, (genAct cDet 0).run q = (x, q) := by
  have h : uses .generate cDet = [] := by decide
  exact ⟨h, C06_no_stream_no_effect .generate cDet _ (C06_within_generate cDet ..) h⟩

/-- Library kernel, deterministic everything, one host: several antecedents of the table at once. -/
theorem nv_C06_table :
    StreamName.disperserGeneration ∉ uses .spread cDet ∧ StreamName.establishment ∉ uses .spread cDet ∧
    StreamName.naturalDispersal ∉ uses .spread cDet ∧ uses .generate cDet = [] ∧
    StreamName.establishment ∈ uses .disperse cSoil := by
  have h := C06_table cDet rfl
  exact ⟨h.1 rfl, h.2.1 rfl (by decide), h.2.2.2.2.1 rfl, h.2.2.2.2.2.1 rfl rfl,
    (C06_table cSoil rfl).2.2.2.2.2.2.2.2.2.2.2.2.2 (by decide)⟩

/-- `hinj`, `hk`, `hg`, `hd` of the four `within` theorems with hypotheses, chained: the library
    kernel is within `kernelUses`, so disperse is within its row, so spread is. The remaining
    `C06_within_*` theorems have no hypotheses. -/
theorem nv_C06_within_chain :
    (kern cSoil 0 (0, 0)).Within (kernelUses cSoil) ∧ kernelUses cSoil = [.naturalDispersal, .anthropogenicDispersal] ∧
    (dispAct cSoil 0).Within (uses .disperse cSoil) ∧ (spreadAct cSoil 0).Within (uses .spread cSoil) := by
  exact ⟨kern_within cSoil rfl 0 (0, 0), by decide, dispAct_within cSoil rfl 0,
    C06_within_spread cSoil _ _ (fun w => C06_within_generate cSoil ..) (dispAct_within cSoil rfl) 0⟩

/-! "Made deterministic" (`specUses` against `usesRun`): a configuration that meets the three extra
    hypotheses of `C06_deterministic_mode_partial` non-trivially - establishment deterministic with ONE
    host, movements on with `movement_stochasticity` on, anthropogenic kernel on under deterministic
    dispersal with a kernel type that is random by definition - and the whole spread action (generate,
    library kernel, landings, soil release) as the process. -/

def cMix : UseCfg :=
  { generateStochastic := false, establishmentStochastic := false, hosts := 1, soils := true, useMovements := true,
    movementStochastic := true, useAnthro := true, dispersalStochastic := false, anthroKernel := .uniform }

/-- `h` of `C06_model_process_within`: the spread action of `cSoil` is a process of the model. -/
theorem nv_C06_model_process_within : (spreadAct cSoil 0).Within (uses .spread cSoil) := spreadAct_within

/-- `hP`, `hm`, `hn` of `C06_unused_seed_run_irrelevant`: weather is outside `usesRun cSoil` (a run that
    draws from five other streams), the spread action does not depend on its seed. -/
theorem nv_C06_unused_seed_run_irrelevant :
    StreamName.weather ∉ usesRun cSoil ∧ StreamName.establishment ∈ usesRun cSoil ∧
    ((spreadAct cSoil 0).run (.multi (Streams.ofFn fun m => E.seed (m.index + 10)))).1 =
    ((spreadAct cSoil 0).run (.multi (Streams.ofFn fun m => E.seed (if m = .weather then 77 else m.index + 10)))).1 := by
  have hn : StreamName.weather ∉ usesRun cSoil := by decide
  exact ⟨hn, by decide,
    C06_unused_seed_run_irrelevant E cSoil .spread Nat _ rfl (spreadAct_model cSoil rfl 0) .weather hn (fun m => m.index + 10) 77⟩

/-- All hypotheses of `C06_deterministic_mode_partial` at once, none of them by the trivial disjunct
    "process off": the establishment seed (deterministic establishment, one host) and the natural
    dispersal seed (radial kernel under deterministic dispersal) are irrelevant for the spread action,
    while anthropogenic dispersal, soil and movement stay allowed. -/
theorem nv_C06_deterministic_mode_partial :
    StreamName.establishment ∉ specUses cMix ∧ StreamName.naturalDispersal ∉ specUses cMix ∧
    specUses cMix = [.anthropogenicDispersal, .movement, .soil] ∧
    ((spreadAct cMix 0).run (.multi (Streams.ofFn fun m => E.seed (m.index + 10)))).1 =
    ((spreadAct cMix 0).run (.multi (Streams.ofFn fun m => E.seed (if m = .establishment then 77 else m.index + 10)))).1 := by
  have hn : StreamName.establishment ∉ specUses cMix := by decide
  exact ⟨hn, by decide, by decide,
    C06_deterministic_mode_partial E cMix .spread Nat _ rfl (spreadAct_model cMix rfl 0)
      (.inl (by decide)) (.inr rfl) (.inr (.inr (.inl rfl))) .establishment hn (fun m => m.index + 10) 77⟩

/-- `hu`, `hs` of `C06_code_outside_spec` in each of the three regions, and `hs` of
    `C06_spec_within_code`. -/
theorem nv_C06_code_outside_spec :
    f28Region { establishmentStochastic := false, hosts := 2 } = true ∧
    f29Region { useMovements := true, movementStochastic := false } = true ∧
    f32Region { useAnthro := true, dispersalStochastic := false } = true ∧
    StreamName.movement ∈ usesRun cMix := by
  have h1 := C06_code_outside_spec { establishmentStochastic := false, hosts := 2 } .establishment (by decide +kernel) (by decide +kernel)
  have h2 := C06_code_outside_spec { useMovements := true, movementStochastic := false } .movement (by decide +kernel) (by decide +kernel)
  have h3 := C06_code_outside_spec { useAnthro := true, dispersalStochastic := false } .anthropogenicDispersal
    (by decide +kernel) (by decide +kernel)
  exact ⟨by simpa using h1, by simpa using h2, by simpa using h3, C06_spec_within_code cMix .movement (by decide +kernel)⟩

theorem nv_C06_read_seeds :
    ∃ c', readSeedsVec { randomSeed := 3 } [10, 11, 12, 13, 14, 15, 16, 17, 18, 19] = .ok c' ∧
      c'.randomSeeds.find? "weather" = some 14 ∧
      Provider.ofConfig E c' = .ok (.multi (Streams.ofFn fun n => E.seed ([10, 11, 12, 13, 14, 15, 16, 17, 18, 19].getD n.index 0))) := by
  obtain ⟨c', h1, _, _, h4, h5⟩ := (C06_read_seeds E { randomSeed := 3 } [10, 11, 12, 13, 14, 15, 16, 17, 18, 19]).2 rfl
  exact ⟨c', h1, (h4 .weather).trans rfl, h5⟩

/-- Two records, separators `,` and `=`. -/
theorem nv_C06_read_seeds_text_roundtrip :
    readSeedsText {} ',' '=' "soil=7,weather=12".toList =
      .ok { randomSeeds := [("weather", 12), ("soil", 7)], multipleRandomSeeds := true } := by
  -- string literals are turned into their lists of characters first (see `StreamName.key_chars`)
  have wf : WellFormed ',' '=' [("soil".toList, 7), ("weather".toList, 12)] := by
    with_reducible rw [String.toList_ofList, String.toList_ofList]
    refine ⟨by decide, by decide, ?_, by decide⟩
    intro p hp
    simp only [List.mem_cons, List.not_mem_nil, or_false] at hp
    rcases hp with rfl | rfl <;> exact ⟨⟨by decide, by decide +kernel⟩, by decide +kernel⟩
  have e : "soil=7,weather=12".toList = renderPairs ',' '=' [("soil".toList, 7), ("weather".toList, 12)] := by
    with_reducible rw [String.toList_ofList, String.toList_ofList, String.toList_ofList]
    decide +kernel
  rw [e, C06_read_seeds_text_roundtrip {} ',' '=' _ wf]
  decide +kernel

/-- All ten names, separators `;` and `:`. -/
theorem nv_C06_read_seeds_text :
    ∃ c', readSeedsText {} ';' ':' (renderPairs ';' ':' (StreamName.all.map fun n => (n.key.toList, n.index + 100))) = .ok c' ∧
      c'.multipleRandomSeeds = true ∧
      Provider.ofConfig E c' = .ok (.multi (Streams.ofFn fun n => E.seed (n.index + 100))) :=
  C06_read_seeds_text E {} ';' ':' (fun n => n.index + 100)
    (fun n => by have := StreamName.index_lt n; omega) (by decide) (by decide)
    (fun n ch hch => ⟨StreamName.key_avoids n (by decide) ch hch, StreamName.key_avoids n (by decide) ch hch⟩)

theorem nv_C06_read_seeds_malformed : parseRecord '=' "soil 7".toList = .error .invalid_argument := by
  refine C06_read_seeds_malformed '=' _ ?_
  with_reducible rw [String.toList_ofList]
  decide

theorem nv_C20_err_names :
    modelTypeFromString "sei" = .error .invalid_argument ∧ stepUnitFromString "year" = .error .invalid_argument :=
  ⟨C20_err_names.1 "sei" (by simp), C20_err_names.2.2.2.1 "year" (by simp)⟩

theorem nv_C20_err_frequency : scheduleFromString scDay "fortnight" 2 = .error .invalid_argument :=
  C20_err_frequency scDay 2 "fortnight" (by simp)

/-- The day before the start of a 59-step schedule. -/
theorem nv_C20_err_date_outside :
    scheduleActionDate scDay.steps ⟨2020, 11, 24⟩ = .error .invalid_argument ∧
    addTreatment scDay.steps ⟨2020, 11, 24⟩ 30 = .error .invalid_argument :=
  C20_err_date_outside scDay.steps ⟨2020, 11, 24⟩ 30 scDay_eval.2.2.2.2.1

/-- SEI cell with two exposed and three mortality cohorts; each antecedent chain of the five
    components. -/
theorem nv_C20_err_cohort_length :
    cell.completelyRemove 1 [1, 1, 1] 1 [0, 1, 0] = .error .invalid_argument ∧
    cell.completelyRemove 1 [1, 1] 1 [0, 1] = .error .invalid_argument ∧
    cell.makeResistant 1 [1] 1 [0, 1, 0] = .error .invalid_argument ∧
    cell.makeResistant 1 [1, 1] 1 [0, 1] = .error .invalid_argument ∧
    cell.makeResistant 11 [1, 1] 1 [0, 1, 0] = .error .invalid_argument :=
  ⟨(C20_err_cohort_length cell 1 [1, 1, 1] 1 [0, 1, 0]).1 (by decide),
   (C20_err_cohort_length cell 1 [1, 1] 1 [0, 1]).2.1 (by decide) (by decide) (by decide),
   (C20_err_cohort_length cell 1 [1] 1 [0, 1, 0]).2.2.1 (by decide) (by decide),
   (C20_err_cohort_length cell 1 [1, 1] 1 [0, 1]).2.2.2.1 (by decide) (by decide) (by decide),
   (C20_err_cohort_length cell 11 [1, 1] 1 [0, 1, 0]).2.2.2.2 (by decide)⟩

theorem nv_C20_err_probabilities :
    updateWeatherFromDistribution 2 3 3 3 [1, 0] [] [] = .error .invalid_argument ∧
    updateWeatherFromDistribution 2 3 2 3 [1/2, 3/2, 0, 0, 0, 0] [] [] = .error .invalid_argument :=
  ⟨(C20_err_probabilities 2 3 3 3 [1, 0] [] []).1 (by decide),
   (C20_err_probabilities 2 3 2 3 [1/2, 3/2, 0, 0, 0, 0] [] []).2.2
     ⟨3/2, List.mem_cons_of_mem _ List.mem_cons_self, Or.inr (by decide +kernel)⟩⟩

theorem nv_C12_weather_range : ∀ x ∈ ([1/3, 1/4, 0] : List Rat), 0 ≤ x ∧ x ≤ 1 :=
  (C12_weather_range 1 3 1 3 wMeans wZs wUs _ wUs_range wOut_ok).2

theorem nv_C12_weather_degenerate :
    (([1, 1/2, 0] : List Rat)[0]! = dMeans[0]! ∧ 0 ≤ dMeans[0]! ∧ dMeans[0]! ≤ 1) ∧
    (([1, 1/2, 0] : List Rat)[2]! = dMeans[2]! ∧ 0 ≤ dMeans[2]! ∧ dMeans[2]! ≤ 1) :=
  ⟨C12_weather_degenerate 1 3 1 3 dMeans dSds dNs wUs _ dOut_ok 0 (by decide) (by decide +kernel),
   C12_weather_degenerate 1 3 1 3 dMeans dSds dNs wUs _ dOut_ok 2 (by decide) (by decide +kernel)⟩

/-- Last cell of a 3 x 5 raster. -/
theorem nv_C20_index_in_range : grid.idx 2 4 = 14 ∧ (grid.idx 2 4 : Int) < grid.rows * grid.cols :=
  ⟨by decide, (C20_index_in_range grid 2 4 (by decide)).1⟩

/-- A disperser thrown to row -1 of the 3 x 5 raster of SEI cells. -/
theorem nv_C20_outside_untouched :
    landOne grid dispEnv (List.replicate 15 cell) pest (-1, 7) [1/2] =
      .ok (List.replicate 15 cell, { pest with outside := [(9, 9), (-1, 7)] }, false, [1/2]) :=
  C20_outside_untouched grid dispEnv (List.replicate 15 cell) pest (-1, 7) [1/2] (by decide)

end Pops
