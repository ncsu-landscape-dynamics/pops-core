/-
  C20  No undefined behaviour inside the documented domain; documented errors throw.
  What Lean decides here: the documented error kind of every invalid-input class on the model,
  and index safety of the modelled landscape algorithms. Memory safety, lifetimes and signed
  overflow of the C++ are runtime facts, explored by the sanitizer runs of all harnesses.
  The weather part of C12 (`C12_weather_*`) stands here: it is about `updateWeatherFromDistribution`,
  whose rejections are C20 facts. Model/Stream.lean is imported for its `DecidableEq (Except ..)`.
-/
import PopsModel.Model.Errors
import PopsModel.Model.Actions
import PopsModel.Model.Stream
import PopsModel.Props.C08
import PopsModel.Props.C12
namespace Pops

/-- Unknown model-type, weather-type, treatment-application, step-unit names and arrival
    behaviours are rejected with invalid_argument; every documented spelling is accepted. -/
theorem C20_err_names :
    (∀ s, s ∉ ["SI", "SusceptibleInfected", "susceptible-infected", "susceptible_infected", "SEI",
        "SusceptibleExposedInfected", "susceptible-exposed-infected", "susceptible_exposed_infected"] →
        modelTypeFromString s = .error .invalid_argument) ∧
    (∀ s, s ∉ ["deterministic", "Deterministic", "probabilistic", "Probabilistic", "", "none", "None", "NONE"] →
        weatherTypeFromString s = .error .invalid_argument) ∧
    (∀ s, s ∉ ["ratio_to_all", "ratio", "all_infected_in_cell", "all infected"] →
        treatAppFromString s = .error .invalid_argument) ∧
    (∀ s, s ∉ ["day", "week", "month"] → stepUnitFromString s = .error .invalid_argument) ∧
    (∀ s, s ∉ ["infect", "land"] → setArrivalBehavior s = .error .invalid_argument) ∧
    modelTypeFromString "SI" = .ok .si ∧ modelTypeFromString "SEI" = .ok .sei ∧
    weatherTypeFromString "probabilistic" = .ok .probabilistic ∧ treatAppFromString "ratio" = .ok .ratio := by
  refine ⟨?_, ?_, ?_, ?_, ?_, by simp [modelTypeFromString], by simp [modelTypeFromString],
    by simp [weatherTypeFromString], by simp [treatAppFromString]⟩
  -- in each of the five: `s` differs from every accepted spelling, so every test of the function fails
  all_goals
    intro s h
    simp only [List.mem_cons, List.not_mem_nil, or_false, not_or] at h
    simp [modelTypeFromString, weatherTypeFromString, treatAppFromString, stepUnitFromString, setArrivalBehavior, h]

/-- An unknown frequency name is rejected (every accepted name is characterised in C08_frequency). -/
theorem C20_err_frequency (sc : Scheduler) (n : Nat) (f : String)
    (h : f ∉ ["", "final_step", "year", "yearly", "month", "monthly", "week", "weekly", "day", "daily",
              "every_n_steps", "every_step", "time_step"]) :
    scheduleFromString sc f n = .error .invalid_argument := by
  simp only [List.mem_cons, List.not_mem_nil, or_false, not_or] at h
  simp [scheduleFromString, h]

/-- Dates outside the schedule are rejected: by the lookup itself and by `add_treatment` for the
    start date and for the end date of a pesticide. -/
theorem C20_err_date_outside (steps : List Step) (d : Date) (n : Nat)
    (h : ∀ st ∈ steps, st.contains d = false) :
    scheduleActionDate steps d = .error .invalid_argument ∧
    addTreatment steps d n = .error .invalid_argument := by
  have h1 : scheduleActionDate steps d = .error .invalid_argument := by
    obtain ⟨l1, l2, _⟩ := lookup_first d steps 0
    unfold scheduleActionDate
    cases hr : scheduleActionDateAux d steps 0 with
    | ok k =>
      obtain ⟨j, st, _, e2, e3⟩ := l1 k hr
      rw [h st (List.mem_of_getElem? e2)] at e3; cases e3
    | error e => rw [(l2 e hr).1]
  refine ⟨h1, ?_⟩
  simp [addTreatment, h1, bind, Except.bind]

/-- Cohort lists of the wrong length are rejected by the removal and the resistance primitives. -/
theorem C20_err_cohort_length (c : Cell) (sR : Int) (eR : List Int) (iR : Int) (mR : List Int) :
    (eR.length ≠ c.e.length → c.completelyRemove sR eR iR mR = .error .invalid_argument) ∧
    (0 < iR → eR.length = c.e.length → mR.length ≠ c.mort.length →
        c.completelyRemove sR eR iR mR = .error .invalid_argument) ∧
    (sR ≤ c.s → eR.length ≠ c.e.length → c.makeResistant sR eR iR mR = .error .invalid_argument) ∧
    (sR ≤ c.s → eR.length = c.e.length → mR.length ≠ c.mort.length →
        c.makeResistant sR eR iR mR = .error .invalid_argument) ∧
    (c.s < sR → c.makeResistant sR eR iR mR = .error .invalid_argument) := by
  refine ⟨?_, ?_, ?_, ?_, ?_⟩
  · intro h
    unfold Cell.completelyRemove
    by_cases hs : sR > 0 <;> simp [hs, h]
  · intro hi he hm
    unfold Cell.completelyRemove
    by_cases hs : sR > 0 <;> simp [hs, he, Int.not_le.mpr hi, hm.symm]
  · intro hs h
    simp [Cell.makeResistant, Int.not_lt.mpr hs, h]
  · intro hs he hm
    simp [Cell.makeResistant, Int.not_lt.mpr hs, he, hm.symm]
  · intro hs
    simp [Cell.makeResistant, hs]

/-- Missing weather or temperature data is a logic_error; a mortality request without a pest-host
    table, an empty soil pool and schedule accessors used too early or for disabled features are
    rejected as documented. -/
theorem C20_err_missing (k : Nat) (t : Option (List Rat)) (w : Option (List Rat)) (c : Cell) :
    (EnvState.weatherAt ⟨none, t⟩ k = .error .logic_error) ∧
    (EnvState.temperatureAt ⟨w, none⟩ k = .error .logic_error) ∧
    applyMortalityViaTable none c = .error .invalid_argument ∧
    soilPoolNew 0 = .error .logic_error ∧
    (∀ b, configAccessor false b = .error .logic_error) ∧
    (∀ b, configAccessor b false = .error .logic_error) ∧
    configAccessor true true = .ok () := by
  refine ⟨rfl, rfl, rfl, rfl, ?_, ?_, rfl⟩
  · intro b; cases b <;> rfl
  · intro b; cases b <;> rfl

/-- Suitabilities outside [0,1] are rejected (C12_suitability_range_rejected) and weather means
    outside [0,1] or mismatching shapes are rejected. -/
theorem C20_err_probabilities (mr mc sr sc : Nat) (means zs us : List Rat) :
    (mr ≠ sr → updateWeatherFromDistribution mr mc sr sc means zs us = .error .invalid_argument) ∧
    (mc ≠ sc → updateWeatherFromDistribution mr mc sr sc means zs us = .error .invalid_argument) ∧
    ((∃ m ∈ means, m < 0 ∨ m > 1) → updateWeatherFromDistribution mr mc sr sc means zs us = .error .invalid_argument) := by
  -- the three tests come one after the other and all throw the same exception
  refine ⟨?_, ?_, ?_⟩
  · intro h
    simp only [updateWeatherFromDistribution, h, ne_eq, not_false_eq_true, if_true]
  · intro h
    simp only [updateWeatherFromDistribution, h, ne_eq, not_false_eq_true, if_true, ite_self]
  · rintro ⟨m, hm, hr⟩
    have : means.any (fun m => decide (m < 0) || decide (m > 1)) = true :=
      List.any_eq_true.mpr ⟨m, hm, by rcases hr with h | h <;> simp [h]⟩
    simp only [updateWeatherFromDistribution, this, if_true, ite_self]

theorem updateWeather_ok {mr mc sr sc : Nat} {means zs us out : List Rat}
    (h : updateWeatherFromDistribution mr mc sr sc means zs us = .ok out) :
    (∀ m ∈ means, 0 ≤ m ∧ m ≤ 1) ∧
    out = (List.range means.length).map fun k => normalWithFallback 0 1 zs[k]! us[k]! := by
  unfold updateWeatherFromDistribution at h
  split at h; · cases h
  split at h; · cases h
  split at h; · cases h
  rename_i hany
  refine ⟨fun m hm => ⟨Rat.not_lt.mp fun hlt => hany ?_, Rat.not_lt.mp fun hgt => hany ?_⟩, (Except.ok.inj h).symm⟩
  · exact List.any_eq_true.mpr ⟨m, hm, by rw [Bool.or_eq_true]; exact .inl (decide_eq_true hlt)⟩
  · exact List.any_eq_true.mpr ⟨m, hm, by rw [Bool.or_eq_true]; exact .inr (decide_eq_true hgt)⟩

/-- C12 (weather part): coefficients drawn from a distribution always lie in [0,1]: the normal
    draw is kept only inside the range, otherwise the uniform draw from [0,1) is used. -/
theorem C12_weather_range (mr mc sr sc : Nat) (means zs us out : List Rat)
    (hu : ∀ k : Nat, k < means.length → 0 ≤ us[k]! ∧ us[k]! ≤ 1)
    (h : updateWeatherFromDistribution mr mc sr sc means zs us = .ok out) :
    out.length = means.length ∧ ∀ x ∈ out, 0 ≤ x ∧ x ≤ 1 := by
  obtain ⟨_, rfl⟩ := updateWeather_ok h
  refine ⟨by simp, fun x hx => ?_⟩
  obtain ⟨k, hk, rfl⟩ := List.mem_map.mp hx
  unfold normalWithFallback
  split
  · exact hu k (List.mem_range.mp hk)
  · rename_i hz
    exact ⟨Rat.not_lt.mp fun h => hz (.inl h), Rat.not_lt.mp fun h => hz (.inr h)⟩

/-- C12 (weather part), degenerate deviation: a cell whose standard deviation is 0 gets its mean
    (which has passed the range test) - the range test is never by-passed for such cells. -/
theorem C12_weather_degenerate (mr mc sr sc : Nat) (means sds ns us out : List Rat)
    (h : updateWeatherFromDistribution mr mc sr sc means (weatherZs means sds ns) us = .ok out)
    (k : Nat) (hk : k < means.length) (hs : sds[k]! = 0) :
    out[k]! = means[k]! ∧ 0 ≤ means[k]! ∧ means[k]! ≤ 1 := by
  obtain ⟨hm, rfl⟩ := updateWeather_ok h
  obtain ⟨h0, h1⟩ := hm means[k]! (by rw [getElem!_pos means k hk]; exact List.getElem_mem hk)
  have hz : (weatherZs means sds ns)[k]! = means[k]! := by
    unfold weatherZs
    rw [getElem!_pos _ k (by simpa using hk), List.getElem_map, List.getElem_range]
    unfold normalDraw
    rw [hs, Rat.mul_zero, Rat.zero_add]
  refine ⟨?_, h0, h1⟩
  rw [getElem!_pos _ k (by simpa using hk), List.getElem_map, List.getElem_range]
  unfold normalWithFallback
  rw [hz, if_neg fun h => h.elim (Rat.not_lt.mpr h0) (Rat.not_lt.mpr h1)]

example : updateWeatherFromDistribution 1 2 1 2 [1, 0] (weatherZs [1, 0] [0, 3] [7, 1]) [0, 0]
    = .ok [1, 0] := by
  decide +kernel

/-- Index safety of the landscape algorithms: a cell that passes the outside test has an index
    inside the raster buffers, for every raster shape (single cell, single row, single column,
    rows ≠ cols) and however far outside the kernel throws a disperser. -/
theorem C20_index_in_range (g : Grid) (r c : Int)
    (h : g.isOutside r c = false) : (g.idx r c : Int) < g.rows * g.cols ∧ 0 ≤ r * g.cols + c := by
  simp only [Grid.isOutside, Bool.or_eq_false_iff, decide_eq_false_iff_not, Int.not_lt, ge_iff_le, Int.not_le] at h
  obtain ⟨⟨⟨h1, h2⟩, h3⟩, h4⟩ := h
  have hc : 0 ≤ g.cols := by omega
  have hnn : 0 ≤ r * g.cols := Int.mul_nonneg h1 hc
  have hle : r * g.cols + g.cols ≤ g.rows * g.cols := by
    have : (r + 1) * g.cols ≤ g.rows * g.cols := Int.mul_le_mul_of_nonneg_right (by omega) hc
    rw [Int.add_mul, Int.one_mul] at this
    exact this
  refine ⟨?_, by omega⟩
  simp only [Grid.idx]
  have : ((r * g.cols + c).toNat : Int) = r * g.cols + c := Int.toNat_of_nonneg (by omega)
  rw [this]; omega

/-- A disperser thrown outside never touches a host raster (SI with an empty exposed list, cells
    without hosts and zero dispersers included: the landing step only ever indexes the target). -/
theorem C20_outside_untouched (g : Grid) (env : DisperseEnv) (cells : List Cell) (p : PestState)
    (t : Int × Int) (us : List Rat) (h : g.isOutside t.1 t.2 = true) :
    landOne g env cells p t us = .ok (cells, { p with outside := p.outside ++ [t] }, false, us) := by
  obtain ⟨tr, tc⟩ := t
  simp only at h
  simp [landOne, h]

example : (⟨1, 1⟩ : Grid).isOutside 0 0 = false ∧ (⟨1, 1⟩ : Grid).isOutside (-1000) 4000 = true := by decide

end Pops
