/-
  C07  Steps tile the calendar without gaps or overlaps; day/week steps respect years.
  Property theorems only; helper lemmas are in PopsModel/Lemmas/{Date,Scheduler,Calendar}.lean.
-/
import PopsModel.Lemmas.Calendar
namespace Pops
open Date

/-- The three successors produce valid calendar dates (n days, 1 ≤ n ≤ 28; week; month). -/
theorem C07_valid (t : Date) (hv : t.Valid) :
    (∀ n : Int, 1 ≤ n → n ≤ 28 → (t.increasedByDays n).Valid) ∧
    t.increasedByWeek.Valid ∧ t.increasedByMonth.Valid ∧ (t.d = 1 → t.increasedByMonth.d = 1) :=
  ⟨fun n h1 h2 => (incDays_spec t n hv h1 h2).1, (incWeek_spec t hv).1,
   (incMonth_spec t hv).1, (incMonth_spec t hv).2.2⟩

/-- Every step moves strictly forward (this is also why the constructor's loop terminates). -/
theorem C07_increasing (u : StepUnit) (n : Nat) (h : StepOK u n) (t : Date) (hv : t.Valid) :
    t.lt (increaseDate u n t) = true := by
  obtain ⟨v, o⟩ := increaseDate_good u n h t hv
  exact (lt_iff_ord hv.bounded v.bounded).mpr o

/-- The comparison operators are the lexicographic total order on valid dates. -/
theorem C07_order (a b : Date) (ha : a.Valid) (hb : b.Valid) :
    (a.lt b = true ↔ a.ord < b.ord) ∧ (a.gt b = true ↔ b.ord < a.ord) ∧
    (a.le b = true ↔ a.ord ≤ b.ord) ∧ (a.ge b = true ↔ b.ord ≤ a.ord) ∧ (a.ord = b.ord → a = b) :=
  ⟨lt_iff_ord ha.bounded hb.bounded, gt_iff_ord ha.bounded hb.bounded,
   le_iff_ord ha.bounded hb.bounded, ge_iff_ord ha.bounded hb.bounded, ord_inj ha.bounded hb.bounded⟩

/-- Whenever the constructor accepts, the generated steps tile the calendar:
    first step starts at `start`, all dates valid, each step starts the day after the previous
    ends, starts are `<= end`, and the day after the last end is `> end`. Any start, any end,
    any unit, any length in the domain. -/
theorem C07_tiles (start end_ : Date) (u : StepUnit) (n : Nat) (sc : Scheduler)
    (hs : start.Valid) (he : end_.Valid) (hn : StepOK u n)
    (hmk : Scheduler.make start end_ u n = .ok sc) :
    TilesCalendar start end_ sc.steps = true := by
  obtain ⟨hlt, ht⟩ := make_tiles hs he hn hmk
  obtain ⟨c1, c2, c3, _, c5, _⟩ := Tiles.calendar (increaseDate_good u n hn) ht hs
  have hle : start.le end_ = true :=
    (le_iff_ord hs.bounded he.bounded).mpr (Int.le_of_lt ((lt_iff_ord hs.bounded he.bounded).mp hlt))
  generalize sc.steps = L at *
  cases ht with
  | nil h => rw [hle] at h; cases h
  | cons _ _ =>
    simp only [TilesCalendar, firstStartOK, beq_self_eq_true, c1, c2, c3, c5 (by simp), Bool.and_self]

/-- Consequently each valid date from the first start to the last end belongs to exactly one
    step, the one the date lookup returns; every other date is rejected with `invalid_argument`.
    Stated for *any* step list satisfying the tiling predicate, so it applies verbatim to the
    list the implementation produced once the driver has evaluated `TilesCalendar` on it. -/
theorem C07_partition (start end_ : Date) (steps : List Step)
    (h : TilesCalendar start end_ steps = true) (x : Date) (hx : x.Valid) :
    (∀ (j k : Nat) (s1 s2 : Step), steps[j]? = some s1 → steps[k]? = some s2 →
        s1.contains x = true → s2.contains x = true → j = k) ∧
    (∀ (k : Nat) (st : Step), steps[k]? = some st → st.contains x = true →
        scheduleActionDate steps x = .ok k) ∧
    (∀ a b : Step, steps.head? = some a → steps.getLast? = some b →
        a.s.ord ≤ x.ord → x.ord ≤ b.e.ord →
        ∃ (k : Nat) (st : Step), steps[k]? = some st ∧ st.contains x = true) ∧
    ((∀ st ∈ steps, st.contains x = false) → scheduleActionDate steps x = .error .invalid_argument) := by
  obtain ⟨hwf, hc⟩ := tiles_chain h
  have hdisj : ∀ (j k : Nat) (s1 s2 : Step), steps[j]? = some s1 → steps[k]? = some s2 →
      s1.contains x = true → s2.contains x = true → j = k := fun j k s1 s2 h1 h2 c1 c2 =>
    Nat.le_antisymm (chain_ordered steps hwf hc x x hx hx (Int.le_refl _) j k s1 s2 h1 h2 c1 c2)
      (chain_ordered steps hwf hc x x hx hx (Int.le_refl _) k j s2 s1 h2 h1 c2 c1)
  obtain ⟨l1, -, l3⟩ := lookup_first x steps 0
  refine ⟨hdisj, ?_, ?_, ?_⟩
  · intro k st hk hcon
    obtain ⟨j', _, heq⟩ := l3 k st hk hcon
    obtain ⟨j2, st2, e1, e2, e3⟩ := l1 _ heq
    have : j2 = k := hdisj j2 k st2 st e2 hk e3 hcon
    unfold scheduleActionDate; rw [heq]; congr 1; omega
  · intro a b ha hb h1 h2
    exact chain_cover steps hwf hc x hx a b ha hb h1 h2
  · intro hnone
    rw [scheduleActionDate, scheduleActionDateAux_eq, List.findIdx?_eq_none_iff.mpr hnone]

/-- Year rule. With day steps of n days (1 ≤ n ≤ 28) and with steps of one week (taken as n = 7
    days) every generated step is n days long inside one calendar year, unless the following step would begin within the
    last n (n+1 in leap years) days of the year; then it is merged and the next step starts on
    1 January. Holds for every year (no 400-year bound). -/
theorem C07_day_steps (start end_ : Date) (u : StepUnit) (n : Nat) (sc : Scheduler)
    (hs : start.Valid) (he : end_.Valid) (hn : StepOK u n)
    (hu : u = .day ∨ (u = .week ∧ n = 1))
    (hmk : Scheduler.make start end_ u n = .ok sc) :
    dayStepsOK (if u = .day then (n : Int) else 7) sc.steps = true := by
  obtain ⟨_, ht⟩ := make_tiles hs he hn hmk
  obtain ⟨c1, _, _, _, _, c6⟩ := Tiles.calendar (increaseDate_good u n hn) ht hs
  unfold dayStepsOK
  rw [List.all_eq_true]
  intro st hst
  rw [c6 st hst]
  have hv : st.s.Valid := ((stepWF_iff st).mp ((List.all_eq_true.mp c1) st hst)).1
  rcases hu with hd | ⟨hw, h1⟩
  · subst hd
    simp only [if_true, increaseDate]
    exact incDays_dayStepOK st.s n hv (by have := hn.1; omega) (by have := hn.2 rfl; omega)
  · subst hw; subst h1
    have : (StepUnit.week = StepUnit.day) = False := by simp
    simp only [this, if_false, increaseDate, iter]
    rw [incWeek_eq_incDays st.s hv]
    exact incDays_dayStepOK st.s 7 hv (by omega) (by omega)

/-- The hypotheses are satisfiable by non-trivial schedulers; includes the November start that
    the unrepaired code got wrong (F9). -/
example : (match Scheduler.make ⟨2019, 11, 25⟩ ⟨2020, 3, 1⟩ .day 20 with
    | .ok sc => sc.steps.map (fun st => (st.s.m, st.s.d, st.e.m, st.e.d)) | .error _ => []) =
    [(11, 25, 12, 31), (1, 1, 1, 20), (1, 21, 2, 9), (2, 10, 2, 29), (3, 1, 3, 20)] := by decide
example : (⟨2019, 11, 25⟩ : Date).Valid ∧ StepOK .day 20 := by
  refine ⟨by decide, by decide, ?_⟩; intro _; decide

/-- Month steps: from the first of a month the successor is the first of the following month (valid,
    again a first), so a step of n months consists of n whole calendar months, for every year. -/
theorem C07_month_step (t : Date) (hv : t.Valid) (h1 : t.d = 1) :
    t.increasedByMonth = nextMonthStart t ∧ (nextMonthStart t).Valid ∧ (nextMonthStart t).d = 1 := by
  have e : t.increasedByMonth = nextMonthStart t := by
    obtain ⟨m1, m12, -, -⟩ := hv
    by_cases hm : t.m = 12
    · simp [Date.increasedByMonth, nextMonthStart, hm, h1]
    · have := dim_ge (isLeap t.y) (t.m + 1) (by omega) (by omega)
      simp only [Date.increasedByMonth, nextMonthStart, if_neg hm, if_neg (show ¬ t.m + 1 > 12 by omega), h1,
        if_neg (show ¬ 1 > dim (isLeap t.y) (t.m + 1) by omega)]
  obtain ⟨v, -, d⟩ := incMonth_spec t hv
  exact ⟨e, e ▸ v, e ▸ d h1⟩

theorem C07_month_steps (n : Nat) (t : Date) (hv : t.Valid) (h1 : t.d = 1) :
    iter Date.increasedByMonth n t = iter nextMonthStart n t ∧ (iter nextMonthStart n t).Valid ∧ (iter nextMonthStart n t).d = 1 := by
  induction n generalizing t with
  | zero => exact ⟨rfl, hv, h1⟩
  | succ k ih =>
    obtain ⟨e, v, d⟩ := C07_month_step t hv h1
    have := ih (nextMonthStart t) v d
    simp only [iter] at *
    rw [e]; exact this

example : iter Date.increasedByMonth 3 ⟨2019, 11, 1⟩ = ⟨2020, 2, 1⟩ := by decide

end Pops