/-
  C17  Pest overpopulation moves and host moves follow their stated rules.
-/
import PopsModel.Model.Actions
import PopsModel.Lemmas.Actions
namespace Pops

/-- The departure rule: at least two infected hosts and infected / (susceptible + infected)
    at or above the threshold. -/
theorem C17_departure_rule (thr : Rat) (c : Cell) :
    departs thr c = true ↔ (2 ≤ c.i ∧ thr ≤ (c.i : Rat) / ((c.s + c.i : Int) : Rat)) := act_departs_iff thr c

/-- round(infected x leaving share) pests leave; for a share in [0,1] never more than present;
    the source's infected turn susceptible. -/
theorem C17_leaving (leaving : Rat) (c : Cell) (h0 : 0 ≤ leaving) (h1 : leaving ≤ 1) (hi : 0 ≤ c.i) :
    0 ≤ leavingCount leaving c ∧ leavingCount leaving c ≤ c.i ∧
    (c.pestsFrom (leavingCount leaving c)).1.i = c.i - leavingCount leaving c ∧
    (c.pestsFrom (leavingCount leaving c)).1.s = c.s + leavingCount leaving c ∧
    (c.pestsFrom (leavingCount leaving c)).2 = leavingCount leaving c := by
  have h := lround_share hi h0 h1
  exact ⟨h.1, h.2, rfl, rfl, rfl⟩

/-- At the destination as many establish as there are susceptible hosts, the rest die. The
    three equations hold for all `c`, `k` (the meaningful domain is `0 ≤ c.s`, `0 ≤ k`; `pests_to`
    does the same integer arithmetic outside it). -/
theorem C17_arrival (c : Cell) (k : Int) :
    (c.pestsTo k).2 = min k c.s ∧ (c.pestsTo k).1.i = c.i + min k c.s ∧
    (c.pestsTo k).1.s = c.s - min k c.s := by
  exact act_pestsTo_min c k

/-- The first phase never lets a cell receive pests: after the departures every cell has at most
    its original infected count, non-departing cells are unchanged, and pending moves only
    target cells inside the study area. -/
theorem C17_two_phase (g : Grid) (thr leaving : Rat) (suit : List (Int × Int)) (cells : List Cell)
    (p : PestState) (ts : List (Int × Int)) (moves0 : List (Int × Int × Int))
    (h0 : 0 ≤ leaving) (h1 : leaving ≤ 1) (hn : ∀ c ∈ cells, 0 ≤ c.i) :
    let r := departGo g thr leaving suit cells p ts moves0
    r.1.length = cells.length ∧
    (∀ k : Nat, k < cells.length → (r.1[k]!).i ≤ (cells[k]!).i ∧
        (r.1[k]!).s + (r.1[k]!).i = (cells[k]!).s + (cells[k]!).i) ∧
    (∀ m ∈ r.2.2.2, m ∈ moves0 ∨ g.isOutside m.1 m.2.1 = false) ∧
    (∀ k : Nat, k < cells.length → departs thr (cells[k]!) = false → r.1[k]! = cells[k]!) := by
  induction suit generalizing cells p ts moves0 with
  | nil => exact ⟨rfl, fun k _ => ⟨Int.le_refl _, rfl⟩, fun m hm => Or.inl hm, fun k _ _ => rfl⟩
  | cons rc rest ih =>
    obtain ⟨r, c⟩ := rc
    by_cases hd : departs thr (cells[g.idx r c]!) = true
    · cases ts with
      | nil =>
        rw [act_departGo_exhausted _ _ _ _ _ _ _ _ _ hd]
        exact ⟨rfl, fun k _ => ⟨Int.le_refl _, rfl⟩, fun m hm => Or.inl hm, fun k _ _ => rfl⟩
      | cons t ts' =>
        obtain ⟨cells', p', moves', e, hn', hlen, hstep, hne, hm⟩ :=
          act_departGo_depart g thr leaving h0 h1 r c t rest cells p ts' moves0 hn hd
        rw [e]
        obtain ⟨a1, a2, a3, a4⟩ := ih cells' p' ts' moves' hn'
        rw [hlen] at a2 a4
        refine ⟨a1.trans hlen,
          fun k hk => ⟨Int.le_trans (a2 k hk).1 (hstep k).1, (a2 k hk).2.trans (hstep k).2⟩,
          fun m hm' => (a3 m hm').elim (hm m) Or.inr, fun k hk hdk => ?_⟩
        -- a non-departing cell is not the one just emptied
        have e' := hne k fun he => by rw [he, hd] at hdk; cases hdk
        rw [a4 k hk (e'.symm ▸ hdk), e']
    · rw [act_departGo_stay _ _ _ _ _ _ _ _ _ _ hd]
      exact ih cells p ts moves0 hn

/-- Pests sent outside the study area are recorded with their real coordinates, one entry per
    pest, and nothing else is recorded. -/
theorem C17_outside_recorded (g : Grid) (thr leaving : Rat) (r c : Int) (cells : List Cell)
    (p : PestState) (t : Int × Int) (hd : departs thr (cells[g.idx r c]!) = true) :
    let res := departGo g thr leaving [(r, c)] cells p [t] []
    (g.isOutside t.1 t.2 = true →
      res.2.1.outside = p.outside ++ List.replicate (leavingCount leaving (cells[g.idx r c]!)).toNat t ∧ res.2.2.2 = []) ∧
    (g.isOutside t.1 t.2 = false →
      res.2.1.outside = p.outside ∧ res.2.2.2 = [(t.1, t.2, leavingCount leaving (cells[g.idx r c]!))]) := by
  intro res
  constructor
  · intro ho
    rw [show res = _ from act_departGo_out g thr leaving r c t.1 t.2 [] cells p [] [] hd ho]
    exact ⟨rfl, rfl⟩
  · intro ho
    rw [show res = _ from act_departGo_in g thr leaving r c t.1 t.2 [] cells p [] [] hd ho]
    exact ⟨rfl, rfl⟩

/-- Host movement cursor: the rows applied at a step are exactly the maximal run of consecutive
    rows from the cursor whose scheduled step equals the step; the cursor never moves back. -/
theorem C17_movement_rows (schedule : List Nat) (last step : Nat) (hl : last ≤ schedule.length) :
    let r := movementRows schedule last step
    last ≤ r.2 ∧ r.2 ≤ schedule.length ∧
    r.1 = (List.range (r.2 - last)).map (· + last) ∧
    (∀ i, last ≤ i → i < r.2 → schedule[i]! = step) ∧
    (r.2 < schedule.length → schedule[r.2]! ≠ step) := by
  intro r
  obtain ⟨j, e, h⟩ := act_movementRows_eq schedule last step hl
  rw [show r = _ from e, act_range'_eq_map_add]
  exact ⟨h.1, h.2.1, rfl, h.2.2⟩

/-- Each row of the movement table is applied exactly once, at its scheduled step and in table
    order: for a non-decreasing schedule whose entries are spread steps (or lie beyond the run),
    over the increasing list `steps` of spread steps the applied rows are, in table order, exactly
    the rows scheduled at one of these steps, each at its own step. -/
theorem C17_movement_once (schedule : List Nat) (steps : List Nat)
    (hmono : ∀ i j, i ≤ j → j < schedule.length → schedule[i]! ≤ schedule[j]!)
    (hsteps : steps.Pairwise (· < ·))
    (hsched : ∀ i, i < schedule.length → schedule[i]! ∈ steps ∨ ∀ s ∈ steps, s < schedule[i]!) :
    let run := movementRunOn schedule steps 0
    (run.flatMap (·.2)) = (List.range schedule.length).filter (fun i => decide (schedule[i]! ∈ steps)) ∧
    (∀ e ∈ run, ∀ i ∈ e.2, schedule[i]! = e.1) ∧ run.map (·.1) = steps := by
  have h := act_movementRunOn_facts schedule hmono steps 0 (Nat.zero_le _) hsteps (fun i _ hi => hsched i hi)
  rw [Nat.sub_zero, ← List.range_eq_range'] at h
  exact h

/-- min(requested, hosts present) hosts move, together with their class and cohort membership.
    (`0 ≤ count` is not a hypothesis: a valid class draw `hd` exists only for a non-negative count.) -/
theorem C17_movement_amount (src dst : Cell) (count : Int) (d : ClassDraw) (dE dM : List Int)
    (hn : src.nonNeg = true) (ht : src.totalsOK = true)
    (hd : validClassDrawB src count d = true)
    (hE : d.e > 0 → ValidDraw src.e d.e dE) (hM : d.i > 0 → ValidDraw src.mort d.i dM)
    (hlenE : dst.e.length = src.e.length) (hlenM : dst.mort.length = src.mort.length) :
    let r := moveHosts src dst count d dE dM
    r.2.2 = min count src.hosts ∧ src.hosts - r.1.hosts = min count src.hosts ∧
    r.2.1.hosts - dst.hosts = min count src.hosts ∧
    addL r.1.e r.2.1.e = addL src.e dst.e ∧ addL r.1.mort r.2.1.mort = addL src.mort dst.mort := by
  intro r
  have hg := good_of_bool hn ht
  have hc := classDraw_of_bool hd
  obtain ⟨hdomE, hsumE⟩ := eDelta_facts hg hc.e hE
  obtain ⟨hdomM, _⟩ := mDelta_facts hg hc.i hM
  obtain ⟨t1, t2⟩ := act_classDraw_total hg hc
  obtain ⟨a1, a2⟩ := act_moveHosts_hosts src dst count d dE dM hdomE.length_eq hlenE
  rw [hsumE, t2] at a1 a2
  exact ⟨t1, a1, a2, act_addL_subL_addL _ _ _ hdomE.length_eq hlenE,
    act_addL_subL_addL _ _ _ hdomM.length_eq hlenM⟩

example : departs (1/2) ⟨1, [], 3, 0, 0, [3], 0, 4⟩ = true := by decide +kernel

end Pops
