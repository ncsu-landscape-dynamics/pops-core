/-
  C17 (kernel part)  The pest overpopulation move draws its destination with the natural kernel
  rescaled by `leaving_scale_coefficient`.
  `Model::create_overpopulation_movement_kernel` (model.hpp) is modelled by
  `createOverpopulationKernel` (Model/Kern.lean); the host-pool side of C17 is in Props/C17.lean.
-/
import PopsModel.Props.C13
namespace Pops

/-- The switch kernel built for the overpopulation move: the selector is the natural kernel type
    and the configured stochasticity; the radial and the deterministic member have scale
    `natural_scale * leaving_scale_coefficient` and otherwise the natural kernel's type, shape,
    direction, kappa, dispersal percentage and the two resolutions each in its own slot; the
    uniform member is the one of `rows x cols`, the neighbour member points in the natural
    direction, the network member walks between the configured distances. -/
theorem C17_overpopulation_kernel_scale (c : KernelConfig) (coef : Rat) (k : OverpopKernelDesc)
    (h : createOverpopulationKernel c coef = .ok k) :
    ∃ t d, kernelTypeFromString c.naturalKernelType = .ok t ∧
      directionFromString c.naturalDirection = .ok d ∧
      k.type = t ∧ k.stochastic = c.dispersalStochasticity ∧
      k.radial = .radial c.ewRes c.nsRes t (c.naturalScale * coef) d c.naturalKappa c.shape ∧
      k.deterministic = .deterministic t c.dispersalPercentage c.ewRes c.nsRes (c.naturalScale * coef) c.shape ∧
      k.uniform = .uniform c.rows c.cols ∧
      k.neighbor = .neighbor d ∧
      k.network = .networkWalk c.networkMinDistance c.networkMaxDistance false ∧
      (t.law?.isSome = true → k.selected = if c.dispersalStochasticity then k.radial else k.deterministic) := by
  rw [createOverpopulationKernel_eq] at h
  split at h
  · next t _ d _ h1 _ h3 _ =>
    split at h
    · cases h
      refine ⟨t, d, h1, h3, rfl, rfl, rfl, rfl, rfl, rfl, rfl, fun hl => ?_⟩
      obtain ⟨n1, n2, n3, _⟩ := (law_isSome_iff t).mp hl
      simp only [OverpopKernelDesc.selected, switchSelect, n1, n2, n3, if_false]
      cases c.dispersalStochasticity <;> rfl
    · cases h
  · cases h

/-- A bad scale (non-positive after rescaling) or shape, or an unknown kernel / direction name of
    either kernel, is rejected: the radial member is constructed for every configuration. -/
theorem C17_overpopulation_kernel_rejects (c : KernelConfig) (coef : Rat)
    (h : radialCtorOk (c.naturalScale * coef) c.shape = false) :
    createOverpopulationKernel c coef = .error .invalid_argument := by
  rw [createOverpopulationKernel_eq]
  split
  · rw [h, if_neg Bool.false_ne_true]
  · rfl

/-- With `leaving_scale_coefficient = 1`, a radial law and dispersal stochasticity on, the
    overpopulation kernel is exactly the natural kernel `create_natural_kernel` builds. -/
theorem C17_overpopulation_kernel_is_natural (c : KernelConfig) (k : OverpopKernelDesc)
    (h : createOverpopulationKernel c 1 = .ok k) (hl : k.type.law?.isSome = true)
    (hs : c.dispersalStochasticity = true) :
    createNaturalKernel c = .ok k.selected := by
  obtain ⟨t, d, ht, hd, hkt, _, hr, _, _, _, _, hsel⟩ := C17_overpopulation_kernel_scale c 1 k h
  rw [hkt] at hl
  rw [hsel hl, hs, if_pos rfl, hr, Rat.mul_one]
  have hok : radialCtorOk c.naturalScale c.shape = true := by
    cases hb : radialCtorOk (c.naturalScale * 1) c.shape with
    | true => rwa [Rat.mul_one] at hb
    | false => rw [C17_overpopulation_kernel_rejects c 1 hb] at h; cases h
  exact createNatural_radial c t d ht hl hs hd hok

/-- With the uniform natural kernel the overpopulation move uses the uniform member, and every
    destination it can draw is a cell of the `rows x cols` landscape, every cell being the
    destination of exactly one pair of draws (`C13_uniform_in_landscape`). -/
theorem C17_overpopulation_uniform_range (c : KernelConfig) (coef : Rat) (k : OverpopKernelDesc)
    (h : createOverpopulationKernel c coef = .ok k)
    (hu : kernelTypeFromString c.naturalKernelType = .ok .uniform) (row col : Int) :
    k.selected = .uniform c.rows c.cols ∧
    k.selected.uniformKernel? = some (UniformKernel.make c.rows c.cols) ∧
    (∀ dr dc, (UniformKernel.make c.rows c.cols).InRange dr dc →
        InLandscape c.rows c.cols ((UniformKernel.make c.rows c.cols).call row col dr dc)) ∧
    (∀ cell, InLandscape c.rows c.cols cell →
        ∃ dr dc, (UniformKernel.make c.rows c.cols).InRange dr dc ∧
          (UniformKernel.make c.rows c.cols).call row col dr dc = cell) := by
  obtain ⟨t, d, ht, _, hkt, _, _, _, hun, _, _, _⟩ := C17_overpopulation_kernel_scale c coef k h
  rw [hu] at ht; injection ht with ht
  have hsel : k.selected = .uniform c.rows c.cols := by
    simp only [OverpopKernelDesc.selected, switchSelect, hkt, ← ht, if_true, hun]
  have hC13 := C13_uniform_in_landscape c.rows c.cols row col
  exact ⟨hsel, by rw [hsel]; rfl, hC13.1, hC13.2.1⟩

example :
    let c : KernelConfig :=
      { rows := 3, cols := 7, ewRes := 30, nsRes := 10, dispersalStochasticity := true,
        dispersalPercentage := 99 / 100, shape := 2, naturalKernelType := "weibull", naturalScale := 5,
        naturalDirection := "NE", naturalKappa := 3, useAnthropogenicKernel := false,
        percentNaturalDispersal := 1, anthroKernelType := "none", anthroScale := 1, anthroDirection := "none",
        anthroKappa := 0, networkMovement := "", networkMinDistance := 0, networkMaxDistance := 0 }
    ∃ k, createOverpopulationKernel c 2 = .ok k ∧ k.selected = .radial 30 10 .weibull (5 * 2) .NE 3 2 := by
  intro c
  have h : (createOverpopulationKernel c 2).toOption.map (·.selected) =
      some (.radial 30 10 .weibull (5 * 2) .NE 3 2) := by decide +kernel
  cases hx : createOverpopulationKernel c 2 with
  | error e => rw [hx] at h; cases h
  | ok k => rw [hx] at h; exact ⟨k, rfl, Option.some.inj h⟩

end Pops
