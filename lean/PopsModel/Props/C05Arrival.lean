/-
  C05, the arrival half: in the SEI model a disperser that establishes during a spread step makes
  its host *exposed* (youngest exposed cohort), never infected, whichever arrival path is taken
  (`MultiHostPool::disperser_to` with "infect" or, for one host, "land"; both are the model's
  `Cell.landViaWrapper`).  The predicate `arrivalsStayExposed` is the one the driver evaluates on
  the observed before/after state of every `hp.spread` line of an SEI case.
-/
import PopsModel.Model.Actions
import PopsModel.Model.HostPred
import PopsModel.Lemmas.HostCell
namespace Pops

theorem arrivalsStayExposed_iff {a b : Cell} : arrivalsStayExposed a b = true ↔
    b.i = a.i ∧ b.mort = a.mort ∧ b.e.dropLast = a.e.dropLast ∧ b.te - a.te = a.s - b.s ∧
      sumL b.e - sumL a.e = a.s - b.s := by
  simp only [arrivalsStayExposed, Bool.and_eq_true, decide_eq_true_eq, and_assoc]

/-- One landing in the SEI model: infected and mortality cohorts are untouched, older exposed
    cohorts are untouched, and the youngest exposed cohort grows by the susceptible consumed. -/
theorem C05_arrival_stays_exposed (c c' : Cell) (env : EnvCell) (sto : Bool) (pEst u : Rat) (res : Int) (used : Nat)
    (he : c.e ≠ []) (h : c.landViaWrapper .sei env sto pEst u = .ok (c', res, used)) :
    arrivalsStayExposed c c' = true := by
  have hself : arrivalsStayExposed c c = true :=
    arrivalsStayExposed_iff.mpr ⟨rfl, rfl, rfl, by omega, by omega⟩
  -- the wrapper either leaves the cell alone or is `add_disperser_at`
  have hc : c' = c ∨ c' = (c.addDisperserAt .sei).1 := by
    obtain ⟨p, -, h⟩ := except_bind_ok h
    split at h
    · injection h with h; injection h with h; exact .inl h.symm
    · exact disperserTo_cases h
  rcases hc with rfl | rfl
  · exact hself
  · unfold Cell.addDisperserAt
    split
    · exact hself
    · have := sumL_addLast 1 he
      exact arrivalsStayExposed_iff.mpr ⟨rfl, rfl, dropLast_addLast _ _, by dsimp only; omega, by dsimp only; omega⟩

/-- The predicate composes, so it holds for any number of landings on a cell during one spread
    step (and for the whole step, cell by cell). -/
theorem C05_arrivals_compose (a b c : Cell) (h1 : arrivalsStayExposed a b = true) (h2 : arrivalsStayExposed b c = true) :
    arrivalsStayExposed a c = true := by
  have chain {x y z p q r : Int} (h1 : y - x = p - q) (h2 : z - y = q - r) : z - x = p - r := by
    omega
  obtain ⟨a1, a2, a3, a4, a5⟩ := arrivalsStayExposed_iff.mp h1
  obtain ⟨b1, b2, b3, b4, b5⟩ := arrivalsStayExposed_iff.mp h2
  exact arrivalsStayExposed_iff.mpr ⟨b1.trans a1, b2.trans a2, b3.trans a3, chain a4 b4, chain a5 b5⟩

/-- Non-vacuity: a real establishment (the step `landViaWrapper` takes when the test passes), and
    the predicate rejects the state a direct infection would leave. -/
example : (⟨5, [1, 0, 2], 3, 0, 3, [3], 0, 11⟩ : Cell).addDisperserAt .sei = (⟨4, [1, 0, 3], 3, 0, 4, [3], 0, 11⟩, 1) := by decide
example : arrivalsStayExposed ⟨5, [1, 0, 2], 3, 0, 3, [3], 0, 11⟩ ⟨4, [1, 0, 3], 3, 0, 4, [3], 0, 11⟩ = true := by decide
example : arrivalsStayExposed ⟨5, [1, 0, 2], 3, 0, 3, [3], 0, 11⟩ ⟨4, [1, 0, 2], 4, 0, 3, [3], 0, 11⟩ = false := by decide

end Pops
