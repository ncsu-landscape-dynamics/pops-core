/-
  C04  Every disperser comes from infection and is accounted for exactly once.
-/
import PopsModel.Model.Actions
import PopsModel.Lemmas.Actions
namespace Pops

/-- A cell without infected hosts produces no dispersers; with stochastic generation off a cell
    produces round(infected x lambda), lambda = reproductive rate x weather x competency. -/
theorem C04_generation (c : Cell) (lam : Rat) :
    (c.i ≤ 0 → c.dispersersFromDet lam = 0) ∧
    (0 < c.i → c.dispersersFromDet lam = lround (lam * c.i)) ∧
    (0 ≤ lam → 0 ≤ c.dispersersFromDet lam) := by
  unfold Cell.dispersersFromDet
  refine ⟨fun h => if_pos h, fun h => if_neg (by omega), fun h => ?_⟩
  split
  · exact Int.le_refl 0
  · exact lround_nonneg (Rat.mul_nonneg h (intCast_nonneg (by omega)))

/-- With soils the produced dispersers split exactly into a soil share and a dispersing share,
    both non-negative. -/
theorem C04_soil_split (pct : Rat) (x : Int) (h0 : 0 ≤ pct) (h1 : pct ≤ 1) (hx : 0 ≤ x) :
    0 ≤ soilShare (some pct) x ∧ soilShare (some pct) x ≤ x ∧
    soilShare (some pct) x + (x - soilShare (some pct) x) = x ∧ soilShare none x = 0 := act_soilShare_facts pct x h0 h1 hx

/-- Soil-held dispersers age out: after as many soil steps as there are cohorts nothing that was
    stored before is left, whatever is released in between (releases only decrease cohorts). -/
theorem C04_soil_ages_out (cohorts : List Int) (release : List Int → List Int)
    (hrel : ∀ l : List Int, (release l).length = l.length ∧
        ∀ k : Nat, k < l.length → 0 ≤ l[k]! → (0 ≤ (release l)[k]! ∧ (release l)[k]! ≤ l[k]!))
    (hn : ∀ x ∈ cohorts, 0 ≤ x) :
    ∀ x ∈ iter (fun l => soilNext (release l)) cohorts.length cohorts, x = 0 := by
  have key : ∀ j : Nat, act_SoilInv cohorts.length j (iter (fun l => soilNext (release l)) j cohorts) := by
    intro j
    induction j with
    | zero => exact ⟨rfl, hn, fun k hk hj => absurd hk (Nat.not_lt.mpr hj)⟩
    | succ j ih =>
      rw [iter_succ_outer]
      exact act_soilInv_next (act_soilInv_release release hrel ih)
  obtain ⟨k1, _, k3⟩ := key cohorts.length
  intro x hx
  obtain ⟨k, hk, rfl⟩ := List.mem_iff_getElem.mp hx
  rw [← getElem!_pos _ k hk]
  exact k3 k (k1 ▸ hk) (Nat.le_add_left ..)

/-- Each dispersing individual either is recorded with its real coordinates as having left the
    study area (hosts unchanged), or establishes, turning exactly one susceptible host of its
    target cell into an exposed / infected host, or is lost (hosts unchanged). -/
theorem C04_each_disperser_once (g : Grid) (env : DisperseEnv) (cells cells' : List Cell)
    (p p' : PestState) (t : Int × Int) (us us' : List Rat) (ok : Bool)
    (hdom : env.mt = .sei → ∀ c ∈ cells, c.e ≠ [])
    (h : landOne g env cells p t us = .ok (cells', p', ok, us')) :
    (g.isOutside t.1 t.2 = true → cells' = cells ∧ p'.outside = p.outside ++ [t] ∧ ok = false) ∧
    (g.isOutside t.1 t.2 = false → p' = p ∧ cells'.length = cells.length ∧
      (∀ k : Nat, k ≠ g.idx t.1 t.2 → cells'[k]? = cells[k]?) ∧
      (ok = true → (cells'[g.idx t.1 t.2]!).s = (cells[g.idx t.1 t.2]!).s - 1 ∧
          (cells'[g.idx t.1 t.2]!).hosts = (cells[g.idx t.1 t.2]!).hosts) ∧
      (ok = false → cells' = cells)) ∧
    p'.disp = p.disp ∧ p'.est = p.est := by
  obtain ⟨tr, tc⟩ := t
  obtain ⟨f1, f2⟩ := act_landOne_facts g env cells cells' p p' tr tc us us' ok h
  cases ho : g.isOutside tr tc with
  | true =>
    obtain ⟨rfl, rfl, rfl⟩ := f1 ho
    exact ⟨fun _ => ⟨rfl, rfl, rfl⟩, nofun, rfl, rfl⟩
  | false =>
    refine ⟨nofun, fun _ => ?_, ?_⟩
    · obtain ⟨rfl, ⟨rfl, rfl⟩ | ⟨rfl, b2, b3, rfl⟩⟩ := f2 ho
      · exact ⟨rfl, rfl, fun _ _ => rfl, nofun, fun _ => rfl⟩
      · have hp := act_addDisperserAt_pos env.mt (cells[g.idx tr tc]!) b3
        refine ⟨rfl, List.length_set, fun k hk => List.getElem?_set_ne (Ne.symm hk), fun _ => ?_, nofun⟩
        show ((cells.set _ _)[g.idx tr tc]!).s = _ ∧ ((cells.set _ _)[g.idx tr tc]!).hosts = _
        rw [act_getElem!_set_self _ _ b2]
        exact ⟨hp.2.1, hp.2.2 fun hm => hdom hm _ (act_getElem!_mem b2)⟩
    · obtain ⟨rfl, _⟩ := f2 ho
      exact ⟨rfl, rfl⟩

/-- Total susceptible hosts of a landscape. -/
def totalS (cells : List Cell) : Int := sumL (cells.map (·.s))

/-- The susceptible hosts consumed by the dispersers of one origin cell equal the increase of its
    established counter, which never exceeds the number of its dispersers; no other counter
    changes. Holds also when the cell list is shorter than the grid (in the C++ the rasters always
    cover the grid): a landing only succeeds at a cell of the landscape. -/
theorem C04_ledger_cell (g : Grid) (env : DisperseEnv) (origin n : Nat) (cells cells' : List Cell)
    (p p' : PestState) (ts ts' : List (Int × Int)) (us us' : List Rat)
    (ho : origin < p.est.length)
    (h : disperseCell g env origin n cells p ts us = .ok (cells', p', ts', us')) :
    totalS cells - totalS cells' = p'.est[origin]! - p.est[origin]! ∧
    0 ≤ p'.est[origin]! - p.est[origin]! ∧ p'.est[origin]! - p.est[origin]! ≤ n ∧
    p'.est.length = p.est.length ∧ (∀ k : Nat, k ≠ origin → p'.est[k]? = p.est[k]?) ∧
    p'.disp = p.disp ∧ ts.length - ts'.length ≤ n ∧ cells'.length = cells.length := by
  obtain ⟨m, m1, m2, m3, m4, m5, pre, m6, m7⟩ :=
    act_disperseCell_facts g env origin n cells cells' p p' ts ts' us us' ho h
  have e : p'.est[origin]! - p.est[origin]! = (m : Int) := by
    rw [m2, act_getElem!_set_self _ _ ho, Int.add_comm, Int.add_sub_cancel]
  rw [e, m2, m6, List.length_append, Nat.add_sub_cancel]
  exact ⟨m3, Int.natCast_nonneg m, Int.ofNat_le.mpr m1, List.length_set,
    fun k hk => List.getElem?_set_ne (Ne.symm hk), m4, m7, m5⟩

/-- Over a whole dispersal: the susceptible hosts consumed by spread equal the sum of the
    established dispersers. (No hypothesis that the targets index into the cell list is needed.) -/
theorem C04_ledger (g : Grid) (env : DisperseEnv) (suit : List (Int × Int)) (cells cells' : List Cell)
    (p p' : PestState) (ts ts' : List (Int × Int)) (us us' : List Rat)
    (hs : ∀ rc ∈ suit, g.idx rc.1 rc.2 < p.est.length)
    (h : disperseStep g env suit cells p ts us = .ok (cells', p', ts', us')) :
    totalS cells - totalS cells' = sumL p'.est - sumL p.est ∧ p'.disp = p.disp := by
  unfold disperseStep at h
  induction suit generalizing cells p ts us with
  | nil =>
    rw [act_disperseGo_nil] at h
    cases h
    exact ⟨(Int.sub_self _).trans (Int.sub_self _).symm, rfl⟩
  | cons rc rest ih =>
    obtain ⟨r, c⟩ := rc
    have ho : g.idx r c < p.est.length := hs (r, c) (List.mem_cons_self ..)
    cases hc : disperseCell g env (g.idx r c) (p.disp[g.idx r c]!).toNat cells p ts us with
    | error e => rw [act_disperseGo_step_err g env r c rest cells p ts us e hc] at h; cases h
    | ok q =>
      obtain ⟨cells1, p1, ts1, us1⟩ := q
      rw [act_disperseGo_step_ok g env r c rest cells p ts us cells1 p1 ts1 us1 hc] at h
      obtain ⟨m, _, m2, m3, m4, _, _⟩ := act_disperseCell_facts g env _ _ cells cells1 p p1 ts ts1 us us1 ho hc
      obtain ⟨a1, a2⟩ := ih cells1 p1 ts1 us1
        (fun rc hrc => by rw [m2, List.length_set]; exact hs rc (List.mem_cons_of_mem _ hrc)) h
      -- hosts consumed and counters raised, this cell and the rest, add up
      have hsum : sumL p1.est - sumL p.est = (m : Int) := by rw [m2]; exact act_sumL_set_add _ ho _
      have hhere : totalS cells - totalS cells1 = (m : Int) := m3
      refine ⟨?_, a2.trans m4⟩
      omega

example : totalS [⟨3, [], 0, 0, 0, [0], 0, 3⟩, ⟨2, [], 1, 0, 0, [1], 0, 3⟩] = 5 := by decide

end Pops
