/-
  C03  Derived totals always equal the sum of their parts.
-/
import PopsModel.Model.HostOps
import PopsModel.Lemmas.HostLists
import PopsModel.Lemmas.HostHistory
namespace Pops

/-- total_hosts = s + sum e + i + r and total_exposed = sum e are kept by every action. -/
theorem C03_totals_step (op : CellOp) (c c' : Cell) (hd : op.inDomain c)
    (hn : c.nonNeg = true) (ht : c.totalsOK = true) (h : op.apply c = .ok c') :
    c'.totalsOK = true :=
  (cellOp_facts op c c' hd (good_of_bool hn ht) h).good.totalsOK

/-- A host move keeps the derived totals of both cells. (`0 ≤ count` is not a hypothesis: a valid
    class draw `hd` exists only for a non-negative count; the length of the target's
    mortality-cohort list plays no role - in the C++ all cells share it.) -/
theorem C03_totals_move (src dst : Cell) (count : Int) (d : ClassDraw) (dE dM : List Int)
    (hs : src.nonNeg = true) (hts : src.totalsOK = true) (htd : dst.totalsOK = true)
    (hd : validClassDrawB src count d = true)
    (hE : d.e > 0 → ValidDraw src.e d.e dE) (hM : d.i > 0 → ValidDraw src.mort d.i dM)
    (hlenE : dst.e.length = src.e.length) :
    let r := moveHosts src dst count d dE dM
    r.1.totalsOK = true ∧ r.2.1.totalsOK = true :=
  have hg := good_of_bool hs hts
  have htd' := (totalsOK_iff dst).mp htd
  ⟨(move_src_facts (dst := dst) rfl hg hd hE hM).1.totalsOK,
    (totalsOK_iff _).mpr (move_dst_totals rfl hg hd hE hlenE htd'.1 htd'.2)⟩

/-- The extra hypothesis under which ratio treatments keep `i = sum mort` (finding F20). -/
def CellOp.roundingOK : CellOp → Cell → Prop
  | .simpleTreat coef .ratio, c => roundingAgrees rceil coef c = true
  | .pesticideTreat coef .ratio, c => roundingAgrees rfloor coef c = true
  | _, _ => True

/-- Full statement of the cohort part of C03 (false of the code and of the model: F20). -/
def C03_cohorts_full : Prop :=
  ∀ (op : CellOp) (c c' : Cell), op.inDomain c → c.nonNeg = true → c.totalsOK = true →
    c.mortOK = true → op.keepsCohorts = true → op.apply c = .ok c' → c'.mortOK = true

/-- Infected equals the sum of the mortality cohorts after every action except the
    overpopulation moves, provided ratio treatments round consistently (`roundingOK`). -/
theorem C03_cohorts_step_partial (op : CellOp) (c c' : Cell) (hd : op.inDomain c)
    (hn : c.nonNeg = true) (ht : c.totalsOK = true) (hm : c.mortOK = true)
    (hk : op.keepsCohorts = true) (hr : op.roundingOK c) (h : op.apply c = .ok c') :
    c'.mortOK = true :=
  (mortOK_iff c').mpr ((cellOp_step op c c' hd (good_of_bool hn ht) h).2 hk
    (fun _ he => by subst he; exact hr) (fun _ he => by subst he; exact hr) ((mortOK_iff c).mp hm))

/-- F20: the full statement fails; witness mort = [1,1], i = 2, coefficient 1/2, ratio removal. -/
theorem C03_cohorts_full_fails : ¬ C03_cohorts_full := fun hfull => by
  -- each cohort loses ceil(1/2) = 1, the infected total only ceil(2/2) = 1
  have r0 : rceil (((0 : Int) : Rat) * (1/2 : Rat)) = 0 := by decide +kernel
  have r1 : rceil (((1 : Int) : Rat) * (1/2 : Rat)) = 1 := by decide +kernel
  have r2 : rceil (((2 : Int) : Rat) * (1/2 : Rat)) = 1 := by decide +kernel
  have w : (CellOp.simpleTreat (1/2) .ratio).apply ⟨0, [], 2, 0, 0, [1, 1], 0, 2⟩ =
      .ok ⟨0, [], 1, 0, 0, [0, 0], 0, 1⟩ := by
    simp only [CellOp.apply, Cell.simpleTreat, getTreated, List.map, r0, r1, r2]
    rfl
  exact absurd (hfull (.simpleTreat (1/2) .ratio) _ _ half_in_unit (by decide) (by decide) (by decide) rfl w) (by decide)

/-- Mortality can account for every infected host: from a consistent cell it never fails.
    `hl : 0 ≤ lag` is not used by the proof (the model reads a cohort index beyond the list as 0)
    but is kept on purpose: with a negative lag `apply_mortality_at` indexes
    `mortality_tracker_vector_` beyond its size (undefined behaviour), so "never fails" would be
    a false claim about the code there. -/
theorem C03_mortality_never_fails (c : Cell) (rate : Rat) (lag : Int)
    (hr : 0 ≤ rate ∧ rate ≤ 1) (hl : 0 ≤ lag)
    (hn : c.nonNeg = true) (ht : c.totalsOK = true) (hm : c.mortOK = true) :
    ∃ c', (CellOp.mortality rate lag).apply c = .ok c' :=
  have _ := hl  -- domain of the C++ (see the doc comment), not needed by the model
  have hg := good_of_bool hn ht
  have ⟨c1, h1⟩ := applyMortality_ok hr.1 hr.2 lag c hg.nn.mort ((mortOK_iff c).mp hm) hg.i_le_th
  ⟨c1.stepForwardMortality, by simp only [CellOp.apply, h1, Except.map]⟩

theorem C03_cohorts_move (src dst : Cell) (count : Int) (d : ClassDraw) (dE dM : List Int)
    (hs : src.nonNeg = true) (hts : src.totalsOK = true) (hms : src.mortOK = true) (hmd : dst.mortOK = true)
    (hd : validClassDrawB src count d = true)
    (hM : d.i > 0 → ValidDraw src.mort d.i dM)
    (hlenM : dst.mort.length = src.mort.length) :
    let r := moveHosts src dst count d dE dM
    r.1.mortOK = true ∧ r.2.1.mortOK = true :=
  have hf := move_mort_facts (dE := dE) rfl (good_of_bool hs hts) hd hM hlenM
    ((mortOK_iff src).mp hms) ((mortOK_iff dst).mp hmd)
  ⟨(mortOK_iff _).mpr hf.1, (mortOK_iff _).mpr hf.2⟩

end Pops
