/-
  C01, the removed amount accounted for independently.

  In Model/HostOps.lean `LandOp.removed op pre post` is DEFINED as `pre.hosts - post.hosts` for a
  host-removal treatment, so for removal steps the ledger equation of `C01_history`,
  `C01_generators`, `C01_model_step` and `C01_run` holds by definition. Here the removed amount is
  computed from the treatment coefficient, the application mode and the PRE-state only
  (`removedBySpec`: the shares C10 states), and the ledger equations are re-proved with it.
  Helpers carry the prefix `c01led_`; `removalShare_eq_mech_sh` ties the account's share to the
  share `simpleTreat` computes.
-/
import PopsModel.Props.RunModel
import PopsModel.Props.C10
import PopsModel.Props.NonVacuous.Host
namespace Pops

/-- The share of `x` hosts a removal treatment takes (C10): by ratio rounded up, or - application
    "all infected" - everything when the coefficient is non-zero. -/
def removalShare (coef : Rat) (app : TreatApp) (x : Int) : Int :=
  match app with
  | .ratio => rceil ((x : Rat) * coef)
  | .allInfected => if coef ≠ 0 then x else 0

/-- Hosts a removal treatment with coefficient `coef` takes out of cell `c`: the share rounded up of the
    susceptible (always by ratio), the share of every exposed cohort, the share of the infected. -/
def removedBySpec (coef : Rat) (app : TreatApp) (c : Cell) : Int :=
  rceil ((c.s : Rat) * coef) + sumL (c.e.map (removalShare coef app)) + removalShare coef app c.i

/-- What a removal treatment takes out of the landscape, read off the PRE-state only. -/
def LandOp.removedSpec (op : LandOp) (pre : Land) : Int :=
  match op with
  | .at k (.simpleTreat coef app) =>
    match pre[k]? with
    | some c => removedBySpec coef app c
    | none => 0
  | _ => 0

/-- Same recursion as `removedAlong`, each action's amount computed from the state it finds. -/
def removedSpecAlong : List LandOp → Land → Int
  | [], _ => 0
  | op :: rest, l =>
    match op.apply l with
    | .ok l' => op.removedSpec l + removedSpecAlong rest l'
    | .error _ => 0

/-- Same recursion as `removedByGens`. -/
def removedSpecByGens : List OpGen → Land → Int
  | [], _ => 0
  | gen :: rest, l =>
    match runOps (gen l) l with
    | .ok l' => removedSpecAlong (gen l) l + removedSpecByGens rest l'
    | .error _ => 0

/-- Same recursion as `removedByRun`. -/
def removedSpecByRun (cfg : StepCfg) : List StepInputs → Nat → Land → Int
  | [], _, _ => 0
  | inp :: rest, step, l =>
    match runStepHosts cfg inp step l with
    | .ok l' => removedSpecByGens (stepGens cfg inp step) l + removedSpecByRun cfg rest (step + 1) l'
    | .error _ => 0

theorem removalShare_eq_mech_sh (coef : Rat) (app : TreatApp) :
    removalShare coef app = mech_sh rceil coef app := by
  funext x
  cases app with
  | ratio => rfl
  | allInfected => exact (mech_sh_all_ceil coef x).symm

/-- What `completelyRemove` does to the host count, whenever it succeeds: the susceptible amount
    counts only when positive, the exposed amounts always, the infected amount only when positive. -/
theorem c01led_completelyRemove_hosts (c c' : Cell) (sR : Int) (eR : List Int) (iR : Int)
    (mR : List Int) (h : c.completelyRemove sR eR iR mR = .ok c') :
    c.hosts - c'.hosts = (if sR > 0 then sR else 0) + sumL eR + (if iR ≤ 0 then 0 else iR) := by
  obtain ⟨hl, hs, he, hi, hr⟩ := completelyRemove_ok h
  rw [Cell.hosts, Cell.hosts, hs, he, hi, hr, sumL_subL hl]
  generalize (if sR > 0 then sR else 0) = a
  generalize (if iR ≤ 0 then 0 else iR) = b
  grind

/-- The host count after a successful removal treatment, with the two guards of
    `completely_remove_hosts_at` explicit. -/
theorem c01led_simpleTreat_hosts (coef : Rat) (app : TreatApp) (c c' : Cell)
    (h : c.simpleTreat coef app = .ok c') :
    c.hosts - c'.hosts =
      (if rceil ((c.s : Rat) * coef) > 0 then rceil ((c.s : Rat) * coef) else 0) +
      sumL (c.e.map (removalShare coef app)) +
      (if removalShare coef app c.i ≤ 0 then 0 else removalShare coef app c.i) := by
  rw [removalShare_eq_mech_sh]
  exact c01led_completelyRemove_hosts c c' _ _ _ _ h


theorem c01led_share_nonneg (coef : Rat) (app : TreatApp) (x : Int) (h0 : 0 ≤ coef) (hx : 0 ≤ x) :
    0 ≤ removalShare coef app x := by
  cases app with
  | ratio => exact rceil_nonneg (Rat.mul_nonneg (intCast_nonneg hx) h0)
  | allInfected => simp only [removalShare]; split <;> omega

/-- The exact condition: after a successful removal treatment the cell has lost `removedBySpec` hosts
    IF AND ONLY IF neither of the two amounts that `completely_remove_hosts_at` guards (`> 0` for the
    susceptible, `<= 0` for the infected) is negative. No hypothesis on the cell or the coefficient. -/
theorem C01_removed_cell_iff (coef : Rat) (app : TreatApp) (c c' : Cell)
    (h : c.simpleTreat coef app = .ok c') :
    c.hosts - c'.hosts = removedBySpec coef app c ↔
      (0 ≤ rceil ((c.s : Rat) * coef) ∧ 0 ≤ removalShare coef app c.i) := by
  rw [c01led_simpleTreat_hosts coef app c c' h]
  unfold removedBySpec
  generalize rceil ((c.s : Rat) * coef) = a
  generalize removalShare coef app c.i = b
  -- each guard replaces a negative amount by 0, and only then departs from the account
  grind

/-- A removal treatment that succeeds takes exactly `removedBySpec coef app c` hosts out of the cell -
    an amount computed from the coefficient, the application mode and the cell BEFORE the treatment.
    Needed: `0 ≤ coef`, `0 ≤ c.s`, `0 ≤ c.i` (each is necessary: `C01_removed_cell_s_counterexample`,
    `C01_removed_cell_i_counterexample`, `C01_removed_cell_coef_counterexample`).
    NOT needed: `coef ≤ 1`; of `nonNeg` the parts on the exposed cohorts, `r`, `te`, the mortality
    cohorts, `died`, `th`; `totalsOK`; `mortOK` (the mortality cohorts only decide whether the
    treatment succeeds, not how many hosts it takes). -/
theorem C01_removed_cell (coef : Rat) (app : TreatApp) (c c' : Cell)
    (h0 : 0 ≤ coef) (hs : 0 ≤ c.s) (hi : 0 ≤ c.i) (h : c.simpleTreat coef app = .ok c') :
    c.hosts - c'.hosts = removedBySpec coef app c :=
  (C01_removed_cell_iff coef app c c' h).mpr
    ⟨rceil_nonneg (Rat.mul_nonneg (intCast_nonneg hs) h0), c01led_share_nonneg coef app c.i h0 hi⟩

/-- `0 ≤ c.s` is necessary: one susceptible host "owed", coefficient 1 - the treatment succeeds, takes
    nothing (the guard `sRem > 0` skips the subtraction), the account says -1. -/
theorem C01_removed_cell_s_counterexample :
    ∃ (coef : Rat) (app : TreatApp) (c c' : Cell), 0 ≤ coef ∧ coef ≤ 1 ∧ 0 ≤ c.i ∧
      c.simpleTreat coef app = .ok c' ∧ c.hosts - c'.hosts = 0 ∧ removedBySpec coef app c = -1 :=
  ⟨1, .ratio, ⟨-1, [], 0, 0, 0, [], 0, -1⟩, ⟨-1, [], 0, 0, 0, [], 0, -1⟩, by decide +kernel,
    by decide +kernel, by decide, eq_ok_of_yields (by decide +kernel), by decide, by decide +kernel⟩

/-- `0 ≤ c.i` is necessary (guard `iRem <= 0`). -/
theorem C01_removed_cell_i_counterexample :
    ∃ (coef : Rat) (app : TreatApp) (c c' : Cell), 0 ≤ coef ∧ coef ≤ 1 ∧ 0 ≤ c.s ∧
      c.simpleTreat coef app = .ok c' ∧ c.hosts - c'.hosts = 0 ∧ removedBySpec coef app c = -1 :=
  ⟨1, .allInfected, ⟨0, [], -1, 0, 0, [-1], 0, -1⟩, ⟨0, [], -1, 0, 0, [-1], 0, -1⟩, by decide +kernel,
    by decide +kernel, by decide, eq_ok_of_yields (by decide +kernel), by decide, by decide +kernel⟩

/-- `0 ≤ coef` is necessary, on a fully consistent cell. -/
theorem C01_removed_cell_coef_counterexample :
    ∃ (coef : Rat) (app : TreatApp) (c c' : Cell), coef ≤ 1 ∧ c.consistent = true ∧
      c.simpleTreat coef app = .ok c' ∧ c.hosts - c'.hosts = 0 ∧ removedBySpec coef app c = -3 :=
  ⟨-1, .ratio, ⟨2, [], 1, 0, 0, [1], 0, 3⟩, ⟨2, [], 1, 0, 0, [1], 0, 3⟩, by decide +kernel,
    by decide, eq_ok_of_yields (by decide +kernel), by decide, by decide +kernel⟩

/-- The account is the one C10 states: whenever the pre/post pair satisfies `simpleTreatSpec` (the
    conclusion of `C10_removal`), the hosts lost are `removedBySpec` - no hypothesis at all. -/
theorem C01_removed_of_C10_spec (coef : Rat) (app : TreatApp) (c c' : Cell)
    (h : simpleTreatSpec coef (app == .allInfected) c c' = true) :
    c.hosts - c'.hosts = removedBySpec coef app c := by
  have hsh : (fun x : Int => if (app == TreatApp.allInfected) = true then (if coef ≠ 0 then x else 0)
      else rceil ((x : Rat) * coef)) = removalShare coef app := by
    funext x; cases app <;> rfl
  unfold simpleTreatSpec at h
  rw [hsh] at h
  simp only [Bool.and_eq_true, decide_eq_true_eq] at h
  obtain ⟨⟨⟨⟨⟨a1, a2⟩, a3⟩, _⟩, a5⟩, _⟩ := h
  rw [Cell.hosts, Cell.hosts, removedBySpec, a1, a2, a3, a5, sumL_map_sub]
  grind

/-- On a non-negative cell and for a coefficient in [0,1] the account is between 0 and the hosts
    of the treatable classes (susceptible, exposed, infected); in particular at most the hosts. -/
theorem C01_removed_bounds (coef : Rat) (app : TreatApp) (c : Cell) (hn : c.nonNeg = true)
    (h0 : 0 ≤ coef) (h1 : coef ≤ 1) :
    0 ≤ removedBySpec coef app c ∧ removedBySpec coef app c ≤ c.hosts - c.r ∧
    removedBySpec coef app c ≤ c.hosts := by
  have nn := (nonNeg_iff c).mp hn
  have hf : ∀ x, 0 ≤ x → 0 ≤ removalShare coef app x ∧ removalShare coef app x ≤ x := by
    rw [removalShare_eq_mech_sh]; exact rceil_treated h0 h1 app
  have dE := dom_map nn.e hf
  have b1 := rceil_share nn.s h0 h1
  have b2 := sumL_nonneg dE.allNN_draw
  have b3 := dE.sum_le
  have b4 := hf c.i nn.i
  have b5 := nn.r
  simp only [removedBySpec, Cell.hosts]
  omega

/-- For EVERY action in its domain on a landscape of non-negative cells (`l.inv` implies that), the
    amount `LandOp.removed` reads off the pre/post difference is the amount `LandOp.removedSpec`
    computes from the pre-state: both are 0 unless the action is a removal treatment, and for a
    removal treatment at cell `k` both are `removedBySpec coef app l[k]`. -/
theorem C01_removed_op (op : LandOp) (l l' : Land) (hn : ∀ c ∈ l, c.nonNeg = true)
    (hd : op.inDomain l) (h : op.apply l = .ok l') :
    op.removed l l' = op.removedSpec l := by
  cases op with
  | move a b count d dE dM => rfl
  | «at» k cop =>
    cases cop with
    | simpleTreat coef app =>
      simp only [LandOp.removed, LandOp.removedSpec]
      rcases LandOp.apply_at_ok h with ⟨hk, rfl⟩ | ⟨c, c', hk, hc, rfl⟩
      · simp only [hk]; exact Int.sub_self _
      · have nn := (nonNeg_iff c).mp (hn c (List.mem_of_getElem? hk))
        simp only [hk, Land.hosts_set c' hk, ← C01_removed_cell coef app c c' (hd c hk).1 nn.s nn.i hc]
        grind
    | _ => rfl

/-- The removal case spelled out, and the other case: a removal treatment at an existing cell removes
    `removedBySpec` of that cell; every action that is not a removal treatment removes nothing, on
    both accounts. -/
theorem C01_removed_op_cases (l : Land) :
    (∀ k coef app c, l[k]? = some c →
      (LandOp.at k (.simpleTreat coef app)).removedSpec l = removedBySpec coef app c) ∧
    (∀ op : LandOp, (∀ k coef app, op ≠ .at k (.simpleTreat coef app)) →
      op.removedSpec l = 0 ∧ ∀ l', op.removed l l' = 0) := by
  refine ⟨fun k coef app c hk => by simp only [LandOp.removedSpec, hk], fun op hne => ?_⟩
  cases op with
  | move a b count d dE dM => exact ⟨rfl, fun _ => rfl⟩
  | «at» k cop =>
    cases cop with
    | simpleTreat coef app => exact absurd rfl (hne k coef app)
    | _ => exact ⟨rfl, fun _ => rfl⟩

theorem c01led_inv_nonNeg {l : Land} (hinv : l.inv) : ∀ c ∈ l, c.nonNeg = true :=
  fun c hc => (hinv c hc).1

/-- Along any history in its domain from a consistent landscape the two accounts agree (whether or
    not the history runs to the end: both stop at the first error). -/
theorem C01_removedAlong_spec (ops : List LandOp) (l : Land) (hinv : l.inv) (hu : l.uniform)
    (hd : DomainAlong ops l) : removedAlong ops l = removedSpecAlong ops l := by
  induction ops generalizing l with
  | nil => rfl
  | cons op rest ih =>
    simp only [removedAlong, removedSpecAlong]
    cases h1 : op.apply l with
    | error e => rfl
    | ok l1 =>
      have st := landOp_step op l l1 hinv hu hd.1 h1
      simp only [C01_removed_op op l l1 (c01led_inv_nonNeg hinv) hd.1 h1,
        ih l1 st.inv st.uniform (hd.2 l1 h1)]

/-- `C01_history` with the independent account: hosts after = hosts before - hosts reported dead -
    the shares (coefficient x pre-state, rounded up) the removal treatments took. -/
theorem C01_history_spec (ops : List LandOp) (l l' : Land) (hinv : l.inv) (hu : l.uniform)
    (hd : DomainAlong ops l) (h : runOps ops l = .ok l') :
    l'.hosts = l.hosts - (l'.died - l.died) - removedSpecAlong ops l ∧
    0 ≤ removedSpecAlong ops l ∧ l.died ≤ l'.died ∧ l'.hosts ≤ l.hosts := by
  rw [← C01_removedAlong_spec ops l hinv hu hd]
  exact C01_history ops l l' hinv hu hd h

theorem C01_removedByGens_spec (gens : List OpGen) (l : Land) (hinv : l.inv) (hu : l.uniform)
    (hd : GensDomainAlong gens l) : removedByGens gens l = removedSpecByGens gens l := by
  induction gens generalizing l with
  | nil => rfl
  | cons gen rest ih =>
    simp only [removedByGens, removedSpecByGens]
    cases h1 : runOps (gen l) l with
    | error e => rfl
    | ok m =>
      obtain ⟨b1, b2⟩ := history_inv (gen l) l m hinv hu hd.1 h1
      simp only [C01_removedAlong_spec (gen l) l hinv hu hd.1, ih m b1 b2 (hd.2 m h1)]

/-- `C01_generators` with the independent account. -/
theorem C01_generators_spec (gens : List OpGen) (l l' : Land) (hinv : l.inv) (hu : l.uniform)
    (hd : GensDomainAlong gens l) (h : runGens gens l = .ok l') :
    l'.hosts = l.hosts - (l'.died - l.died) - removedSpecByGens gens l ∧
    0 ≤ removedSpecByGens gens l ∧ l.died ≤ l'.died ∧ l'.hosts ≤ l.hosts ∧ l'.inv ∧ l'.uniform := by
  rw [← C01_removedByGens_spec gens l hinv hu hd]
  exact C01_generators gens l l' hinv hu hd h

/-- `C01_model_step` with the independent account: over one `run_step`, hosts after = hosts before -
    the step's reported deaths - the shares the step's removal treatments took. -/
theorem C01_model_step_spec (cfg : StepCfg) (inp : StepInputs) (step : Nat) (l l' : Land)
    (hinv : l.inv) (hu : l.uniform)
    (hd : GensDomainAlong (stepGens cfg inp step) l)
    (h : runStepHosts cfg inp step l = .ok l') :
    l'.hosts = l.hosts - (l'.died - l.died) - removedSpecByGens (stepGens cfg inp step) l ∧
    0 ≤ removedSpecByGens (stepGens cfg inp step) l ∧ l'.hosts ≤ l.hosts ∧ l'.inv := by
  rw [← C01_removedByGens_spec _ l hinv hu hd]
  exact C01_model_step cfg inp step l l' hinv hu hd h

theorem C01_removedByRun_spec (cfg : StepCfg) (inps : List StepInputs) (first : Nat) (l : Land)
    (hinv : l.inv) (hu : l.uniform) (hd : RunDomainAlong cfg inps first l) :
    removedByRun cfg inps first l = removedSpecByRun cfg inps first l := by
  induction inps generalizing first l with
  | nil => rfl
  | cons inp rest ih =>
    simp only [removedByRun, removedSpecByRun]
    cases h1 : runStepHosts cfg inp first l with
    | error e => rfl
    | ok m =>
      have hg := C01_generators (stepGens cfg inp first) l m hinv hu hd.1 h1
      simp only [C01_removedByGens_spec _ l hinv hu hd.1,
        ih (first + 1) m hg.2.2.2.2.1 hg.2.2.2.2.2 (hd.2 m h1)]

/-- `C01_run` with the independent account: over whole runs, hosts after = hosts before - deaths
    reported during the run - the shares the removal treatments of the run took, each computed from
    its coefficient and the cell it found. -/
theorem C01_run_spec (cfg : StepCfg) (inps : List StepInputs) (first : Nat) (l l' : Land)
    (hinv : l.inv) (hu : l.uniform) (hd : RunDomainAlong cfg inps first l)
    (h : runModel cfg inps first l = .ok l') :
    l'.hosts = l.hosts - (l'.died - l.died) - removedSpecByRun cfg inps first l ∧
    0 ≤ removedSpecByRun cfg inps first l ∧ l.died ≤ l'.died ∧ l'.hosts ≤ l.hosts := by
  rw [← C01_removedByRun_spec cfg inps first l hinv hu hd]
  exact C01_run cfg inps first l l' hinv hu hd h

/-- An SEI cell with every class occupied (12 hosts, one of them resistant). -/
def c01ledCell : Cell := ⟨5, [1, 2], 3, 1, 3, [1, 2], 0, 12⟩

/-- Ratio 1/2: the account is 3 (of 5 susceptible) + (1 + 1) (of the exposed cohorts 1 and 2) + 2 (of 3
    infected) = 7, from the pre-state alone; the treatment takes the hosts from 12 to 5. -/
example :
    removedBySpec (1/2) .ratio c01ledCell = 3 + (1 + 1) + 2 ∧
    c01ledCell.simpleTreat (1/2) .ratio = .ok ⟨2, [0, 1], 1, 1, 1, [0, 1], 0, 5⟩ ∧
    c01ledCell.hosts = 12 ∧ (⟨2, [0, 1], 1, 1, 1, [0, 1], 0, 5⟩ : Cell).hosts = 5 ∧
    c01ledCell.hosts - (⟨2, [0, 1], 1, 1, 1, [0, 1], 0, 5⟩ : Cell).hosts =
      removedBySpec (1/2) .ratio c01ledCell := by
  -- `?hr`: that the treatment yields this cell is the hypothesis of `C01_removed_cell`; proved once below
  refine ⟨by decide +kernel, ?hr, by decide, by decide,
    C01_removed_cell (1/2) .ratio c01ledCell _ (by decide +kernel) (by decide) (by decide) ?hr⟩
  exact eq_ok_of_yields (by decide +kernel)

/-- The same cell, application "all infected": the susceptible still lose their share by ratio (3),
    the exposed cohorts and the infected are taken entirely (3 and 3): 9 hosts, 12 -> 3. -/
example :
    removedBySpec (1/2) .allInfected c01ledCell = 3 + (1 + 2) + 3 ∧
    c01ledCell.simpleTreat (1/2) .allInfected = .ok ⟨2, [0, 0], 0, 1, 0, [0, 0], 0, 3⟩ ∧
    (⟨2, [0, 0], 0, 1, 0, [0, 0], 0, 3⟩ : Cell).hosts = 3 ∧
    c01ledCell.hosts - (⟨2, [0, 0], 0, 1, 0, [0, 0], 0, 3⟩ : Cell).hosts =
      removedBySpec (1/2) .allInfected c01ledCell := by
  refine ⟨by decide +kernel, ?hr, by decide,
    C01_removed_cell (1/2) .allInfected c01ledCell _ (by decide +kernel) (by decide) (by decide) ?hr⟩
  exact eq_ok_of_yields (by decide +kernel)

/-- `C01_removed_of_C10_spec` and `C01_removed_bounds` at the instance, through `C10_removal`:
    0 ≤ 7 ≤ 11 = hosts - resistant. -/
example : ∃ c', c01ledCell.simpleTreat (1/2) .ratio = .ok c' ∧
    c01ledCell.hosts - c'.hosts = removedBySpec (1/2) .ratio c01ledCell ∧
    0 ≤ removedBySpec (1/2) .ratio c01ledCell ∧
    removedBySpec (1/2) .ratio c01ledCell ≤ c01ledCell.hosts - c01ledCell.r := by
  obtain ⟨c', h1, h2, _⟩ := C10_removal (1/2) .ratio c01ledCell (by decide +kernel) (by decide +kernel)
    (by decide) (by decide) (by decide)
  have hb := C01_removed_bounds (1/2) .ratio c01ledCell (by decide) (by decide +kernel)
    (by decide +kernel)
  exact ⟨c', h1, C01_removed_of_C10_spec _ _ _ _ h2, hb.1, hb.2.1⟩

/-- A cell that is not consistent in any sense: a negative exposed cohort, a negative resistant count,
    wrong totals (`te`, `th`), infected ≠ sum of the mortality cohorts. -/
def c01ledOdd : Cell := ⟨5, [-1, 2], 3, -2, 77, [], 0, 99⟩

/-- What `C01_removed_cell` does NOT need, at an instance: coefficient 3/2 > 1 on `c01ledOdd`. The
    treatment succeeds and takes 8 + (-1 + 3) + 5 = 15 hosts (7 -> -8), as the account says. -/
example :
    c01ledOdd.nonNeg = false ∧ c01ledOdd.totalsOK = false ∧ c01ledOdd.mortOK = false ∧
    c01ledOdd.simpleTreat (3/2) .ratio = .ok ⟨-3, [0, -1], -2, -2, 75, [], 0, -8⟩ ∧
    c01ledOdd.hosts - (⟨-3, [0, -1], -2, -2, 75, [], 0, -8⟩ : Cell).hosts =
      removedBySpec (3/2) .ratio c01ledOdd ∧
    removedBySpec (3/2) .ratio c01ledOdd = 8 + (-1 + 3) + 5 := by
  refine ⟨by decide, by decide, by decide, ?hr,
    C01_removed_cell (3/2) .ratio c01ledOdd _ (by decide +kernel) (by decide) (by decide) ?hr,
    by decide +kernel⟩
  exact eq_ok_of_yields (by decide +kernel)

/-- `C01_removed_op`, `C01_removedAlong_spec`, `C01_history_spec` at the history `nvHist` of
    Props/NonVacuous/Host.lean (mortality, a removal treatment with coefficient 1/2 at cell 0, a host
    move, a latency step, a survival-rate removal; two SEI cells): the treatment finds the cell
    `⟨10, [2, 3], 2, ..⟩` and takes 5 + (1 + 2) + 1 = 9; 24 hosts before, 13 after, 2 died. -/
example :
    removedSpecAlong nvHist nvLand2 = 9 ∧ removedAlong nvHist nvLand2 = removedSpecAlong nvHist nvLand2 ∧
    nvLand2.hosts = 24 ∧ nvLand2'.hosts = 13 ∧ nvLand2'.died - nvLand2.died = 2 ∧
    nvLand2'.hosts = nvLand2.hosts - (nvLand2'.died - nvLand2.died) - removedSpecAlong nvHist nvLand2 := by
  have h := C01_history_spec nvHist nvLand2 nvLand2' nvLand2_inv nvLand2_uniform nvHist_dom nvHist_run
  exact ⟨by decide +kernel, C01_removedAlong_spec nvHist nvLand2 nvLand2_inv nvLand2_uniform nvHist_dom,
    by decide, by decide, by decide, h.1⟩

/-- The same treatment applied to `nvLand2` itself: there cell 0 still has its 4 infected (in `nvHist`
    the mortality step before it leaves 2), so the infected share is 2 and the account 10, not 9. -/
example :
    (LandOp.at 0 (.simpleTreat (1/2) .ratio)).removedSpec nvLand2 = 5 + (1 + 2) + 2 ∧
    ∀ l', (LandOp.at 0 (.simpleTreat (1/2) .ratio)).apply nvLand2 = .ok l' →
      (LandOp.at 0 (.simpleTreat (1/2) .ratio)).removed nvLand2 l' = 10 := by
  refine ⟨by decide +kernel, fun l' hl' => ?_⟩
  rw [C01_removed_op (.at 0 (.simpleTreat (1/2) .ratio)) nvLand2 l' (c01led_inv_nonNeg nvLand2_inv)
    (fun c _ => ⟨by decide +kernel, by decide +kernel⟩) hl']
  decide +kernel

/-- `C01_generators_spec` / `C01_model_step_spec` at step 0 of the run instance of Props/RunModel.lean
    (survival rate, a removal treatment with coefficient 1/2 at cell 0, mortality). -/
example :
    removedSpecByGens (stepGens runSeiCfg runSeiInp0 0) runSeiLand0 = 10 ∧
    runSeiLand1.hosts = runSeiLand0.hosts - (runSeiLand1.died - runSeiLand0.died) -
      removedSpecByGens (stepGens runSeiCfg runSeiInp0 0) runSeiLand0 ∧
    runSeiLand1.inv ∧ runSeiLand1.uniform := by
  have h1 := C01_model_step_spec runSeiCfg runSeiInp0 0 runSeiLand0 runSeiLand1 runSei_inv
    runSei_uniform runSei_domain.1 runSei_step0
  have h2 := C01_generators_spec (stepGens runSeiCfg runSeiInp0 0) runSeiLand0 runSeiLand1 runSei_inv
    runSei_uniform runSei_domain.1 runSei_step0
  exact ⟨by decide +kernel, h1.1, h2.2.2.2.2.1, h2.2.2.2.2.2⟩

/-- The independent account over the 3-step SEI run: the two removal treatments (step 0 at cell 0,
    step 2 at cell 1) take 14 hosts, computed from coefficients and the cells they find. -/
theorem runSei_removedSpec :
    removedSpecByRun runSeiCfg [runSeiInp0, runSeiInp1, runSeiInp2] 0 runSeiLand0 = 14 := by
  decide +kernel

/-- `C01_run_spec` at the instance: 12 = 28 - 2 - 14. -/
example :
    runSeiLand0.hosts = 28 ∧ runSeiLand3.hosts = 12 ∧ runSeiLand3.died - runSeiLand0.died = 2 ∧
    removedSpecByRun runSeiCfg [runSeiInp0, runSeiInp1, runSeiInp2] 0 runSeiLand0 = 14 ∧
    runSeiLand3.hosts = runSeiLand0.hosts - (runSeiLand3.died - runSeiLand0.died) -
      removedSpecByRun runSeiCfg [runSeiInp0, runSeiInp1, runSeiInp2] 0 runSeiLand0 ∧
    removedByRun runSeiCfg [runSeiInp0, runSeiInp1, runSeiInp2] 0 runSeiLand0 =
      removedSpecByRun runSeiCfg [runSeiInp0, runSeiInp1, runSeiInp2] 0 runSeiLand0 := by
  have h := C01_run_spec runSeiCfg _ 0 runSeiLand0 runSeiLand3 runSei_inv runSei_uniform runSei_domain
    runSei_run
  exact ⟨by decide, by decide, by decide, runSei_removedSpec, h.1,
    C01_removedByRun_spec runSeiCfg _ 0 runSeiLand0 runSei_inv runSei_uniform runSei_domain⟩

#print axioms C01_removed_cell_iff
#print axioms C01_removed_cell
#print axioms C01_removed_cell_s_counterexample
#print axioms C01_removed_cell_i_counterexample
#print axioms C01_removed_cell_coef_counterexample
#print axioms C01_removed_of_C10_spec
#print axioms C01_removed_bounds
#print axioms C01_removed_op
#print axioms C01_removed_op_cases
#print axioms C01_removedAlong_spec
#print axioms C01_history_spec
#print axioms C01_removedByGens_spec
#print axioms C01_generators_spec
#print axioms C01_model_step_spec
#print axioms C01_removedByRun_spec
#print axioms C01_run_spec
#print axioms runSei_removedSpec

end Pops
