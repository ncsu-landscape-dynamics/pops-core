/-
  C16  Several hosts act as the sum of single hosts, weighted by competency.
  Model: Model/Multi.lean (MultiHostPool, CompetencyTable, PestHostTable, Config tables);
  predicates: Model/MultiPred.lean; lemmas: Lemmas/Multi.lean, Lemmas/MultiComp.lean.
  One open finding (F19): see `C16_single_host_stream_partial` / `C16_single_host_stream_full_fails`.
-/
import PopsModel.Lemmas.Multi
import PopsModel.Lemmas.MultiComp
namespace Pops

attribute [local instance] exceptDecEq

/-- The pool reports as infected and as total hosts the sums over its hosts (one host: that
    host's own numbers; concatenated host lists add up). -/
theorem C16_sums (a b : List Cell) (c : Cell) :
    multiInfectedAt a = sumL (a.map (·.i)) ∧
    multiTotalHostsAt a = sumL (a.map fun x => x.s + x.i) ∧
    sumsSpec a (multiInfectedAt a) (multiTotalHostsAt a) = true ∧
    multiInfectedAt [c] = c.i ∧ multiTotalHostsAt [c] = c.s + c.i ∧
    multiInfectedAt (a ++ b) = multiInfectedAt a + multiInfectedAt b ∧
    multiTotalHostsAt (a ++ b) = multiTotalHostsAt a + multiTotalHostsAt b := by
  refine ⟨rfl, rfl, mh_sumsSpec a, ?_, ?_, ?_, ?_⟩
  · simp [multiInfectedAt]
  · simp [multiTotalHostsAt, Cell.totalHostsAt]
  · simp [multiInfectedAt]
  · simp [multiTotalHostsAt]

/-- A landing is handed to at most one host: the result is 0 or 1; with 0 nothing changes; with 1
    exactly the chosen host changes, by one S -> E/I transition, and it had a susceptible host. -/
theorem C16_at_most_one_host (cfg : MultiCfg) (ps : List HostParams) (env : MEnv) (cells : List Cell)
    (pick : Nat) (u : Rat) (cells' : List Cell) (k : Int) (n : Nat)
    (h : multiDisperserTo cfg ps env cells pick u = .ok (cells', k, n)) :
    atMostOneSpec ps cells cells' k = true ∧
    ((k = 0 ∧ cells' = cells) ∨
     (k = 1 ∧ ∃ h, h < cells.length ∧ h = landingHost cells.length pick ∧ 0 < (cells[h]!).s ∧
        cells' = cells.set h (landed (ps[h]!).mt (cells[h]!)) ∧
        landingSpec (ps[h]!).mt (cells[h]!) (cells'[h]!) 1 = true)) := by
  obtain ⟨suits, _, hc⟩ := mh_multi_ok_cases h
  rcases hc with ⟨_, hr⟩ | ⟨_, _, hh, d0, hp, hr⟩
  · simp only [Prod.mk.injEq] at hr
    obtain ⟨rfl, rfl, rfl⟩ := hr
    refine ⟨by simp [atMostOneSpec], .inl ⟨rfl, rfl⟩⟩
  · obtain ⟨hlt, _, _, hland⟩ := mh_pick_lt hp
    have hpos := mh_landingE_pos cfg ps cells suits hh u
    have hspec := mh_outcome_atMostOne ps cells hh (landingE cfg ps cells suits hh u) d0 (landingUsed cfg ps hh) hlt hpos
    rw [← hr] at hspec
    refine ⟨hspec, ?_⟩
    cases hE : landingE cfg ps cells suits hh u with
    | false => rw [hE] at hr; cases hr; exact .inl ⟨rfl, rfl⟩
    | true =>
      rw [hE] at hr; cases hr
      exact .inr ⟨rfl, hh, hlt, hland, hpos hE, rfl, by
        rw [if_pos rfl, act_getElem!_set_self cells _ hlt]; exact mech_landingSpec_landed _ _⟩

/-- The establishment event with several hosts: with the hosts' weights
    `susceptible / total population x own susceptibility x weather`, the landing establishes iff
    the combined weight is positive, the chosen host has a susceptible individual and the tester
    is below the combined weight ("land") or below the chosen host's own weight ("infect"). -/
theorem C16_establish_event (cfg : MultiCfg) (ps : List HostParams) (env : MEnv) (cells : List Cell)
    (pick : Nat) (u : Rat) (cells' : List Cell) (k : Int) (n : Nat)
    (h : multiDisperserTo cfg ps env cells pick u = .ok (cells', k, n)) :
    multiEstablishSpec cfg ps (hostWeights env cells) cells pick u k = true := by
  obtain ⟨suits, hs, hc⟩ := mh_multi_ok_cases h
  have hw := mh_suits_eq_weights hs
  rw [← hw]
  rcases hc with ⟨h0, hr⟩ | ⟨h0, _, hh, d0, hp, hr⟩
  · simp only [Prod.mk.injEq] at hr
    obtain ⟨_, rfl, _⟩ := hr
    simp [multiEstablishSpec, h0]
  · have hland := (mh_pick_lt hp).2.2.2
    have := mh_outcome_establish cfg ps cells suits pick hh d0 (landingUsed cfg ps hh) u h0 hland
    rw [← hr] at this
    exact this

/-- Establishment in a host is scaled by that host's own susceptibility: the weight the pool
    computes for host `h` is `s_h / N x susceptibility_h x weather`, the susceptibility being the
    host's own entry of the pest-host table (1 without a table). -/
theorem C16_susceptibility (env : MEnv) (cells : List Cell) (l : List Rat)
    (h : suitabilities env cells = .ok l) :
    l = hostWeights env cells ∧
    (∀ j, j < cells.length →
      l[j]! = ((cells[j]!).s : Rat) / (env.n : Rat) * susOf env j * env.w.getD 1 ∧ 0 ≤ l[j]! ∧ l[j]! ≤ 1) ∧
    (∀ t j x, env.pht = some t → t.sus[j]? = some x → susOf env j = x) ∧
    (env.pht = none → ∀ j, susOf env j = 1) := by
  have hw := mh_suits_eq_weights h
  refine ⟨hw, ?_, ?_, ?_⟩
  · intro j hj
    have hj' := mh_suits_getElem h j hj
    obtain ⟨_, _, _, hv, h0, h1⟩ := mh_hostSuitability_ok hj'
    exact ⟨by rw [hv]; rfl, h0, h1⟩
  · intro t j x ht hx
    simp [susOf, ht, List.getD_eq_getElem?_getD, hx]
  · intro hn j
    simp [susOf, hn]

/-- Input for which the combined suitability of a cell exceeds one is rejected. -/
theorem C16_suitability_over_one_rejected (cfg : MultiCfg) (ps : List HostParams) (env : MEnv) (cells : List Cell)
    (pick : Nat) (u : Rat) (l : List Rat) (h : suitabilities env cells = .ok l)
    (hover : sumR (hostWeights env cells) > 1) :
    multiDisperserTo cfg ps env cells pick u = .error .invalid_argument := by
  rw [← mh_suits_eq_weights h] at hover
  exact mh_multi_over h hover

/-- No establishment, no change and no generator call when the combined suitability is not
    positive (the early return before the host is picked). -/
theorem C16_no_suitability_no_draw (cfg : MultiCfg) (ps : List HostParams) (env : MEnv) (cells : List Cell)
    (pick : Nat) (u : Rat) (l : List Rat) (h : suitabilities env cells = .ok l) (h0 : sumR l ≤ 0) :
    multiDisperserTo cfg ps env cells pick u = .ok (cells, 0, 0) :=
  mh_multi_zero h h0

/-- A non-trivial instance: two hosts, the first with a susceptible individual, the second only
    infected; "land" with a stochastic test; the drawn host 0 receives the disperser (two generator
    calls: the pick and the uniform). -/
example :
    let cA : Cell := { s := 1, e := [], i := 0, r := 0, te := 0, mort := [0], died := 0, th := 1 }
    let cB : Cell := { s := 0, e := [], i := 1, r := 0, te := 0, mort := [1], died := 0, th := 1 }
    let env : MEnv := { n := 1, w := none, pht := none, comp := none }
    let p : HostParams := { mt := .si, sto := true, pEst := 0, rr := 1 }
    multiDisperserTo { arrival := .land, sto := true, pEst := 0 } [p, p] env [cA, cB] 0 0 =
      .ok ([{ cA with s := 0, i := 1, mort := [1] }, cB], 1, 2) := by
  decide +kernel

/-- `pests_from`: whatever per-host amounts the draw produces (within each host's infected,
    summing to min(count, available)), the total returned is their sum, never exceeds a
    non-negative request or any host's availability, and the hosts change by exactly those
    amounts. `draw_n_from_v` takes the `int` count as `unsigned`; `hc` keeps a non-negative count
    below 2^32, where that conversion is the identity. -/
theorem C16_split_bounded (cells : List Cell) (count : Int) (d : List Int) (hc : count < 4294967296)
    (hv : ValidSplit (cells.map (·.i)) count d) :
    (multiPestsFrom cells d).2 = sumL d ∧
    (multiPestsFrom cells d).2 = min (toUnsigned count) (sumL (cells.map (·.i))) ∧
    (0 ≤ count → (multiPestsFrom cells d).2 ≤ count ∧ (multiPestsFrom cells d).2 = min count (sumL (cells.map (·.i)))) ∧
    ListRel (fun c k => 0 ≤ k ∧ k ≤ c.i) cells d ∧
    pestsFromStateSpec cells (multiPestsFrom cells d).1 d = true ∧
    splitSpec (cells.map (·.i)) count d (multiPestsFrom cells d).2 = true := by
  obtain ⟨hrel, hsum, hnn, hspec⟩ := mh_split (·.i) cells count d hc hv
  rw [mh_pestsFrom_zip hrel]
  exact ⟨rfl, hsum, hnn, hrel, by simp [pestsFromStateSpec], hspec⟩

/-- `pests_to`: the same for arriving pests and susceptible hosts. -/
theorem C16_split_bounded_to (cells : List Cell) (count : Int) (d : List Int) (hc : count < 4294967296)
    (hv : ValidSplit (cells.map (·.s)) count d) :
    (multiPestsTo cells d).2 = sumL d ∧
    (multiPestsTo cells d).2 = min (toUnsigned count) (sumL (cells.map (·.s))) ∧
    (0 ≤ count → (multiPestsTo cells d).2 ≤ count ∧ (multiPestsTo cells d).2 = min count (sumL (cells.map (·.s)))) ∧
    ListRel (fun c k => 0 ≤ k ∧ k ≤ c.s) cells d ∧
    pestsToStateSpec cells (multiPestsTo cells d).1 d = true ∧
    splitSpec (cells.map (·.s)) count d (multiPestsTo cells d).2 = true := by
  obtain ⟨hrel, hsum, hnn, hspec⟩ := mh_split (·.s) cells count d hc hv
  rw [mh_pestsTo_zip hrel]
  exact ⟨rfl, hsum, hnn, hrel, by simp [pestsToStateSpec], hspec⟩

/-- A negative request is converted to `unsigned` by `draw_n_from_v`, so everything available is
    taken (the requested-count bound is stated for non-negative requests only). The bounds are
    those of a 32-bit `int`: the count is one, the total is a sum of host counts held in `int`s. -/
theorem C16_split_negative_request (count : Int) (h0 : count < 0) (h1 : -2147483648 ≤ count) (total : Int)
    (ht : total ≤ 2147483647) : min (toUnsigned count) total = total := by
  unfold toUnsigned; omega

/-- A non-trivial instance: hosts with 2 and 3 infected, 4 requested, split 1 + 3. -/
example : ValidSplit [2, 3] 4 [1, 3] := by
  refine ⟨rfl, ?_, by decide⟩
  intro k hk
  have : k = 0 ∨ k = 1 := by simp at hk; omega
  rcases this with rfl | rfl <;> decide

/-- A multi-host pool over ONE host returns the same result and leaves the same cell state as
    that host's own `disperser_to`, for both arrival behaviours: whenever the bare host returns,
    the wrapper returns the same 0/1 and the same cell; whenever the bare host throws, the wrapper
    throws the same exception. Domain: the host has a table entry (`cellEnv 0` succeeds), its
    susceptible count is not negative, the tester is not negative (u in [0,1), probability <= 1)
    and, for "land", the config carries the host's establishment settings. -/
theorem C16_single_host_result (cfg : MultiCfg) (p : HostParams) (env : MEnv) (c : Cell) (pick : Nat) (u : Rat)
    (e : EnvCell) (he : env.cellEnv 0 = .ok e) (hs : 0 ≤ c.s)
    (hcfg : cfg.arrival = .land → cfg.sto = p.sto ∧ cfg.pEst = p.pEst)
    (ht : 0 ≤ (if p.sto then u else 1 - p.pEst)) :
    (∀ c' k n, c.disperserTo p.mt e p.sto p.pEst u = .ok (c', k, n) →
      ∃ n', multiDisperserTo cfg [p] env [c] pick u = .ok ([c'], k, n')) ∧
    (∀ x, c.disperserTo p.mt e p.sto p.pEst u = .error x →
      multiDisperserTo cfg [p] env [c] pick u = .error x) := by
  have hm := mh_single cfg p env c pick u e he hs hcfg ht
  constructor
  · intro c' k n hb
    rw [hb] at hm
    exact ⟨_, hm⟩
  · intro x hb
    rw [hb] at hm
    exact hm

/-- Outside that domain the two differ: with a negative susceptible count the bare host returns 0
    while the wrapper asks for the suitability first and rejects it. -/
theorem C16_single_host_negative_susceptible :
    let c : Cell := { s := -1, e := [], i := 0, r := 0, te := 0, mort := [0], died := 0, th := 0 }
    let env : MEnv := { n := 1, w := none, pht := none, comp := none }
    let p : HostParams := { mt := .si, sto := false, pEst := 1, rr := 1 }
    let cfg : MultiCfg := { arrival := .infect, sto := false, pEst := 1 }
    c.disperserTo p.mt { n := 1, w := none, sus := none } p.sto p.pEst 0 = .ok (c, 0, 0) ∧
    multiDisperserTo cfg [p] env [c] 0 0 = .error .invalid_argument := by
  decide +kernel

/-- In the domain of `C16_single_host_result` the wrapper over one host also makes the same number
    of generator calls as the bare host (so the stream is left in the same state), unless the cell
    has susceptible hosts and suitability 0 (open finding F19). -/
theorem C16_single_host_stream_partial (cfg : MultiCfg) (p : HostParams) (env : MEnv) (c : Cell) (pick : Nat) (u : Rat)
    (e : EnvCell) (he : env.cellEnv 0 = .ok e) (hs : 0 ≤ c.s)
    (hcfg : cfg.arrival = .land → cfg.sto = p.sto ∧ cfg.pEst = p.pEst)
    (ht : 0 ≤ (if p.sto then u else 1 - p.pEst))
    (hsuit : ¬ (c.s > 0 ∧ c.suitability e = .ok 0))
    (c' : Cell) (k : Int) (n : Nat) (hb : c.disperserTo p.mt e p.sto p.pEst u = .ok (c', k, n)) :
    multiDisperserTo cfg [p] env [c] pick u = .ok ([c'], k, n) := by
  have hm := mh_single cfg p env c pick u e he hs hcfg ht
  rw [hb] at hm
  have hreg : f19Region c e = false := Bool.eq_false_iff.mpr fun h => hsuit ((mh_f19Region_iff c e).mp h)
  rw [hreg] at hm
  exact hm

/-- The full statement, without the hypothesis on the suitability. -/
def C16_single_host_stream_full : Prop :=
  ∀ (cfg : MultiCfg) (p : HostParams) (env : MEnv) (c : Cell) (pick : Nat) (u : Rat) (e : EnvCell),
    env.cellEnv 0 = .ok e → 0 ≤ c.s →
    (cfg.arrival = .land → cfg.sto = p.sto ∧ cfg.pEst = p.pEst) →
    0 ≤ (if p.sto then u else 1 - p.pEst) →
    ∀ (c' : Cell) (k : Int) (n : Nat), c.disperserTo p.mt e p.sto p.pEst u = .ok (c', k, n) →
      multiDisperserTo cfg [p] env [c] pick u = .ok ([c'], k, n)

/-- In the region of F19 with stochastic establishment the bare host makes one generator call
    and the wrapper none (result and cell agree). -/
theorem C16_single_host_stream_gap (cfg : MultiCfg) (p : HostParams) (env : MEnv) (c : Cell) (pick : Nat) (u : Rat)
    (e : EnvCell) (he : env.cellEnv 0 = .ok e)
    (hcfg : cfg.arrival = .land → cfg.sto = p.sto ∧ cfg.pEst = p.pEst)
    (ht : 0 ≤ (if p.sto then u else 1 - p.pEst))
    (hpos : c.s > 0) (hz : c.suitability e = .ok 0) :
    c.disperserTo p.mt e p.sto p.pEst u = .ok (c, 0, if p.sto then 1 else 0) ∧
    multiDisperserTo cfg [p] env [c] pick u = .ok ([c], 0, 0) := by
  have hce := mh_canEstablish_zero p.sto p.pEst u ht
  have hb : c.disperserTo p.mt e p.sto p.pEst u = .ok (c, 0, if p.sto then 1 else 0) := by
    rw [mh_dispTo_pos hpos hz]
    simp only [hce, Bool.false_eq_true, if_false]
  refine ⟨hb, ?_⟩
  have hm := mh_single cfg p env c pick u e he (by omega) hcfg ht
  rw [hb] at hm
  have hreg : f19Region c e = true := (mh_f19Region_iff c e).mpr ⟨hpos, hz⟩
  rw [hreg] at hm
  exact hm

/-- F19: the full statement fails. Witness: one susceptible host, weather coefficient 0,
    stochastic establishment: the bare host consumes one draw, the wrapper none. -/
theorem C16_single_host_stream_full_fails : ¬ C16_single_host_stream_full := by
  intro hfull
  let c : Cell := { s := 1, e := [], i := 0, r := 0, te := 0, mort := [0], died := 0, th := 1 }
  let env : MEnv := { n := 1, w := some 0, pht := none, comp := none }
  let e : EnvCell := { n := 1, w := some 0, sus := none }
  let p : HostParams := { mt := .si, sto := true, pEst := 0, rr := 1 }
  let cfg : MultiCfg := { arrival := .infect, sto := true, pEst := 0 }
  -- the bare host answers (c, 0, 1), one generator call; the wrapper over it ([c], 0, 0)
  have := hfull cfg p env c 0 0 e rfl (by decide) (fun _ => ⟨rfl, rfl⟩) (by decide +kernel) c 0 1 (by decide +kernel)
  revert this
  decide +kernel

example : ∃ (cfg : MultiCfg) (p : HostParams) (env : MEnv) (c : Cell) (e : EnvCell),
    env.cellEnv 0 = .ok e ∧ 0 < c.s ∧ (cfg.arrival = .land → cfg.sto = p.sto ∧ cfg.pEst = p.pEst) ∧
    c.suitability e = .ok 0 :=
  ⟨{ arrival := .land, sto := true, pEst := 0 }, { mt := .si, sto := true, pEst := 0, rr := 1 },
   { n := 1, w := some 0, pht := none, comp := none },
   { s := 1, e := [], i := 0, r := 0, te := 0, mort := [0], died := 0, th := 1 },
   { n := 1, w := some 0, sus := none }, rfl, by decide, fun _ => ⟨rfl, rfl⟩, by decide +kernel⟩

/-- Complete table: the lookup returns the score of the row matching the host combination
    present in the cell (the last one, should a combination be listed twice), for every asking
    host; a combination that is not listed is an out_of_range error (`std::map::at`).
    (`pre`, `r`, `post` serve the first part, `rows` and `presence` the other two.) -/
theorem C16_competency_complete (pre post : List CompRow) (r : CompRow) (rows : List CompRow) (presence : List Bool)
    (host : Nat) :
    ((∀ r' ∈ post, r'.presence ≠ r.presence) →
      (CompetencyTable.complete (pre ++ r :: post)).competencyAt r.presence host = .ok r.competency) ∧
    ((∀ r' ∈ rows, r'.presence ≠ presence) →
      (CompetencyTable.complete rows).competencyAt presence host = .error .out_of_range) ∧
    (competencySpec (.complete rows) presence host =
      match (CompetencyTable.complete rows).competencyAt presence host with
      | .ok k => some k
      | .error _ => none) := by
  refine ⟨fun h => mc_completeLookup_row pre h, fun h => mc_completeLookup_missing h,
    mc_competencyAt_spec _ _ _⟩

/-- Partial table: when every row that lists the asking host has one column per host, the lookup
    returns the maximum of the scores of the eligible rows - those that list the asking host and
    whose listed hosts are all present - and 0 when there is none. -/
theorem C16_competency_partial (rows : List CompRow) (presence : List Bool) (host : Nat)
    (hfit : ∀ r ∈ rows, r.presence.getD host false = true → r.presence.length = presence.length) :
    ∃ v, (CompetencyTable.part rows).competencyAt presence host = .ok v ∧ v = maxEligible rows presence host ∧
      0 ≤ v ∧
      (∀ r ∈ rows, rowEligible presence host r = true → r.competency ≤ v) ∧
      (v = 0 ∨ ∃ r ∈ rows, rowEligible presence host r = true ∧ r.competency = v) ∧
      ((∀ r ∈ rows, rowEligible presence host r = false) → v = 0) := by
  obtain ⟨h0, hub, hatt⟩ := mc_maxEligible_spec rows presence host
  refine ⟨maxEligible rows presence host, ?_, rfl, h0, hub, hatt, fun hnone => ?_⟩
  · simp only [CompetencyTable.competencyAt, findCompetency]
    rw [mc_from_fit presence host 0 rows hfit]; rfl
  · rcases hatt with h | ⟨r, hr, he, _⟩
    · exact h
    · rw [hnone r hr] at he; cases he

/-- A row that lists the asking host but has a different number of columns than there are hosts
    makes the lookup fail with invalid_argument. -/
theorem C16_competency_size_mismatch (rows : List CompRow) (presence : List Bool) (host : Nat)
    (hbad : ∃ r ∈ rows, r.presence.getD host false = true ∧ r.presence.length ≠ presence.length) :
    (CompetencyTable.part rows).competencyAt presence host = .error .invalid_argument := by
  simp only [CompetencyTable.competencyAt, findCompetency]
  exact mc_from_unfit presence host 0 rows hbad

/-- Dispersers produced by the pool = sum over the hosts of round(reproductive rate x weather x
    competency of the host combination present x infected of that host): the specification
    evaluated by the driver (`dispersersSpec`, built on `competencySpec`) is what the model of
    `dispersers_from` computes, including the rejected lookups. -/
theorem C16_competency_scaling (env : MEnv) (ps : List HostParams) (cells : List Cell) :
    dispersersSpec env ps cells =
      match multiDispersersFrom env ps cells with
      | .ok v => some v
      | .error _ => none :=
  mc_dispersersLoop_spec env (hostPresence cells) 0 ps cells

/-- One host's share: nothing without infection, otherwise the rounded product. -/
theorem C16_host_dispersers (env : MEnv) (presence : List Bool) (host : Nat) (p : HostParams) (c : Cell) (t : CompetencyTable)
    (k : Rat) (ht : env.comp = some t) (hk : t.competencyAt presence host = .ok k) :
    hostDispersersFrom env presence host p c =
      .ok (if c.i ≤ 0 then 0 else lround (p.rr * env.w.getD 1 * k * (c.i : Rat))) := by
  unfold hostDispersersFrom
  by_cases hi : c.i ≤ 0
  · simp only [hi, if_true]
  · simp only [hi, if_false, ht, hk, bind, Except.bind, pure, Except.pure, Cell.dispersersFromDet]

/-- A non-trivial instance: two hosts, rows {host 0 alone: 1, both: 2}. -/
example :
    findCompetency [⟨[true, false], 1⟩, ⟨[true, true], 2⟩] [true, true] 0 = .ok 2 ∧
    findCompetency [⟨[true, false], 1⟩, ⟨[true, true], 2⟩] [true, false] 0 = .ok 1 ∧
    findCompetency [⟨[true, false], 1⟩, ⟨[true, true], 2⟩] [true, false] 1 = .ok 0 ∧
    rowEligible [true, false] 0 ⟨[true, false], 1⟩ = true ∧ rowEligible [true, false] 0 ⟨[true, true], 2⟩ = false := by
  decide +kernel

/-- Rates and time lags of the pest-host table apply to their own host only: when the pool's
    `apply_mortality_at(row, col)` succeeds, host `h` ends in exactly the state its own
    `apply_mortality_at(row, col, rate_h, lag_h)` produces from its own cell. Without a table the
    call is rejected. -/
theorem C16_per_host_mortality (env : MEnv) (cells cells' : List Cell) :
    (∀ t, env.pht = some t → multiApplyMortality env cells = .ok cells' →
      cells'.length = cells.length ∧
      ∀ h, h < cells.length → ∃ rate lag, t.rate[h]? = some rate ∧ t.lag[h]? = some lag ∧
        (cells[h]!).applyMortality rate lag = .ok (cells'[h]!)) ∧
    (env.pht = none → cells ≠ [] → multiApplyMortality env cells = .error .invalid_argument) := by
  constructor
  · intro t ht hm
    rw [multiApplyMortality, applyMortalityFrom_eq] at hm
    obtain ⟨h1, h2⟩ := forFrom_zero_ok hm
    exact ⟨h1, fun h hh => mh_hostMort_ok ht (h2 h hh)⟩
  · intro hn hne
    cases cells with
    | nil => exact absurd rfl hne
    | cons c rest =>
      simp only [multiApplyMortality, applyMortalityFrom, mh_hostMort_none env 0 c hn, bind, Except.bind]

/-- A non-trivial instance: two hosts with rates 1 and 0: the first loses its infected host, the
    second is untouched. -/
example :
    let c : Cell := { s := 0, e := [], i := 1, r := 0, te := 0, mort := [1], died := 0, th := 1 }
    let env : MEnv := { n := 1, w := none, pht := some { sus := [1, 1], rate := [1, 0], lag := [0, 0] }, comp := none }
    multiApplyMortality env [c, c] = .ok [{ c with i := 0, mort := [0], died := 1, th := 0 }, c] := by
  intro c env; rfl

/-- `read_pest_host_table` accepts exactly the tables whose rows have at least three values and a
    susceptibility in [0, 1]; `read_competency_table` exactly those whose rows all have the size
    of the first row and at least two values; every rejection is an invalid_argument; a
    competency table is complete iff it has 2^(number of host columns) rows; only the arrival
    behaviours "infect" and "land" are accepted. -/
theorem C16_table_validation (pv cv : List (List Rat)) (rows : List CompRow) (r : CompRow) (name : String) :
    (((readPestHostTable pv).2 = none ↔ pv.all phtRowOK = true) ∧
     (∀ e, (readPestHostTable pv).2 = some e → e = .invalid_argument)) ∧
    (((readCompetencyTable cv).2 = none ↔ ∀ row ∈ cv, 2 ≤ row.length ∧ row.length = (cv.headD []).length) ∧
     (∀ e, (readCompetencyTable cv).2 = some e → e = .invalid_argument)) ∧
    (competencyTableIsComplete (r :: rows) = true ↔ (r :: rows).length = 2 ^ r.presence.length) ∧
    competencyTableIsComplete [] = false ∧
    ((∃ a, arrivalFromString name = .ok a) ↔ (name = "infect" ∨ name = "land")) := by
  refine ⟨mc_readPht pv, mc_readComp cv, by simp [competencyTableIsComplete], rfl, ?_⟩
  unfold arrivalFromString
  by_cases h1 : name = "infect"
  · simp [h1]
  · by_cases h2 : name = "land"
    · simp [h2]
    · simp [h1, h2]

/-- `move_hosts_from_to` moves hosts of the first host pool only. -/
theorem C16_move_first_host_only (s0 d0 : Cell) (srest drest : List Cell) (count : Int) (d : ClassDraw)
    (drawE drawM : List Int) :
    multiMoveHosts (s0 :: srest) (d0 :: drest) count d drawE drawM =
      ((moveHosts s0 d0 count d drawE drawM).1 :: srest, (moveHosts s0 d0 count d drawE drawM).2.1 :: drest,
       (moveHosts s0 d0 count d drawE drawM).2.2) := rfl

end Pops
