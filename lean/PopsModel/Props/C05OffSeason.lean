/-
  C05 "off-season frame": exposed cohorts age by exactly one position per spread step, and a host
  exposed during spread step t stays exposed until spread step t+L. Hence in a model step that is
  NOT a spread step nothing ages and nothing matures: every exposed cohort of every cell can only
  shrink (removals by lethal temperature / survival rate / treatments), the cohort vector keeps its
  length, and infected does not grow - whatever else is enabled and scheduled in that step.
-/
import PopsModel.Props.C01Step
import PopsModel.Lemmas.OffSeason
import PopsModel.Lemmas.NonVacuousHost
namespace Pops

/-- Off-season frame over one `run_step`: when the spread schedule is off at `step`, then for every
    combination of the other enabled and scheduled actions, every input raster and every random
    draw in the documented domain along the run (`GensDomainAlong`: each action's operations are in
    their domain at the landscape that action finds), the resulting landscape has the same cells,
    in each of them no exposed cohort grew, the cohort vector kept its length and infected did not
    grow. (Uniform cohort lengths across cells are not needed.) -/
theorem C05_offseason_frame (cfg : StepCfg) (inp : StepInputs) (step : Nat) (l l' : Land)
    (hns : schedAt cfg.spreadSched step = false)
    (hinv : l.inv)
    (hd : GensDomainAlong (stepGens cfg inp step) l)
    (h : runStepHosts cfg inp step l = .ok l') :
    offSeasonFrame l l' = true :=
  (offSeasonFrame_iff l l').mpr
    (gens_frozen (stepGens cfg inp step) l l' (stepGens_offSeason cfg inp step hns) hinv hd h).1

/-- The same with the domain hypothesis stated at every consistent landscape (every action in its
    domain there). It implies the one above, and it is unsatisfiable for SEI inputs
    (`uniform_domain_unsat_sei`): for them this statement says nothing, which is why the main
    statement takes the domain along the run. -/
theorem C05_offseason_frame_of_uniform_domain (cfg : StepCfg) (inp : StepInputs) (step : Nat)
    (l l' : Land)
    (hns : schedAt cfg.spreadSched step = false)
    (hinv : l.inv) (hu : l.uniform)
    (hd : ∀ a : ActionKind, ∀ x : Land, x.inv → x.uniform → DomainAlong (actionGen inp step a x) x)
    (h : runStepHosts cfg inp step l = .ok l') :
    offSeasonFrame l l' = true :=
  C05_offseason_frame cfg inp step l l' hns hinv
    (gensDomainAlong_of_forall (stepGens cfg inp step) l hinv hu (by
      intro gen hg x hx hxu
      simp only [stepGens, List.mem_map] at hg
      obtain ⟨a, _, rfl⟩ := hg
      exact hd a.1 x hx hxu)) h

/-- Per operation: lethal temperature, survival rate, treatments and mortality, in their domain on
    a non-negative cell, leave the exposed cohorts frozen. -/
theorem C05_offseason_op (op : CellOp) (c c' : Cell) (hop : op.offSeason = true)
    (hd : op.inDomain c) (hn : c.nonNeg = true) (h : op.apply c = .ok c') :
    exposedFrozen c c' = true :=
  (exposedFrozen_iff c c').mpr (cellOp_frozen op c c' hop hd hn h)

/-- Trace level: the latency step is not part of the plan of a step that is not a spread step. -/
theorem C05_no_ageing_outside_spread_steps (cfg : StepCfg) (step : Nat)
    (hns : schedAt cfg.spreadSched step = false) :
    ActionKind.stepForward ∉ (plan cfg step).map (·.1) := by
  intro hm
  have hr := (act_plan_iff cfg step .stepForward).mp hm
  simp only [StepCfg.runs, hns] at hr
  cases hr

/-! ### a non-trivial instance: SEI, one cell with exposed cohorts [2, 3], step 0 outside the
    spread season, survival rate 1/2, a host-removal treatment with coefficient 1/2 and mortality
    with rate 1/2 all active (overpopulation and movements enabled but tied to the spread season) -/

def c05OffCfg : StepCfg :=
  { soils := false, useLethal := false, lethalSched := [], useSurvival := true, survivalSched := [true],
    spreadSched := [false], useOverpop := true, useMovements := true, useTreatments := true,
    useMortality := true, mortalitySched := [true], useSpreadRates := false, rateSched := [],
    useQuarantine := false, quarantineSched := [] }

def c05OffInp : StepInputs :=
  { g := ⟨1, 1⟩, mt := .sei, latency := 1, suit := [(0, 0)], lethalThreshold := 0, temperatures := [],
    lethalDraws := [], survivalRates := [1/2], survivalDrawsI := [[1, 1]], survivalDrawsE := [[1, 1]],
    landings := [], stochasticEst := false, pEst := 0, overThreshold := 0, overLeaving := 0,
    overTargets := [], moves := [], treatEvents := [(false, false, .ratio, [1/2])],
    mortalityRate := 1/2, mortalityLag := 0 }

def c05OffLand : Land := [⟨10, [2, 3], 4, 0, 5, [1, 3], 0, 19⟩]

/-- The step runs: survival rate, then the treatment, then mortality; the exposed cohorts go from
    [2, 3] to [0, 1] and infected from 4 to 1. -/
theorem c05Off_run :
    runStepHosts c05OffCfg c05OffInp 0 c05OffLand = .ok [⟨7, [0, 1], 1, 0, 1, [1, 0], 0, 9⟩] :=
  eq_ok_of_yields (by decide +kernel)

theorem c05Off_plan :
    plan c05OffCfg 0 = [(.survival, some 0), (.treatments, none), (.mortality, none)] := by
  decide +kernel

/-- Each of the three actions is in its domain at the landscape it finds: the survival rate 1/2 with
    valid draws of the 2 infected and 2 exposed removed, the treatment coefficient 1/2, the mortality
    rate 1/2 and lag 0. -/
theorem c05Off_domain : GensDomainAlong (stepGens c05OffCfg c05OffInp 0) c05OffLand :=
  gensDomainAlong_of_B _ _ (by decide +kernel)

/-- The hypotheses of `C05_offseason_frame` hold for this instance, and so does its conclusion. -/
example :
    schedAt c05OffCfg.spreadSched 0 = false ∧ c05OffLand.inv ∧
    GensDomainAlong (stepGens c05OffCfg c05OffInp 0) c05OffLand ∧
    runStepHosts c05OffCfg c05OffInp 0 c05OffLand = .ok [⟨7, [0, 1], 1, 0, 1, [1, 0], 0, 9⟩] ∧
    offSeasonFrame c05OffLand [⟨7, [0, 1], 1, 0, 1, [1, 0], 0, 9⟩] = true ∧
    ActionKind.stepForward ∉ (plan c05OffCfg 0).map (·.1) := by
  have hns : schedAt c05OffCfg.spreadSched 0 = false := rfl
  have hinv : c05OffLand.inv := Land.inv_of_B _ (by decide)
  exact ⟨hns, hinv, c05Off_domain, c05Off_run,
    C05_offseason_frame c05OffCfg c05OffInp 0 c05OffLand _ hns hinv c05Off_domain c05Off_run,
    C05_no_ageing_outside_spread_steps c05OffCfg 0 hns⟩

/-- The same instance satisfies the hypotheses of `C01_model_step` (SEI, survival rate, removal
    treatment and mortality in one step): 19 hosts before, 9 after, none reported dead in this step,
    10 removed by the treatment. -/
example :
    let l' : Land := [⟨7, [0, 1], 1, 0, 1, [1, 0], 0, 9⟩]
    l'.hosts = c05OffLand.hosts - (l'.died - c05OffLand.died) -
        removedByGens (stepGens c05OffCfg c05OffInp 0) c05OffLand ∧
    l'.hosts ≤ c05OffLand.hosts := by
  intro l'
  have hinv : c05OffLand.inv := Land.inv_of_B _ (by decide)
  have hu : c05OffLand.uniform := Land.uniform_of_B _ (by decide)
  have := C01_model_step c05OffCfg c05OffInp 0 c05OffLand l' hinv hu c05Off_domain c05Off_run
  exact ⟨this.1, this.2.2.1⟩

/-- The per-operation statement on the same cell: survival rate 1/2 with valid draws. -/
example : ∃ c' : Cell,
    (CellOp.survival (1/2) [1, 1] [1, 1]).apply ⟨10, [2, 3], 4, 0, 5, [1, 3], 0, 19⟩ = .ok c' ∧
    exposedFrozen ⟨10, [2, 3], 4, 0, 5, [1, 3], 0, 19⟩ c' = true :=
  ⟨_, rfl, C05_offseason_op (.survival (1/2) [1, 1] [1, 1]) _ _ rfl
    ⟨half_in_unit.1, half_in_unit.2, fun _ =>
      ⟨by unfold ValidDraw; decide +kernel, by unfold ValidDraw; decide +kernel⟩⟩
    (by decide) rfl⟩

end Pops
