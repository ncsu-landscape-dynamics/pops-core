/-
  C01 / C09 at the granularity of a whole model step: `Model::run_step` modelled as the composition
  of its actions' operations (Model/RunStep.lean).
-/
import PopsModel.Model.RunStep
import PopsModel.Props.C01
import PopsModel.Props.C02
namespace Pops

/-- Any sequence of state-dependent actions conserves hosts: hosts after = hosts before - died -
    removed by treatments; consistency is kept. The domain hypothesis is taken ALONG THE RUN
    (`GensDomainAlong`: each action's operations are in their domain at the landscape that action
    finds). Asking for the domain at every consistent landscape instead would be unsatisfiable
    for SEI inputs (`uniform_domain_unsat_sei`: the latency step needs non-empty cohort vectors,
    and the empty-cohort landscape is consistent), i.e. vacuous there. -/
theorem C01_generators (gens : List OpGen) (l l' : Land) (hinv : l.inv) (hu : l.uniform)
    (hd : GensDomainAlong gens l)
    (h : runGens gens l = .ok l') :
    l'.hosts = l.hosts - (l'.died - l.died) - removedByGens gens l ∧
    0 ≤ removedByGens gens l ∧ l.died ≤ l'.died ∧ l'.hosts ≤ l.hosts ∧ l'.inv ∧ l'.uniform := by
  induction gens generalizing l with
  | nil =>
    cases h
    simp only [removedByGens]
    exact ⟨by omega, Int.le_refl 0, Int.le_refl _, Int.le_refl _, hinv, hu⟩
  | cons gen rest ih =>
    obtain ⟨m, h1, h⟩ := except_bind_ok h
    obtain ⟨a1, a2, a3, a4⟩ := C01_history (gen l) l m hinv hu hd.1 h1
    obtain ⟨b1, b2⟩ := C02_history (gen l) l m hinv hu hd.1 h1
    obtain ⟨c1, c2, c3, c4, c5, c6⟩ := ih m b1 b2 (hd.2 m h1) h
    simp only [removedByGens, h1]
    exact ⟨ledger_add a1 c1, Int.add_nonneg a2 c2, Int.le_trans a3 c3, Int.le_trans c4 a4, c5, c6⟩

/-- C01 per model step: over one `run_step`, for every combination of enabled and scheduled
    actions (the plan of C09), every input raster, kernel result and random draw in the documented
    domain along the run, hosts after = hosts before - the step's reported deaths - hosts removed
    by treatments, and no host is created. (A concrete SEI instance of the hypotheses and of the
    conclusion: Props/C05OffSeason.lean, `c05Off_domain`, `c05Off_run` and the example that follows them.) -/
theorem C01_model_step (cfg : StepCfg) (inp : StepInputs) (step : Nat) (l l' : Land)
    (hinv : l.inv) (hu : l.uniform)
    (hd : GensDomainAlong (stepGens cfg inp step) l)
    (h : runStepHosts cfg inp step l = .ok l') :
    l'.hosts = l.hosts - (l'.died - l.died) - removedByGens (stepGens cfg inp step) l ∧
    0 ≤ removedByGens (stepGens cfg inp step) l ∧ l'.hosts ≤ l.hosts ∧ l'.inv := by
  have := C01_generators (stepGens cfg inp step) l l' hinv hu hd h
  exact ⟨this.1, this.2.1, this.2.2.2.1, this.2.2.2.2.1⟩

/-- C09: the state after a model step is the state obtained by applying, one by one and in the
    documented order, exactly the actions that are enabled and scheduled; inputs of an action
    that does not run have no influence (the result is a function of the plan's generators only). -/
theorem C09_compose (cfg : StepCfg) (inp : StepInputs) (step : Nat) (l : Land) :
    runStepHosts cfg inp step l =
      runGens ((documentedOrder.filter (cfg.runs step)).map (actionGen inp step)) l := by
  simp [runStepHosts, stepGens, plan, List.map_map, Function.comp_def]

/-- Frame: two input records that agree on the generators of the actions that run give the same
    step; in particular temperatures, survival rates, movement rows, treatments, mortality
    parameters of disabled or unscheduled features are irrelevant. -/
theorem C09_frame_inputs (cfg : StepCfg) (inp inp' : StepInputs) (step : Nat) (l : Land)
    (h : ∀ a, cfg.runs step a = true → actionGen inp step a = actionGen inp' step a) :
    runStepHosts cfg inp step l = runStepHosts cfg inp' step l := by
  rw [C09_compose, C09_compose]
  congr 1
  apply List.map_congr_left
  intro a ha
  exact h a (List.mem_filter.mp ha).2

/-- The measurement actions and soil ageing never touch host rasters. -/
theorem C09_measurements_pure (inp : StepInputs) (step : Nat) (l : Land) :
    actionGen inp step .spreadRate l = [] ∧ actionGen inp step .quarantine l = [] ∧
    actionGen inp step .soilNext l = [] := ⟨rfl, rfl, rfl⟩

example : runGens [] ([] : Land) = .ok [] := rfl

end Pops
