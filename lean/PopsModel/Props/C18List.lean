/-
  C18, the link to the host pool: the infected sum computed over the suitable-cell list equals the
  sum of the infected raster whenever the list names every infected cell exactly once
  (`suitableListOK`).  The driver evaluates the conclusion - `infectedOverList = infectedOverRaster`
  - on the list and the rasters the implementation leaves after every host-pool operation.
-/
import PopsModel.Model.SuitList
namespace Pops

theorem sumL_perm {a b : List Int} (h : a.Perm b) : sumL a = sumL b := by
  induction h with
  | nil => rfl
  | cons x _ ih => rw [sumL_cons, sumL_cons, ih]
  | swap x y l => simp only [sumL_cons]; omega
  | trans _ _ ih1 ih2 => rw [ih1, ih2]

theorem sumL_filter_map (l : List Nat) (p : Nat → Bool) (f : Nat → Int) :
    sumL ((l.filter p).map f) = sumL (l.map fun k => if p k then f k else 0) := by
  induction l with
  | nil => rfl
  | cons x xs ih =>
    by_cases hp : p x = true
    · simp only [List.filter_cons, hp, if_true, List.map_cons, sumL_cons, ih]
    · simp only [List.filter_cons, hp, List.map_cons, sumL_cons]; simpa using ih

theorem C18_sum_over_suitable_list (inf : Nat → Int) (n : Nat) (suit : List Nat)
    (h : suitableListOK inf n suit = true) : infectedOverList inf suit = infectedOverRaster inf n := by
  simp only [suitableListOK, Bool.and_eq_true, decide_eq_true_eq, List.all_eq_true, Bool.or_eq_true,
    beq_iff_eq, List.contains_iff_mem, List.mem_range] at h
  obtain ⟨⟨hnd, hlt⟩, hcov⟩ := h
  have hperm : suit.Perm ((List.range n).filter fun k => suit.contains k) := by
    apply (List.perm_ext_iff_of_nodup hnd (List.nodup_range.filter _)).mpr
    intro a
    simp only [List.mem_filter, List.mem_range, List.contains_iff_mem]
    constructor
    · intro ha; exact ⟨hlt a ha, ha⟩
    · intro ha; exact ha.2
  unfold infectedOverList infectedOverRaster
  rw [sumL_perm (hperm.map inf), sumL_filter_map]
  congr 1
  apply List.map_congr_left
  intro k hk
  rw [List.mem_range] at hk
  by_cases hm : k ∈ suit
  · simp [hm]
  · rcases hcov k hk with h0 | h1
    · simp [h0]
    · exact absurd h1 hm

/-- Non-vacuity: a list with an appended cell (what a host move into an empty cell produces) is
    fine, a list naming a cell twice is rejected and really gives a different sum. -/
example : suitableListOK (fun k => [0, 2, 0, 5][k]!) 4 [1, 3, 0] = true := by decide
example : suitableListOK (fun k => [0, 2, 0, 5][k]!) 4 [1, 3, 3] = false := by decide
example : infectedOverList (fun k => [0, 2, 0, 5][k]!) [1, 3, 3] ≠ infectedOverRaster (fun k => [0, 2, 0, 5][k]!) 4 := by decide

end Pops
