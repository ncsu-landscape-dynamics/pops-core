/-
  C11, cohort-wise: "every infected host is dead at the latest tracker-length mortality steps
  after it was infected", position by position.

  `C11_eventual_death` and `C11_eventual_death_with_removals` conclude on sums. Here the same
  hypotheses give the statement for every position `k` of the tracker, via the shift-register view
  (Lemmas/C11Cohortwise.lean): a mortality step empties index 0 (`apply_mortality_at` takes the
  whole cohort at index 0, the rate share at indices `1 .. n - lag - 1`), moves every cohort one
  position down and puts the emptied one at the back (`step_forward_mortality` = rotate-left).
  Hence, `n = |mort|`:

   * the cohort at position `k` at the end sat at position `k + m` when `m` mortality steps were
     still to come (`C11_cohort_tracking`);
   * it was emptied at index 0 by the mortality step that has exactly `n - 1 - k` mortality steps
     after it, re-entering at position `n - 1` (`C11_generation_emptied`);
   * what it holds at the end is at most what was added to THIS generation afterwards,
     `addedAt n k ops`: an `add x` followed by `m` mortality steps counts iff `k + m = n - 1`
     (it goes to the youngest cohort), an `arrive d` followed by `m` steps counts `d[k + m]` iff
     `k + m < n` (`C11_eventual_death_cohortwise_with_removals`);
   * the cohort at position `j` at the START is at index 0 when the `(j + 1)`-th mortality step
     fires and is emptied by it (`C11_initial_cohort_emptied`): no individual that was in any cohort
     at the start is still in a cohort after `n` mortality steps.

  For the run of `C11_eventual_death` (mortality step, `adds[0]` infections, mortality step,
  `adds[1]`, ...) this reads `mort'[k] ≤ adds[k]` (`C11_eventual_death_cohortwise`).
  The counting theorems are the sums over the positions (`mortc_eventual_death`, and the second
  `example` below).

  Hypotheses: those of the counting theorems, minus the ones not needed position-wise
  (`mortOK`; `nonNeg` only for the mortality cohorts).
-/
import PopsModel.Props.C11Removals
import PopsModel.Lemmas.C11Cohortwise
namespace Pops

/-- **Tracking a cohort through any history** (no lower bound on the number of mortality steps).
    The cohort at position `k` at the end is the one that sat at position `k + mortSteps ops` at the
    start, if that position exists: it holds at most that content plus what was added to it.
    Otherwise it was emptied at index 0 on the way and holds at most what was added since. -/
theorem C11_cohort_tracking (c c' : Cell) (rate : Rat) (lag : Int) (ops : List MortOp)
    (hr0 : 0 < rate) (hr1 : rate ≤ 1) (hl0 : 0 ≤ lag) (hl : lag < c.mort.length)
    (hn : ∀ x ∈ c.mort, 0 ≤ x)
    (h : MortTrace (MortOp.rel rate lag) ops c c') (k : Nat) (hk : k < c.mort.length) :
    c'.mort[k]! ≤ (if k + mortSteps ops < c.mort.length then c.mort[k + mortSteps ops]! else 0)
      + addedAt c.mort.length k ops := by
  have _ := hk  -- not needed: positions beyond the tracker read 0 on both sides
  have := coh_tracking rate lag hr0 hr1 hl0 c' ops c hn hl h k
  split
  · exact this
  · rw [getElem!_eq_zero_of_le c.mort _ (Nat.le_of_not_lt ‹_›)] at this; exact this

/-- **Eventual death, cohort by cohort.** Rate in (0, 1], lag ≥ 0, tracker length `n > lag`,
    non-negative cohorts. After ANY history with at least `n` mortality steps that does not throw,
    every position `k` holds at most what was added to its generation after that generation was
    emptied at index 0 - nothing that was in the tracker before is left in it. -/
theorem C11_eventual_death_cohortwise_with_removals (c c' : Cell) (rate : Rat) (lag : Int)
    (ops : List MortOp)
    (hr0 : 0 < rate) (hr1 : rate ≤ 1) (hl0 : 0 ≤ lag) (hl : lag < c.mort.length)
    (hn : ∀ x ∈ c.mort, 0 ≤ x)
    (hsteps : c.mort.length ≤ mortSteps ops)
    (h : MortTrace (MortOp.rel rate lag) ops c c') :
    c'.mort.length = c.mort.length ∧
    ∀ k : Nat, k < c.mort.length →
      0 ≤ c'.mort[k]! ∧ c'.mort[k]! ≤ addedAt c.mort.length k ops := by
  obtain ⟨g1, g2, _⟩ := mortc_trace_facts rate lag hr0 hr1 hl0 c' ops c hn hl h
  refine ⟨g2, fun k hk => ⟨getElem!_nonneg (l := c'.mort) g1 k, ?_⟩⟩
  have := coh_tracking rate lag hr0 hr1 hl0 c' ops c hn hl h k
  rw [getElem!_eq_zero_of_le c.mort _ (Nat.le_trans hsteps (Nat.le_add_left _ _)), Int.zero_add] at this
  exact this

/-- **When the generation at final position `k` was emptied.** Under the same hypotheses the
    history splits at the mortality step that has exactly `n - 1 - k` mortality steps after it:
    that step leaves the emptied cohort at the back (position `n - 1`, content 0), the `n - 1 - k`
    later steps bring it to position `k`, nothing before that step counts for it, and it ends with
    at most what the rest of the history added to it. -/
theorem C11_generation_emptied (c c' : Cell) (rate : Rat) (lag : Int) (ops : List MortOp)
    (hr0 : 0 < rate) (hr1 : rate ≤ 1) (hl0 : 0 ≤ lag) (hl : lag < c.mort.length)
    (hn : ∀ x ∈ c.mort, 0 ≤ x)
    (hsteps : c.mort.length ≤ mortSteps ops)
    (h : MortTrace (MortOp.rel rate lag) ops c c') (k : Nat) (hk : k < c.mort.length) :
    ∃ pre post c0 c1, ops = pre ++ MortOp.mortality :: post ∧
      mortSteps post = c.mort.length - 1 - k ∧
      MortTrace (MortOp.rel rate lag) pre c c0 ∧ (CellOp.mortality rate lag).apply c0 = .ok c1 ∧
      MortTrace (MortOp.rel rate lag) post c1 c' ∧
      c1.mort.length = c.mort.length ∧ c1.mort[c.mort.length - 1]! = 0 ∧
      addedAt c.mort.length k ops = addedAt c.mort.length k post ∧
      c'.mort[k]! ≤ addedAt c.mort.length k post := by
  obtain ⟨pre, post, c0, c1, e, hm, t1, r, t2, _, b1, hlen1, hz⟩ :=
    coh_split_emptied rate lag hr0 hr1 hl0 c c' ops hl hn h (c.mort.length - 1 - k) (by omega)
  have hadd : addedAt c.mort.length k ops = addedAt c.mort.length k post := by
    rw [e, coh_addedAt_append c.mort.length k pre (MortOp.mortality :: post)
      (by simp only [mortSteps]; omega)]
    simp only [addedAt, MortOp.addedAt, Int.zero_add]
  have htr := coh_tracking rate lag hr0 hr1 hl0 c' post c1 b1 (by rw [hlen1]; exact hl) t2 k
  rw [hlen1, hm, Nat.add_sub_cancel' (Nat.le_sub_one_of_lt hk), hz, Int.zero_add] at htr
  exact ⟨pre, post, c0, c1, e, hm, t1, r, t2, hlen1, hz, hadd, htr⟩

/-- **Every cohort present at the start is emptied.** With at least `n` mortality steps, the
    cohort at start position `j` reaches index 0 just before the `(j + 1)`-th mortality step (with
    at most its content plus what was added to it on the way) and that step empties it: it
    re-enters at the back with content 0. -/
theorem C11_initial_cohort_emptied (c c' : Cell) (rate : Rat) (lag : Int) (ops : List MortOp)
    (hr0 : 0 < rate) (hr1 : rate ≤ 1) (hl0 : 0 ≤ lag) (hl : lag < c.mort.length)
    (hn : ∀ x ∈ c.mort, 0 ≤ x)
    (hsteps : c.mort.length ≤ mortSteps ops)
    (h : MortTrace (MortOp.rel rate lag) ops c c') (j : Nat) (hj : j < c.mort.length) :
    ∃ pre post c0 c1, ops = pre ++ MortOp.mortality :: post ∧ mortSteps pre = j ∧
      MortTrace (MortOp.rel rate lag) pre c c0 ∧ (CellOp.mortality rate lag).apply c0 = .ok c1 ∧
      MortTrace (MortOp.rel rate lag) post c1 c' ∧
      c0.mort[0]! ≤ c.mort[j]! + addedAt c.mort.length 0 pre ∧
      c1.mort[c.mort.length - 1]! = 0 := by
  obtain ⟨pre, post, c0, c1, e, hm, t1, r, t2, _, _, _, hz⟩ :=
    coh_split_emptied rate lag hr0 hr1 hl0 c c' ops hl hn h (mortSteps ops - 1 - j) (by omega)
  have hpre : mortSteps pre = j := by
    have := mortSteps_append pre (MortOp.mortality :: post)
    rw [← e] at this
    simp only [mortSteps] at this
    omega
  have htr := coh_tracking rate lag hr0 hr1 hl0 c0 pre c hn hl t1 0
  rw [hpre, Nat.zero_add] at htr
  exact ⟨pre, post, c0, c1, e, hpre, t1, r, t2, htr, hz⟩

/-! ### the counting theorem is the sum over the positions -/

/-- The statement of `C11_eventual_death_with_removals`: its proof (`mortc_eventual_death`) sums
    the position-wise bounds of the cohort-wise theorem and uses the balance of the history. -/
example (c c' : Cell) (rate : Rat) (lag : Int) (ops : List MortOp)
    (hr0 : 0 < rate) (hr1 : rate ≤ 1) (hl0 : 0 ≤ lag) (hl : lag < c.mort.length)
    (hn : ∀ x ∈ c.mort, 0 ≤ x) (hm : c.mortOK = true)
    (hsteps : c.mort.length ≤ mortSteps ops)
    (h : MortTrace (MortOp.rel rate lag) ops c c') :
    sumL c'.mort ≤ addedBy (lastMortWindow c.mort.length ops) ∧
    c.i - removedBy ops ≤ c'.died - c.died ∧
    c'.died + sumL c'.mort = c.died + c.i + addedBy ops - removedBy ops :=
  C11_eventual_death_with_removals c c' rate lag ops hr0 hr1 hl0 hl hn hm hsteps h

/-! ### the run of `C11_eventual_death` -/

/-- In the history "mortality step, `adds[0]`, mortality step, `adds[1]`, ..." the generation that
    ends at position `k` receives exactly the infections after mortality step `k + 1 + (n - |adds|)`. -/
theorem C11_interleaved_addedAt (n k : Nat) (hk : k < n) : ∀ (adds : List Int), adds.length ≤ n →
    addedAt n k (interleavedAdds adds) =
      if n ≤ k + adds.length then adds[k + adds.length - n]! else 0
  | [], _ => by
    rw [if_neg (Nat.not_le.mpr hk : ¬ n ≤ k + ([] : List Int).length)]; rfl
  | a :: rest, hlen => by
    have hms := (interleavedAdds_facts rest).1
    have hstep : addedAt n k (interleavedAdds (a :: rest)) =
        (if k + rest.length + 1 = n then a else 0) + addedAt n k (interleavedAdds rest) := by
      simp only [interleavedAdds, addedAt, MortOp.addedAt, hms, Int.zero_add]
    rw [hstep, C11_interleaved_addedAt n k hk rest (Nat.le_of_succ_le hlen), List.length_cons]
    by_cases h1 : k + rest.length + 1 = n
    · -- this very addition is the one that counts: it is followed by `n - 1 - k` steps
      rw [if_pos h1, if_neg (h1 ▸ Nat.not_succ_le_self _), if_pos (show n ≤ k + (rest.length + 1) from Nat.le_of_eq h1.symm),
        show k + (rest.length + 1) - n = 0 from h1 ▸ Nat.sub_self _, List.getElem!_cons_zero,
        Int.add_zero]
    · rw [if_neg h1, Int.zero_add]
      by_cases h2 : n ≤ k + rest.length
      · rw [if_pos h2, if_pos (show n ≤ k + (rest.length + 1) from Nat.le_succ_of_le h2),
          show k + (rest.length + 1) - n = (k + rest.length - n) + 1 from Nat.succ_sub h2,
          List.getElem!_cons_succ]
      · rw [if_neg h2, if_neg (show ¬ n ≤ k + (rest.length + 1) from
          fun h => h1 (Nat.le_antisymm (Nat.lt_of_not_le h2) h))]

/-- **`C11_eventual_death`, cohort by cohort.** After tracker-length mortality steps, each followed
    by `adds[j]` new infections, the cohort at position `k` holds at most the hosts infected after
    mortality step `k + 1`: `mort'[k] ≤ adds[k]`. The initial cohorts do not occur in the bound:
    nothing of them is left. -/
theorem C11_eventual_death_cohortwise (c c' : Cell) (rate : Rat) (lag : Int) (adds : List Int)
    (hr0 : 0 < rate) (hr1 : rate ≤ 1) (hl0 : 0 ≤ lag) (hl : lag < c.mort.length)
    (hn : ∀ x ∈ c.mort, 0 ≤ x)
    (hadds : ∀ a ∈ adds, 0 ≤ a) (hlen : adds.length = c.mort.length)
    (h : mortalityRun rate lag adds c = .ok c') :
    c'.mort.length = c.mort.length ∧
    ∀ k : Nat, k < c.mort.length → 0 ≤ c'.mort[k]! ∧ c'.mort[k]! ≤ adds[k]! := by
  have htr := mortalityRun_trace rate lag adds c c' hadds h
  obtain ⟨f1, _, _⟩ := interleavedAdds_facts adds
  obtain ⟨g1, g2⟩ := C11_eventual_death_cohortwise_with_removals c c' rate lag (interleavedAdds adds)
    hr0 hr1 hl0 hl hn (by rw [f1, hlen]; exact Nat.le_refl _) htr
  refine ⟨g1, fun k hk => ?_⟩
  have e := C11_interleaved_addedAt c.mort.length k hk adds (Nat.le_of_eq hlen)
  rw [hlen, if_pos (Nat.le_add_left _ _), Nat.add_sub_cancel] at e
  rw [← e]; exact g2 k hk

/-- The statement of `C11_eventual_death`, derived from the cohort-wise theorem. -/
example (c c' : Cell) (rate : Rat) (lag : Int) (adds : List Int)
    (hr0 : 0 < rate) (hr1 : rate ≤ 1) (hl0 : 0 ≤ lag) (hl : lag < c.mort.length)
    (hn : c.nonNeg = true) (hm : c.mortOK = true)
    (hadds : ∀ a ∈ adds, 0 ≤ a) (hlen : adds.length = c.mort.length)
    (h : mortalityRun rate lag adds c = .ok c') :
    sumL c'.mort ≤ sumL adds ∧ c.i ≤ c'.died - c.died := by
  obtain ⟨_, _, _, _, _, hmn, _, _⟩ := (nonNeg_iff c).mp hn
  obtain ⟨g1, g2⟩ := C11_eventual_death_cohortwise c c' rate lag adds hr0 hr1 hl0 hl hmn hadds hlen h
  have h1 : sumL c'.mort ≤ sumL adds := by
    rw [sr_list c'.mort, sr_list adds, g1, hlen]
    exact sr_le _ _ _ (fun k hk => (g2 k hk).2)
  have htr := mortalityRun_trace rate lag adds c c' hadds h
  obtain ⟨_, f2, f3⟩ := interleavedAdds_facts adds
  obtain ⟨_, _, hbal⟩ := mortc_trace_facts rate lag hr0 hr1 hl0 c' _ c hmn hl htr
  rw [f2, f3] at hbal
  have hm' := (mortOK_iff c).mp hm
  exact ⟨h1, by omega⟩

/-! ### instances -/

/-- Two cohorts `[3, 2]`, rate 1/2, lag 0; two mortality steps followed by 2 and by 1 new
    infections. The run ends with cohorts `[1, 1]`: position 0 holds 1 of the 2 hosts infected after
    the first step (the other died at the rate), position 1 the host infected after the second. -/
example :
    let c : Cell := ⟨20, [], 5, 0, 0, [3, 2], 0, 25⟩
    ∃ c', mortalityRun (1 / 2) 0 [2, 1] c = .ok c' ∧ c'.mort = [1, 1] ∧
      (∀ k : Nat, k < 2 → 0 ≤ c'.mort[k]! ∧ c'.mort[k]! ≤ [(2 : Int), 1][k]!) := by
  intro c
  have hrun : mortalityRun (1 / 2) 0 [2, 1] c = .ok ⟨17, [], 2, 0, 0, [1, 1], 6, 19⟩ :=
    mortc_ok_of_check (by decide +kernel)
  exact ⟨_, hrun, rfl, (C11_eventual_death_cohortwise c _ (1 / 2) 0 [2, 1] (by decide +kernel)
    (by decide +kernel) (by decide) (by decide) (by decide) (by decide) rfl hrun).2⟩

/-- The same cell and a history with an early addition, a removal, an arrival in both cohorts and
    a late addition around three mortality steps. It ends with cohorts `[1, 3]`. The generation at
    position 0 was emptied by the second mortality step and received `[1, 1][1] = 1` host from the
    arrival (one step before the end, i.e. at position 1); the generation at position 1 was
    emptied by the last step and received the 3 late hosts: `addedAt = [1, 3]`, and the bound is
    attained. The host that arrived at position 0 and the early addition are gone. Summed:
    `4 ≤ 5 =` what was added from the second mortality step on. -/
example :
    let c : Cell := ⟨20, [], 5, 0, 0, [3, 2], 0, 25⟩
    let ops : List MortOp :=
      [.add 1, .mortality, .remove [1, 0], .mortality, .arrive [1, 1], .mortality, .add 3]
    ∃ c', MortTrace (MortOp.rel (1 / 2) 0) ops c c' ∧ c'.mort = [1, 3] ∧
      addedAt 2 0 ops = 1 ∧ addedAt 2 1 ops = 3 ∧ addedBy (lastMortWindow 2 ops) = 5 ∧
      (∀ k : Nat, k < 2 → 0 ≤ c'.mort[k]! ∧ c'.mort[k]! ≤ addedAt 2 k ops) := by
  intro c ops
  have hrun : mortHistory (1 / 2) 0 ops c = .ok ⟨16, [], 4, 0, 0, [1, 3], 6, 20⟩ :=
    mortc_ok_of_check (by decide +kernel)
  have htr := MortTrace.mono (R' := MortOp.rel (1 / 2) 0) (fun _ _ _ hR => hR.1) ops c _
    (mortHistory_trace (1 / 2) 0 _ ops c (by decide +kernel) hrun)
  refine ⟨_, htr, by decide, by decide, by decide, by decide, ?_⟩
  exact (C11_eventual_death_cohortwise_with_removals c _ (1 / 2) 0 ops (by decide +kernel)
    (by decide +kernel) (by decide) (by decide) (by decide) (by decide) htr).2

end Pops
