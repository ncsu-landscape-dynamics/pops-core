/-
  The per-step theorems lifted to WHOLE RUNS of `Model::run_step` (Model/RunModel.lean): any number
  of steps, any calendar (any `StepCfg`: every combination of enabled features and schedules), any
  first step, and for every step its own input rasters, kernel results and random draws.

  * `C01_run`            hosts are conserved over any run (only mortality and removal treatments
                         take hosts out, nothing creates hosts);
  * `C02_C03_run`        after any run, and after every prefix of it, every count is non-negative and
                         every total equals the sum of its parts, in every cell;
  * `C05_offseason_run`  over an entire off-season, however long and whatever else happens in it,
                         no exposed cohort grows, nothing ages and nothing matures;
  * `C09_run_prefix`, `C09_run_frame`  a run is the composition of its steps, and inputs of
                         disabled or unscheduled features never matter.

  Domain hypothesis: `RunDomainAlong` - each step's operations are in their documented domain at
  the landscape that step finds (ratios in [0,1], valid draws, cohort vectors present).
-/
import PopsModel.Lemmas.RunModel
import PopsModel.Props.C05OffSeason
namespace Pops

/-- C01 over whole runs: for every configuration, every list of step inputs of any length and
    every first step, hosts after the run = hosts before - deaths reported during the run - hosts
    removed by treatments during the run; the removed count is non-negative, the death counter only
    grows, and no host is ever created. -/
theorem C01_run (cfg : StepCfg) (inps : List StepInputs) (first : Nat) (l l' : Land)
    (hinv : l.inv) (hu : l.uniform) (hd : RunDomainAlong cfg inps first l)
    (h : runModel cfg inps first l = .ok l') :
    l'.hosts = l.hosts - (l'.died - l.died) - removedByRun cfg inps first l ∧
    0 ≤ removedByRun cfg inps first l ∧ l.died ≤ l'.died ∧ l'.hosts ≤ l.hosts := by
  have := run_facts cfg inps first l l' hinv hu hd h
  exact ⟨this.1, this.2.1, this.2.2.1, this.2.2.2.1⟩

/-- C02/C03 after every prefix, as an implication: whatever landscape a prefix of a run in its
    domain reaches, it is consistent (no need for the rest of the run to succeed). -/
theorem C02_C03_run_prefix (cfg : StepCfg) (inps : List StepInputs) (first : Nat) (l : Land)
    (hinv : l.inv) (hu : l.uniform) (hd : RunDomainAlong cfg inps first l) (k : Nat) (m : Land)
    (hm : runModel cfg (inps.take k) first l = .ok m) : m.inv ∧ m.uniform := by
  rw [← List.take_append_drop k inps] at hd
  have hk := run_facts cfg (inps.take k) first l m hinv hu
    (runDomainAlong_append_left cfg _ _ first l hd) hm
  exact ⟨hk.2.2.2.2.1, hk.2.2.2.2.2⟩

/-- C02/C03 over whole runs: after ANY run every count of every cell is non-negative and every
    total equals the sum of its parts (`inv`), the cohort vectors keep a common length (`uniform`);
    and the same holds after every prefix of the run - each prefix `inps.take k` runs successfully
    to a landscape `m` with `m.inv ∧ m.uniform` (for `k ≥ inps.length` that is `l'` itself). -/
theorem C02_C03_run (cfg : StepCfg) (inps : List StepInputs) (first : Nat) (l l' : Land)
    (hinv : l.inv) (hu : l.uniform) (hd : RunDomainAlong cfg inps first l)
    (h : runModel cfg inps first l = .ok l') :
    (l'.inv ∧ l'.uniform) ∧
    ∀ k, ∃ m, runModel cfg (inps.take k) first l = .ok m ∧ m.inv ∧ m.uniform := by
  have hf := run_facts cfg inps first l l' hinv hu hd h
  refine ⟨⟨hf.2.2.2.2.1, hf.2.2.2.2.2⟩, fun k => ?_⟩
  rw [← List.take_append_drop k inps] at h
  obtain ⟨m, hm, _⟩ := runModel_append_inv cfg _ _ first l l' h
  exact ⟨m, hm, C02_C03_run_prefix cfg inps first l hinv hu hd k m hm⟩

/-- C05 over a whole off-season: if NO step of the run is a spread step then, however long the
    run is and whatever else is enabled and scheduled in it (lethal temperature, survival rate,
    treatments, mortality, measurements), the final landscape has the same cells, in each of them
    no exposed cohort grew, the cohort vector kept its length and infected did not grow: nothing
    aged, nothing matured. (Uniform cohort lengths across cells are not needed.) -/
theorem C05_offseason_run (cfg : StepCfg) (inps : List StepInputs) (first : Nat) (l l' : Land)
    (hns : ∀ k, k < inps.length → schedAt cfg.spreadSched (first + k) = false)
    (hinv : l.inv) (hd : RunDomainAlong cfg inps first l)
    (h : runModel cfg inps first l = .ok l') :
    offSeasonFrame l l' = true :=
  (offSeasonFrame_iff l l').mpr (run_frozen cfg inps first l l' hns hinv hd h).1

/-- C09 over runs: a run is the composition of its steps - running the steps of `a` followed by
    those of `b` is running `a` and then, from the landscape it leaves and at the step after its
    last one, running `b` (an error in `a` is the error of the whole run). -/
theorem C09_run_prefix (cfg : StepCfg) (a b : List StepInputs) (first : Nat) (l : Land) :
    runModel cfg (a ++ b) first l =
      (runModel cfg a first l >>= fun m => runModel cfg b (first + a.length) m) :=
  runModel_append cfg a b first l

/-- The same for the removed-host count and for the domain hypothesis. -/
theorem C09_run_prefix_removed (cfg : StepCfg) (a b : List StepInputs) (first : Nat) (l m : Land)
    (h : runModel cfg a first l = .ok m) :
    removedByRun cfg (a ++ b) first l =
      removedByRun cfg a first l + removedByRun cfg b (first + a.length) m :=
  removedByRun_append cfg a b first l m h

theorem C09_run_prefix_domain (cfg : StepCfg) (a b : List StepInputs) (first : Nat) (l : Land) :
    RunDomainAlong cfg (a ++ b) first l ↔
      (RunDomainAlong cfg a first l ∧
        ∀ m, runModel cfg a first l = .ok m → RunDomainAlong cfg b (first + a.length) m) :=
  runDomainAlong_append_iff cfg a b first l

/-- C09 frame over runs: two lists of step inputs of the same length that agree, step by step,
    on the generators of the actions that run at that step give the same run: temperatures,
    survival rates, movement rows, treatments, mortality parameters, kernel results and draws of
    features that are disabled, or not scheduled at the step they are supplied for, never matter. -/
theorem C09_run_frame (cfg : StepCfg) (inps inps' : List StepInputs) (first : Nat) (l : Land)
    (hlen : inps.length = inps'.length)
    (h : ∀ k inp inp', inps[k]? = some inp → inps'[k]? = some inp' →
      ∀ a, cfg.runs (first + k) a = true →
        actionGen inp (first + k) a = actionGen inp' (first + k) a) :
    runModel cfg inps first l = runModel cfg inps' first l :=
  (run_frame cfg inps inps' first l hlen h).1

/-- Under the same hypothesis the removed-host count and the domain hypothesis agree as well. -/
theorem C09_run_frame_removed (cfg : StepCfg) (inps inps' : List StepInputs) (first : Nat) (l : Land)
    (hlen : inps.length = inps'.length)
    (h : ∀ k inp inp', inps[k]? = some inp → inps'[k]? = some inp' →
      ∀ a, cfg.runs (first + k) a = true →
        actionGen inp (first + k) a = actionGen inp' (first + k) a) :
    removedByRun cfg inps first l = removedByRun cfg inps' first l ∧
    (RunDomainAlong cfg inps first l ↔ RunDomainAlong cfg inps' first l) :=
  (run_frame cfg inps inps' first l hlen h).2

/-! ### a non-trivial instance: an SEI run (latency 1) on a 1x2 landscape

  step 0  off-season: survival rate 1/2 at both cells, a host-removal treatment with coefficient
          1/2 at cell 0, mortality with rate 1/2 (one host dies at cell 1);
  step 1  spread step: a disperser lands at cell 1 and establishes (u = 1/2 < 7/8), one lands at
          cell 0 and does not (u = 9/10 ≥ 7/9); the latency step matures the oldest exposed cohort
          of both cells; overpopulation sends one pest from cell 0 to cell 1; a host movement takes
          one susceptible and one exposed host from cell 1 to cell 0;
  step 2  off-season: survival rate 1/2, a removal treatment (1/2) at cell 1 and a pesticide
          treatment (1/2) at cell 0, mortality with rate 1/2 (one host dies at cell 0);
  step 3  off-season (used for the two-step off-season run 2..3): survival rate 0 at cell 0
          removes its last exposed host, the pesticide treatment ends.

  28 hosts before, 12 after; 2 died, 14 removed by the treatments. -/

def runSeiCfg : StepCfg :=
  { soils := false, useLethal := false, lethalSched := [], useSurvival := true,
    survivalSched := [true, false, true, true], spreadSched := [false, true, false, false],
    useOverpop := true, useMovements := true, useTreatments := true, useMortality := true,
    mortalitySched := [true, false, true, false], useSpreadRates := false, rateSched := [],
    useQuarantine := false, quarantineSched := [] }

/-- `c05OffInp` extended to two cells. -/
def runSeiInp0 : StepInputs :=
  { c05OffInp with
    g := ⟨1, 2⟩, suit := [(0, 0), (0, 1)], survivalRates := [1/2, 1/2],
    survivalDrawsI := [[1, 1], [0, 1]], survivalDrawsE := [[0, 2], [0, 0]],
    treatEvents := [(false, false, .ratio, [1/2, 0])] }

def runSeiInp1 : StepInputs :=
  { g := ⟨1, 2⟩, mt := .sei, latency := 1, suit := [(0, 0), (0, 1)], lethalThreshold := 0,
    temperatures := [], lethalDraws := [], survivalRates := [], survivalDrawsI := [],
    survivalDrawsE := [],
    landings := [(1, ⟨8, none, none⟩, 1/2), (0, ⟨9, none, none⟩, 9/10)], stochasticEst := true,
    pEst := 0, overThreshold := 1/5, overLeaving := 1/2, overTargets := [(0, 1)],
    moves := [(1, 0, 2, ⟨0, 1, 1, 0⟩, [1, 0], [0, 0])], treatEvents := [],
    mortalityRate := 0, mortalityLag := 0 }

def runSeiInp2 : StepInputs :=
  { runSeiInp0 with
    survivalDrawsI := [[0, 0], [0, 1]], survivalDrawsE := [[0, 0], [0, 0]],
    treatEvents := [(false, false, .ratio, [0, 1/2]), (false, true, .ratio, [1/2, 0])] }

def runSeiInp3 : StepInputs :=
  { runSeiInp0 with
    survivalRates := [0, 1], survivalDrawsI := [[0, 0], [0, 0]], survivalDrawsE := [[1, 0], [0, 0]],
    treatEvents := [(true, true, .ratio, [1/2, 0])] }

def runSeiLand0 : Land := [⟨10, [2, 3], 4, 0, 5, [1, 3], 0, 19⟩, ⟨6, [1, 0], 2, 0, 1, [1, 1], 0, 9⟩]
def runSeiLand1 : Land := [⟨7, [1, 0], 1, 0, 1, [1, 0], 0, 9⟩, ⟨7, [1, 0], 0, 0, 1, [0, 0], 1, 8⟩]
def runSeiLand2 : Land := [⟨9, [1, 0], 1, 0, 1, [1, 1], 0, 11⟩, ⟨4, [0, 0], 2, 0, 0, [0, 1], 1, 6⟩]
def runSeiLand3 : Land := [⟨5, [1, 0], 0, 4, 1, [1, 0], 1, 10⟩, ⟨2, [0, 0], 0, 0, 0, [0, 0], 1, 2⟩]
def runSeiLand4 : Land := [⟨10, [0, 0], 0, 0, 0, [1, 0], 1, 10⟩, ⟨2, [0, 0], 0, 0, 0, [0, 0], 1, 2⟩]

theorem runSei_inv : runSeiLand0.inv := Land.inv_of_B _ (by decide)
theorem runSei_inv2 : runSeiLand2.inv := Land.inv_of_B _ (by decide)
theorem runSei_uniform : runSeiLand0.uniform := Land.uniform_of_B _ (by decide)

/-- What each step executes: the spread step has the landing, the latency step, overpopulation
    and the host movement; the off-season steps have none of them. -/
theorem runSei_plans :
    (plan runSeiCfg 0).map (·.1) = [.survival, .treatments, .mortality] ∧
    (plan runSeiCfg 1).map (·.1) = [.spread, .stepForward, .overpopulation, .movement, .treatments] ∧
    (plan runSeiCfg 2).map (·.1) = [.survival, .treatments, .mortality] ∧
    (plan runSeiCfg 3).map (·.1) = [.survival, .treatments] := by decide +kernel

theorem runSei_step0 : runStepHosts runSeiCfg runSeiInp0 0 runSeiLand0 = .ok runSeiLand1 :=
  eq_ok_of_yields (by decide +kernel)
theorem runSei_step1 : runStepHosts runSeiCfg runSeiInp1 1 runSeiLand1 = .ok runSeiLand2 :=
  eq_ok_of_yields (by decide +kernel)
theorem runSei_step2 : runStepHosts runSeiCfg runSeiInp2 2 runSeiLand2 = .ok runSeiLand3 :=
  eq_ok_of_yields (by decide +kernel)
/-- Step 3, from the landscape the 3-step run leaves. -/
theorem runSei_run3 : runModel runSeiCfg [runSeiInp3] 3 runSeiLand3 = .ok runSeiLand4 :=
  eq_ok_of_yields (by decide +kernel)

/-- The 3-step run evaluates to a concrete landscape, in its domain all along. -/
theorem runSei_run :
    runModel runSeiCfg [runSeiInp0, runSeiInp1, runSeiInp2] 0 runSeiLand0 = .ok runSeiLand3 := by
  rw [runModel_cons_ok _ _ _ _ _ _ runSei_step0, runModel_cons_ok _ _ _ _ _ _ runSei_step1,
    runModel_cons_ok _ _ _ _ _ _ runSei_step2]
  rfl

theorem runSei_domain :
    RunDomainAlong runSeiCfg [runSeiInp0, runSeiInp1, runSeiInp2] 0 runSeiLand0 :=
  runDomainAlong_of_B _ _ _ _ (by decide +kernel)

theorem runSei_domain3 : RunDomainAlong runSeiCfg [runSeiInp3] 3 runSeiLand3 :=
  runDomainAlong_of_B _ _ _ _ (by decide +kernel)

theorem runSei_removed :
    removedByRun runSeiCfg [runSeiInp0, runSeiInp1, runSeiInp2] 0 runSeiLand0 = 14 := by
  decide +kernel

/-- `C01_run` at the instance: 28 hosts before, 12 after, 2 died, 14 removed. -/
example :
    runSeiLand0.hosts = 28 ∧ runSeiLand3.hosts = 12 ∧ runSeiLand0.died = 0 ∧ runSeiLand3.died = 2 ∧
    runSeiLand3.hosts = runSeiLand0.hosts - (runSeiLand3.died - runSeiLand0.died) -
      removedByRun runSeiCfg [runSeiInp0, runSeiInp1, runSeiInp2] 0 runSeiLand0 ∧
    0 ≤ removedByRun runSeiCfg [runSeiInp0, runSeiInp1, runSeiInp2] 0 runSeiLand0 ∧
    runSeiLand0.died ≤ runSeiLand3.died ∧ runSeiLand3.hosts ≤ runSeiLand0.hosts := by
  have := C01_run runSeiCfg _ 0 runSeiLand0 runSeiLand3 runSei_inv runSei_uniform runSei_domain
    runSei_run
  exact ⟨by decide, by decide, by decide, by decide, this⟩

/-- `C09_run_prefix` / `C09_run_prefix_domain` at the instance: the run is step 0, then the spread
    step, then step 2; the whole run's domain gives that of the two off-season sub-runs. -/
theorem runSei_split :
    runModel runSeiCfg [runSeiInp0] 0 runSeiLand0 = .ok runSeiLand1 ∧
    runModel runSeiCfg [runSeiInp1] 1 runSeiLand1 = .ok runSeiLand2 ∧
    runModel runSeiCfg [runSeiInp2] 2 runSeiLand2 = .ok runSeiLand3 ∧
    RunDomainAlong runSeiCfg [runSeiInp0] 0 runSeiLand0 ∧
    RunDomainAlong runSeiCfg [runSeiInp2] 2 runSeiLand2 := by
  have r0 : runModel runSeiCfg [runSeiInp0] 0 runSeiLand0 = .ok runSeiLand1 :=
    (runModel_single _ _ _ _).trans runSei_step0
  have r1 : runModel runSeiCfg [runSeiInp1] 1 runSeiLand1 = .ok runSeiLand2 :=
    (runModel_single _ _ _ _).trans runSei_step1
  have r01 : runModel runSeiCfg ([runSeiInp0] ++ [runSeiInp1]) 0 runSeiLand0 = .ok runSeiLand2 := by
    rw [C09_run_prefix, r0]
    exact r1
  have hd := (C09_run_prefix_domain runSeiCfg [runSeiInp0, runSeiInp1] [runSeiInp2] 0 runSeiLand0).mp
    runSei_domain
  exact ⟨r0, r1, (runModel_single _ _ _ _).trans runSei_step2,
    ((C09_run_prefix_domain runSeiCfg [runSeiInp0] [runSeiInp1] 0 runSeiLand0).mp hd.1).1,
    hd.2 runSeiLand2 r01⟩

/-- `C02_C03_run` and `C02_C03_run_prefix` at the instance: the final landscape and the landscape after each prefix (0, 1, 2, 3
    steps) are consistent; the prefix of 2 steps ends in `runSeiLand2`. -/
example :
    (runSeiLand3.inv ∧ runSeiLand3.uniform) ∧ (runSeiLand2.inv ∧ runSeiLand2.uniform) ∧
    ∀ k, ∃ m, runModel runSeiCfg ([runSeiInp0, runSeiInp1, runSeiInp2].take k) 0 runSeiLand0 = .ok m ∧
      m.inv ∧ m.uniform := by
  have h := C02_C03_run runSeiCfg _ 0 runSeiLand0 runSeiLand3 runSei_inv runSei_uniform
    runSei_domain runSei_run
  exact ⟨h.1, C02_C03_run_prefix runSeiCfg _ 0 runSeiLand0 runSei_inv runSei_uniform runSei_domain
    2 runSeiLand2 ((runModel_append_ok runSeiCfg [runSeiInp1] runSei_split.1).trans runSei_split.2.1),
    h.2⟩

/-- `C05_offseason_run` at the two off-season sub-runs (step 0 alone, step 2 alone): the exposed cohorts
    only shrink there, [2,3] -> [1,0] and [1,0] -> [1,0] at cell 0 - while the whole run, which
    contains a spread step, is NOT frozen (infected grows at cell 1 from 0 to 2 in step 1). -/
example :
    offSeasonFrame runSeiLand0 runSeiLand1 = true ∧ offSeasonFrame runSeiLand2 runSeiLand3 = true ∧
    offSeasonFrame runSeiLand1 runSeiLand2 = false := by
  obtain ⟨r0, _, r2, d0, d2⟩ := runSei_split
  exact ⟨C05_offseason_run runSeiCfg [runSeiInp0] 0 runSeiLand0 runSeiLand1 (by decide) runSei_inv d0 r0,
    C05_offseason_run runSeiCfg [runSeiInp2] 2 runSeiLand2 runSeiLand3 (by decide) runSei_inv2 d2 r2,
    by decide⟩

/-- `C05_offseason_run` on an off-season run of two steps (steps 2 and 3, after the spread step): survival
    rate, two treatments and mortality in step 2, survival rate and the end of the pesticide
    treatment in step 3; the exposed cohorts of cell 0 go [1,0] -> [1,0] -> [0,0]. -/
example :
    runModel runSeiCfg [runSeiInp2, runSeiInp3] 2 runSeiLand2 = .ok runSeiLand4 ∧
    RunDomainAlong runSeiCfg [runSeiInp2, runSeiInp3] 2 runSeiLand2 ∧
    offSeasonFrame runSeiLand2 runSeiLand4 = true := by
  obtain ⟨_, _, r2, _, d2⟩ := runSei_split
  refine ⟨?hr, ?hd,
    C05_offseason_run runSeiCfg _ 2 runSeiLand2 runSeiLand4 (by decide) runSei_inv2 ?hd ?hr⟩
  · exact (runModel_append_ok runSeiCfg [runSeiInp3] r2).trans runSei_run3
  · exact runDomainAlong_append_ok runSeiCfg d2 r2 runSei_domain3

/-- The 4-step run 0..3 (off-season, spread step, two off-season steps) with `C01_run` and
    `C02_C03_run` on it. -/
example :
    runModel runSeiCfg [runSeiInp0, runSeiInp1, runSeiInp2, runSeiInp3] 0 runSeiLand0 = .ok runSeiLand4 ∧
    runSeiLand4.hosts = runSeiLand0.hosts - (runSeiLand4.died - runSeiLand0.died) -
      removedByRun runSeiCfg [runSeiInp0, runSeiInp1, runSeiInp2, runSeiInp3] 0 runSeiLand0 ∧
    runSeiLand4.inv ∧ runSeiLand4.uniform := by
  have hr : runModel runSeiCfg ([runSeiInp0, runSeiInp1, runSeiInp2] ++ [runSeiInp3]) 0 runSeiLand0 =
      .ok runSeiLand4 := (runModel_append_ok runSeiCfg [runSeiInp3] runSei_run).trans runSei_run3
  have hd := runDomainAlong_append_ok runSeiCfg runSei_domain runSei_run runSei_domain3
  exact ⟨hr, (C01_run runSeiCfg _ 0 runSeiLand0 runSeiLand4 runSei_inv runSei_uniform hd hr).1,
    (C02_C03_run runSeiCfg _ 0 runSeiLand0 runSeiLand4 runSei_inv runSei_uniform hd hr).1⟩

/-- `C09_run_frame` at the instance: step 1 is not a survival, lethal-temperature or mortality
    step, so the survival rates, temperatures, draws and mortality parameters supplied for it do
    not matter; likewise the landings, overpopulation targets and movement rows supplied for the
    off-season steps 0 and 2. -/
example :
    runModel runSeiCfg
      [{ runSeiInp0 with landings := [(0, ⟨19, none, none⟩, 0)], overTargets := [(0, 1)],
                         moves := [(0, 1, 5, ⟨1, 2, 2, 0⟩, [1, 1], [0, 1])] },
       { runSeiInp1 with survivalRates := [1/3, 1/3], temperatures := [-40, -40],
                         lethalThreshold := -10, mortalityRate := 1 },
       { runSeiInp2 with landings := [(1, ⟨6, none, none⟩, 0)] }] 0 runSeiLand0 = .ok runSeiLand3 := by
  rw [← runSei_run]
  refine C09_run_frame runSeiCfg _ [runSeiInp0, runSeiInp1, runSeiInp2] 0 runSeiLand0 rfl ?_
  intro k inp inp' h1 h2 a ha
  -- only the actions of the step's plan (`runSei_plans`) have to agree
  have hm := (act_plan_iff runSeiCfg (0 + k) a).mpr ha
  rcases k with _ | _ | _ | k
  · cases h1; cases h2
    rw [show 0 + 0 = 0 from rfl, runSei_plans.1] at hm
    simp only [List.mem_cons, List.mem_nil_iff, or_false] at hm
    rcases hm with rfl | rfl | rfl <;> rfl
  · cases h1; cases h2
    rw [show 0 + (0 + 1) = 1 from rfl, runSei_plans.2.1] at hm
    simp only [List.mem_cons, List.mem_nil_iff, or_false] at hm
    rcases hm with rfl | rfl | rfl | rfl | rfl <;> rfl
  · cases h1; cases h2
    rw [show 0 + (0 + 1 + 1) = 2 from rfl, runSei_plans.2.2.1] at hm
    simp only [List.mem_cons, List.mem_nil_iff, or_false] at hm
    rcases hm with rfl | rfl | rfl <;> rfl
  · cases h1

end Pops
