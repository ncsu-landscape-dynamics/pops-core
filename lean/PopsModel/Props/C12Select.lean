/-
  C12, cell selection: the lethal-temperature action changes exactly the cells that are in the
  suitable-cell list AND colder than the threshold (`C12_lethal_selection`); the survival-rate
  action changes exactly the cells of the suitable-cell list whose rate is below one
  (`C12_survival_selection`). Both are statements about the generator the model step runs
  (`actionGen inp step .lethal` / `.survival`), on any landscape.

  Hypothesis of both: the flat indices of the suitable-cell list are duplicate-free. It follows from
  "duplicate-free list of cells inside the raster" (`c12sel_nodup_idx_of_inside`) and it is necessary
  for the survival rate (`c12sel_survival_dup_counterexample`). Helpers carry the prefix `c12sel_`.
-/
import PopsModel.Model.RunStep
import PopsModel.Props.C12
import PopsModel.Lemmas.HostMech
import PopsModel.Lemmas.OffSeason
import PopsModel.Lemmas.NonVacuousHost
namespace Pops

theorem c12sel_at_total (k : Nat) (op : CellOp) (htot : ∀ c, ∃ c', op.apply c = .ok c') (l : Land) :
    ∃ l1, (LandOp.at k op).apply l = .ok l1 ∧ l1.length = l.length ∧
      (∀ j, j ≠ k → l1[j]? = l[j]?) ∧
      (∀ c, l[k]? = some c → ∃ c', op.apply c = .ok c' ∧ l1[k]? = some c') := by
  cases hk : l[k]? with
  | none =>
    refine ⟨l, ?_, rfl, fun _ _ => rfl, fun c hc => by cases hc⟩
    simp only [LandOp.apply, hk]
  | some c0 =>
    obtain ⟨c0', h0⟩ := htot c0
    refine ⟨l.set k c0', ?_, List.length_set, fun j hj => List.getElem?_set_ne (Ne.symm hj), ?_⟩
    · simp only [LandOp.apply, hk, h0, Except.map]
    · intro c hc
      cases hc
      exact ⟨c0', h0, List.getElem?_set_self ((List.getElem?_eq_some_iff.mp hk).1)⟩

/-- Running, over a list `Z`, the cell operation `g z` (where there is one) at the index `key z`,
    the indices pairwise different: the run succeeds, keeps the length, applies each operation to
    the cell it names and leaves every other cell alone. -/
theorem c12sel_runOps_at {α : Type} (Z : List α) (key : α → Nat) (g : α → Option CellOp)
    (hnd : (Z.map key).Nodup)
    (htot : ∀ z ∈ Z, ∀ o, g z = some o → ∀ c, ∃ c', o.apply c = .ok c') (l : Land) :
    ∃ l', runOps (Z.filterMap fun z => (g z).map (LandOp.at (key z))) l = .ok l' ∧
      l'.length = l.length ∧
      (∀ z ∈ Z, ∀ o c, g z = some o → l[key z]? = some c →
        ∃ c', o.apply c = .ok c' ∧ l'[key z]? = some c') ∧
      (∀ k, (∀ z ∈ Z, key z = k → g z = none) → l'[k]? = l[k]?) := by
  induction Z generalizing l with
  | nil => exact ⟨l, rfl, rfl, fun z hz => absurd hz List.not_mem_nil, fun _ _ => rfl⟩
  | cons z rest ih =>
    rw [List.map_cons, List.nodup_cons] at hnd
    obtain ⟨hz, hnd'⟩ := hnd
    have hne : ∀ y ∈ rest, key y ≠ key z := fun y hy h => hz (h ▸ List.mem_map_of_mem hy)
    -- the head: `l1` is `l` after the operation of `z`, if it has one
    obtain ⟨l1, hrun1, hlen1, hoff, hat, hnone⟩ : ∃ l1,
        runOps ((z :: rest).filterMap fun z => (g z).map (LandOp.at (key z))) l =
          runOps (rest.filterMap fun z => (g z).map (LandOp.at (key z))) l1 ∧
        l1.length = l.length ∧ (∀ j, j ≠ key z → l1[j]? = l[j]?) ∧
        (∀ o c, g z = some o → l[key z]? = some c →
          ∃ c', o.apply c = .ok c' ∧ l1[key z]? = some c') ∧ (g z = none → l1 = l) := by
      cases hg : g z with
      | none =>
        exact ⟨l, by rw [List.filterMap_cons_none (by rw [hg]; rfl)], rfl, fun _ _ => rfl,
          fun o c ho => (by cases ho), fun _ => rfl⟩
      | some o =>
        obtain ⟨l1, h1, hlen1, hoff, hat⟩ :=
          c12sel_at_total (key z) o (htot z (List.mem_cons_self ..) o hg) l
        refine ⟨l1, ?_, hlen1, hoff, fun o' c ho' => ?_, fun h => by cases h⟩
        · rw [List.filterMap_cons_some (by rw [hg]; rfl)]
          simp only [runOps, h1, bind, Except.bind]
        · cases ho'; exact hat c
    obtain ⟨l', hrun, hlen, hin, hout⟩ :=
      ih hnd' (fun y hy => htot y (List.mem_cons_of_mem _ hy)) l1
    have hkeep : l'[key z]? = l1[key z]? := hout _ fun y hy h => absurd h (hne y hy)
    refine ⟨l', hrun1.trans hrun, hlen.trans hlen1, ?_, ?_⟩
    · intro y hy o c ho hc
      rcases List.mem_cons.mp hy with rfl | hy
      · obtain ⟨c', hc', h1⟩ := hat o c ho hc
        exact ⟨c', hc', hkeep.trans h1⟩
      · exact hin y hy o c ho ((hoff _ (hne y hy)).trans hc)
    · intro k hk
      rw [hout k fun y hy => hk y (List.mem_cons_of_mem _ hy)]
      by_cases hkz : k = key z
      · rw [hnone (hk z (List.mem_cons_self ..) hkz.symm)]
      · exact hoff k hkz

theorem c12sel_mem_zip_range {α : Type} (suit : List α) (pos : Nat) (rc : α) :
    (pos, rc) ∈ List.zip (List.range suit.length) suit ↔ suit[pos]? = some rc := by
  rw [List.mem_iff_getElem?]
  constructor
  · rintro ⟨n, hn⟩
    obtain ⟨h1, h2⟩ := List.getElem?_zip_eq_some.mp hn
    obtain ⟨hlt, h1⟩ := List.getElem?_eq_some_iff.mp h1
    rw [List.getElem_range] at h1
    cases h1
    exact h2
  · intro h
    have hlt : pos < suit.length := (List.getElem?_eq_some_iff.mp h).1
    exact ⟨pos, List.getElem?_zip_eq_some.mpr ⟨List.getElem?_range hlt, h⟩⟩

theorem c12sel_mem_suit_idx (inp : StepInputs) (k : Nat) :
    k ∈ (inp.suit.map fun rc => inp.g.idx rc.1 rc.2) ↔
      ∃ (pos : Nat) (rc : Int × Int), inp.suit[pos]? = some rc ∧ inp.g.idx rc.1 rc.2 = k := by
  rw [List.mem_map]
  constructor
  · rintro ⟨rc, hrc, hk⟩
    obtain ⟨pos, hpos⟩ := List.mem_iff_getElem?.mp hrc
    exact ⟨pos, rc, hpos, hk⟩
  · rintro ⟨pos, rc, hpos, hk⟩
    exact ⟨rc, List.mem_iff_getElem?.mpr ⟨pos, hpos⟩, hk⟩

theorem c12sel_cellOpsOver_run (inp : StepInputs) (f : Nat → Nat → Option CellOp)
    (hnd : (inp.suit.map fun rc => inp.g.idx rc.1 rc.2).Nodup)
    (htot : ∀ pos k o, f pos k = some o → ∀ c, ∃ c', o.apply c = .ok c') (l : Land) :
    ∃ l', runOps (cellOpsOver inp f) l = .ok l' ∧ l'.length = l.length ∧
      (∀ pos rc o c, inp.suit[pos]? = some rc → f pos (inp.g.idx rc.1 rc.2) = some o →
        l[inp.g.idx rc.1 rc.2]? = some c →
        ∃ c', o.apply c = .ok c' ∧ l'[inp.g.idx rc.1 rc.2]? = some c') ∧
      (∀ k, (∀ pos rc, inp.suit[pos]? = some rc → inp.g.idx rc.1 rc.2 = k → f pos k = none) →
        l'[k]? = l[k]?) := by
  -- `cellOpsOver` runs over the suitable cells paired with their positions, keyed by flat index
  have hkeys : ((List.zip (List.range inp.suit.length) inp.suit).map
      fun x => inp.g.idx x.2.1 x.2.2) = inp.suit.map fun rc => inp.g.idx rc.1 rc.2 := by
    have hz : (List.zip (List.range inp.suit.length) inp.suit).map Prod.snd = inp.suit :=
      List.map_snd_zip (by rw [List.length_range]; exact Nat.le_refl _)
    conv => rhs; rw [← hz]
    rw [List.map_map]
    rfl
  obtain ⟨l', hrun, hlen, hin, hout⟩ := c12sel_runOps_at
    (List.zip (List.range inp.suit.length) inp.suit) (fun x => inp.g.idx x.2.1 x.2.2)
    (fun x => f x.1 (inp.g.idx x.2.1 x.2.2)) (hkeys ▸ hnd) (fun x _ o ho => htot _ _ o ho) l
  exact ⟨l', hrun, hlen,
    fun pos rc o c hpos ho hc => hin (pos, rc) ((c12sel_mem_zip_range _ _ _).mpr hpos) o c ho hc,
    fun k hk => hout k fun x hx hkx => hkx ▸ hk x.1 x.2 ((c12sel_mem_zip_range _ _ _).mp hx) hkx⟩

theorem c12sel_runGens_single (gen : OpGen) (l : Land) : runGens [gen] l = runOps (gen l) l := by
  simp only [runGens]
  cases runOps (gen l) l <;> rfl

/-- From a selection statement to its converse: if the run leaves cell `k` as it was unless `P`,
    then a cell it changed satisfies `P`. -/
theorem c12sel_changed {r : Except ErrKind Land} {l' : Land} {k : Nat} {c c' : Cell} {P : Prop}
    [Decidable P] (hsel : ∃ m, r = .ok m ∧ (¬ P → m[k]? = some c)) (hrun : r = .ok l')
    (hc' : l'[k]? = some c') (hne : c' ≠ c) : P := by
  obtain ⟨m, hm, hsel⟩ := hsel
  rw [hrun] at hm
  cases hm
  apply Decidable.byContradiction
  intro hnot
  have h := hsel hnot
  rw [hc'] at h
  cases h
  exact hne rfl

theorem c12sel_nodup_idx_of_inside (g : Grid) (suit : List (Int × Int)) (hnd : suit.Nodup)
    (hin : ∀ rc ∈ suit, g.isOutside rc.1 rc.2 = false) :
    (suit.map fun rc => g.idx rc.1 rc.2).Nodup :=
  act_idx_nodup_of_inside g suit hnd hin

/-! ### lethal temperature: exactly the suitable cells colder than the threshold -/

/-- C12, lethal temperature on a landscape. With duplicate-free flat indices of the suitable cells
    the action never fails, keeps the raster size, and for every cell `k` of the landscape:
    (a) if `k` is the flat index of the suitable cell at position `pos` and its temperature is below
        the threshold, the cell becomes `removeAllInfected` with the draw of position `pos`, which
        satisfies `lethalSpec true` under the hypotheses of `C12_lethal`;
    (b) otherwise - `k` is not a suitable index, or its temperature is not below the threshold -
        the cell is unchanged (`lethalSpec false`).
    (a) and (b) cover every `k` (`c12sel_mem_suit_idx`). -/
theorem C12_lethal_selection (inp : StepInputs) (step : Nat) (l : Land)
    (hnd : (inp.suit.map fun rc => inp.g.idx rc.1 rc.2).Nodup) :
    ∃ l', runGens [actionGen inp step .lethal] l = .ok l' ∧ l'.length = l.length ∧
      ∀ (k : Nat) (c : Cell), l[k]? = some c →
        (∀ (pos : Nat) (rc : Int × Int), inp.suit[pos]? = some rc → inp.g.idx rc.1 rc.2 = k →
          inp.temperatures[k]! < inp.lethalThreshold →
          l'[k]? = some (c.removeAllInfected (inp.lethalDraws.getD pos [])) ∧
          (c.nonNeg = true → c.mortOK = true →
            ValidDraw c.mort c.i (inp.lethalDraws.getD pos []) →
            lethalSpec true c (c.removeAllInfected (inp.lethalDraws.getD pos [])) = true)) ∧
        (¬ (k ∈ (inp.suit.map fun rc => inp.g.idx rc.1 rc.2) ∧
              inp.temperatures[k]! < inp.lethalThreshold) →
          l'[k]? = some c ∧ lethalSpec false c c = true) := by
  obtain ⟨l', hrun, hlen, hin, hout⟩ := c12sel_cellOpsOver_run inp
    (fun pos k => if inp.temperatures[k]! < inp.lethalThreshold
      then some (.lethal (inp.lethalDraws.getD pos [])) else none) hnd
    (by
      intro pos k o ho c
      split at ho
      · injection ho with ho; subst ho; exact ⟨_, rfl⟩
      · cases ho) l
  refine ⟨l', ?_, hlen, ?_⟩
  · rw [c12sel_runGens_single]; exact hrun
  · intro k c hc
    refine ⟨?_, ?_⟩
    · intro pos rc hpos hk hcold
      subst hk
      obtain ⟨c', hc', hl'⟩ := hin pos rc _ c hpos (if_pos hcold) hc
      cases hc'
      exact ⟨hl', fun hn hm hd => (C12_lethal c _ hn hm hd).1⟩
    · intro hnot
      refine ⟨?_, ?_⟩
      · rw [hout k ?_]
        · exact hc
        · intro pos rc hpos hk
          by_cases hcold : inp.temperatures[k]! < inp.lethalThreshold
          · exact absurd ⟨(c12sel_mem_suit_idx inp k).mpr ⟨pos, rc, hpos, hk⟩, hcold⟩ hnot
          · exact if_neg hcold
      · simp only [lethalSpec, Bool.false_eq_true, if_false, beq_self_eq_true]

/-- "... and of no other cell": a cell the lethal-temperature action changed is a suitable cell
    colder than the threshold. -/
theorem C12_lethal_selection_only_if (inp : StepInputs) (step : Nat) (l l' : Land)
    (hnd : (inp.suit.map fun rc => inp.g.idx rc.1 rc.2).Nodup)
    (hrun : runGens [actionGen inp step .lethal] l = .ok l') (k : Nat) (c c' : Cell)
    (hc : l[k]? = some c) (hc' : l'[k]? = some c') (hne : c' ≠ c) :
    k ∈ (inp.suit.map fun rc => inp.g.idx rc.1 rc.2) ∧
      inp.temperatures[k]! < inp.lethalThreshold := by
  obtain ⟨m, hm, _, hsel⟩ := C12_lethal_selection inp step l hnd
  exact c12sel_changed ⟨m, hm, fun hnot => ((hsel k c hc).2 hnot).1⟩ hrun hc' hne

/-! #### instance: 2 x 2 raster, suitable cells (1,0) and (0,0) in that order (flat indices 2, 0);
    cell 0 is cold with 3 infected in cohorts [1,2], cell 2 is warm, cells 1 and 3 are not in the
    list (cell 1 is cold and infected: it must stay) -/

def c12selInpL : StepInputs :=
  { g := ⟨2, 2⟩, mt := .si, latency := 0, suit := [(1, 0), (0, 0)], lethalThreshold := 0,
    temperatures := [-5, -5, 3, -5], lethalDraws := [[], [1, 2]], survivalRates := [],
    survivalDrawsI := [], survivalDrawsE := [], landings := [], stochasticEst := false, pEst := 0,
    overThreshold := 0, overLeaving := 0, overTargets := [], moves := [], treatEvents := [],
    mortalityRate := 0, mortalityLag := 0 }

def c12selLandL : Land :=
  [⟨5, [1], 3, 0, 1, [1, 2], 0, 9⟩, ⟨2, [0], 2, 0, 0, [2, 0], 0, 4⟩,
   ⟨1, [0], 4, 0, 0, [1, 3], 0, 5⟩, ⟨0, [0], 0, 0, 0, [0, 0], 0, 0⟩]

/-- The theorem applied: cell 0 (position 1 of the list, cold) loses its 3 infected, cell 2
    (position 0, warm) and the cells outside the list (1: cold and infected, 3) are unchanged. -/
theorem c12sel_lethal_example :
    ∃ l', runGens [actionGen c12selInpL 0 .lethal] c12selLandL = .ok l' ∧ l'.length = 4 ∧
      l'[0]? = some ⟨8, [1], 0, 0, 1, [0, 0], 0, 9⟩ ∧
      lethalSpec true ⟨5, [1], 3, 0, 1, [1, 2], 0, 9⟩ ⟨8, [1], 0, 0, 1, [0, 0], 0, 9⟩ = true ∧
      l'[1]? = some ⟨2, [0], 2, 0, 0, [2, 0], 0, 4⟩ ∧
      l'[2]? = some ⟨1, [0], 4, 0, 0, [1, 3], 0, 5⟩ ∧
      l'[3]? = some ⟨0, [0], 0, 0, 0, [0, 0], 0, 0⟩ := by
  obtain ⟨l', hrun, hlen, hsel⟩ := C12_lethal_selection c12selInpL 0 c12selLandL
    (c12sel_nodup_idx_of_inside _ _ (by decide) (by decide))
  have h0 := (hsel 0 ⟨5, [1], 3, 0, 1, [1, 2], 0, 9⟩ rfl).1 1 (0, 0) rfl (by decide)
    (by decide +kernel)
  have h1 := (hsel 1 ⟨2, [0], 2, 0, 0, [2, 0], 0, 4⟩ rfl).2 (by decide +kernel)
  have h2 := (hsel 2 ⟨1, [0], 4, 0, 0, [1, 3], 0, 5⟩ rfl).2 (by decide +kernel)
  have h3 := (hsel 3 ⟨0, [0], 0, 0, 0, [0, 0], 0, 0⟩ rfl).2 (by decide +kernel)
  exact ⟨l', hrun, hlen, h0.1,
    h0.2 (by decide) (by decide) (by unfold ValidDraw; decide +kernel), h1.1, h2.1, h3.1⟩

/-- Cross-check by direct evaluation of the generator. -/
example : runGens [actionGen c12selInpL 0 .lethal] c12selLandL =
    .ok [⟨8, [1], 0, 0, 1, [0, 0], 0, 9⟩, ⟨2, [0], 2, 0, 0, [2, 0], 0, 4⟩,
         ⟨1, [0], 4, 0, 0, [1, 3], 0, 5⟩, ⟨0, [0], 0, 0, 0, [0, 0], 0, 0⟩] :=
  eq_ok_of_yields (by decide +kernel)

/-! ### survival rate: exactly the suitable cells whose rate is below one -/

/-- C12, survival rate on a landscape. With duplicate-free flat indices of the suitable cells the
    action never fails, keeps the raster size, and for every cell `k` of the landscape:
    (a) if `k` is the flat index of the suitable cell at position `pos`, then with
        `rate = survivalRates[k]` the cell becomes `removeByRatio rate` (draws of position `pos`)
        when `rate < 1` and stays as it is otherwise, and this satisfies `survivalSpec rate`
        (round (rate x count) of the infected and of the exposed stay);
    (b) a cell that is not in the list, or whose rate is not below one, is unchanged. -/
theorem C12_survival_selection (inp : StepInputs) (step : Nat) (l : Land)
    (hnd : (inp.suit.map fun rc => inp.g.idx rc.1 rc.2).Nodup) :
    ∃ l', runGens [actionGen inp step .survival] l = .ok l' ∧ l'.length = l.length ∧
      ∀ (k : Nat) (c : Cell), l[k]? = some c →
        (∀ (pos : Nat) (rc : Int × Int), inp.suit[pos]? = some rc → inp.g.idx rc.1 rc.2 = k →
          l'[k]? = some (if inp.survivalRates[k]! < 1 then
              c.removeByRatio inp.survivalRates[k]! (inp.survivalDrawsI.getD pos [])
                (inp.survivalDrawsE.getD pos [])
            else c) ∧
          survivalSpec inp.survivalRates[k]! c (if inp.survivalRates[k]! < 1 then
              c.removeByRatio inp.survivalRates[k]! (inp.survivalDrawsI.getD pos [])
                (inp.survivalDrawsE.getD pos [])
            else c) = true) ∧
        (¬ (k ∈ (inp.suit.map fun rc => inp.g.idx rc.1 rc.2) ∧ inp.survivalRates[k]! < 1) →
          l'[k]? = some c) := by
  obtain ⟨l', hrun, hlen, hin, hout⟩ := c12sel_cellOpsOver_run inp
    (fun pos k => some (.survival inp.survivalRates[k]! (inp.survivalDrawsI.getD pos [])
      (inp.survivalDrawsE.getD pos []))) hnd
    (by
      intro pos k o ho c
      injection ho with ho; subst ho; exact ⟨_, rfl⟩) l
  refine ⟨l', by rw [c12sel_runGens_single]; exact hrun, hlen, fun k c hc => ⟨?_, fun hnot => ?_⟩⟩
  · intro pos rc hpos hk
    subst hk
    obtain ⟨c', hc', hl'⟩ := hin pos rc _ c hpos rfl hc
    have hspec := mech_C12_survival c _ _ _ c' hc'
    cases hc'
    exact ⟨hl', hspec⟩
  · by_cases hmem : k ∈ (inp.suit.map fun rc => inp.g.idx rc.1 rc.2)
    · -- in the list with a rate that is not below one: the operation runs and changes nothing
      obtain ⟨pos, rc, hpos, rfl⟩ := (c12sel_mem_suit_idx inp k).mp hmem
      obtain ⟨c', hc', hl'⟩ := hin pos rc _ c hpos rfl hc
      simp only [CellOp.apply, Except.ok.injEq] at hc'
      rw [if_neg fun h => hnot ⟨hmem, h⟩] at hc'
      rw [hl', ← hc']
    · rw [hout k fun pos rc hpos hk => absurd ((c12sel_mem_suit_idx inp k).mpr ⟨pos, rc, hpos, hk⟩) hmem]
      exact hc

/-- A cell the survival-rate action changed is a suitable cell whose rate is below one. -/
theorem C12_survival_selection_only_if (inp : StepInputs) (step : Nat) (l l' : Land)
    (hnd : (inp.suit.map fun rc => inp.g.idx rc.1 rc.2).Nodup)
    (hrun : runGens [actionGen inp step .survival] l = .ok l') (k : Nat) (c c' : Cell)
    (hc : l[k]? = some c) (hc' : l'[k]? = some c') (hne : c' ≠ c) :
    k ∈ (inp.suit.map fun rc => inp.g.idx rc.1 rc.2) ∧ inp.survivalRates[k]! < 1 := by
  obtain ⟨m, hm, _, hsel⟩ := C12_survival_selection inp step l hnd
  exact c12sel_changed ⟨m, hm, (hsel k c hc).2⟩ hrun hc' hne

/-! #### instance: 1 x 3 raster, suitable cells (0,2) and (0,0) in that order; rates 1/2 at cell 0,
    1/2 at cell 1 (not in the list: it must stay) and 1 at cell 2 (in the list: stays) -/

def c12selInpS : StepInputs :=
  { g := ⟨1, 3⟩, mt := .sei, latency := 1, suit := [(0, 2), (0, 0)], lethalThreshold := 0,
    temperatures := [], lethalDraws := [], survivalRates := [1/2, 1/2, 1],
    survivalDrawsI := [[], [1, 1]], survivalDrawsE := [[], [1, 0]], landings := [],
    stochasticEst := false, pEst := 0, overThreshold := 0, overLeaving := 0, overTargets := [],
    moves := [], treatEvents := [], mortalityRate := 0, mortalityLag := 0 }

def c12selLandS : Land :=
  [⟨10, [2, 1], 4, 0, 3, [1, 3], 0, 17⟩, ⟨1, [0, 0], 6, 0, 0, [2, 4], 0, 7⟩,
   ⟨3, [1, 1], 5, 0, 2, [2, 3], 0, 10⟩]

/-- The theorem applied: cell 0 (position 1, rate 1/2) keeps round(4/2) = 2 infected and
    round(3/2) = 2 exposed; cell 2 (position 0, rate 1) and cell 1 (not in the list, rate 1/2)
    are unchanged. -/
theorem c12sel_survival_example :
    ∃ l', runGens [actionGen c12selInpS 0 .survival] c12selLandS = .ok l' ∧ l'.length = 3 ∧
      l'[0]? = some ⟨13, [1, 1], 2, 0, 2, [0, 2], 0, 17⟩ ∧
      survivalSpec (1/2) ⟨10, [2, 1], 4, 0, 3, [1, 3], 0, 17⟩
        ⟨13, [1, 1], 2, 0, 2, [0, 2], 0, 17⟩ = true ∧
      l'[1]? = some ⟨1, [0, 0], 6, 0, 0, [2, 4], 0, 7⟩ ∧
      l'[2]? = some ⟨3, [1, 1], 5, 0, 2, [2, 3], 0, 10⟩ := by
  obtain ⟨l', hrun, hlen, hsel⟩ :=
    C12_survival_selection c12selInpS 0 c12selLandS
      (c12sel_nodup_idx_of_inside _ _ (by decide) (by decide))
  have h0 := (hsel 0 ⟨10, [2, 1], 4, 0, 3, [1, 3], 0, 17⟩ rfl).1 1 (0, 0) rfl (by decide)
  have h1 := (hsel 1 ⟨1, [0, 0], 6, 0, 0, [2, 4], 0, 7⟩ rfl).2 (by decide +kernel)
  have h2 := (hsel 2 ⟨3, [1, 1], 5, 0, 2, [2, 3], 0, 10⟩ rfl).2 (by decide +kernel)
  have hr : c12selInpS.survivalRates[0]! = 1/2 := by decide +kernel
  have hpost : (if c12selInpS.survivalRates[0]! < 1 then
      (⟨10, [2, 1], 4, 0, 3, [1, 3], 0, 17⟩ : Cell).removeByRatio c12selInpS.survivalRates[0]!
        (c12selInpS.survivalDrawsI.getD 1 []) (c12selInpS.survivalDrawsE.getD 1 [])
      else ⟨10, [2, 1], 4, 0, 3, [1, 3], 0, 17⟩) = ⟨13, [1, 1], 2, 0, 2, [0, 2], 0, 17⟩ := by
    decide +kernel
  rw [hpost, hr] at h0
  exact ⟨l', hrun, hlen, h0.1, h0.2, h1, h2⟩

/-- Cross-check by direct evaluation of the generator. -/
example : runGens [actionGen c12selInpS 0 .survival] c12selLandS =
    .ok [⟨13, [1, 1], 2, 0, 2, [0, 2], 0, 17⟩, ⟨1, [0, 0], 6, 0, 0, [2, 4], 0, 7⟩,
         ⟨3, [1, 1], 5, 0, 2, [2, 3], 0, 10⟩] :=
  eq_ok_of_yields (by decide +kernel)

/-! ### the hypothesis is necessary: a suitable cell listed twice gets the rate twice -/

def c12selDupInp : StepInputs :=
  { g := ⟨1, 1⟩, mt := .si, latency := 0, suit := [(0, 0), (0, 0)], lethalThreshold := 0,
    temperatures := [], lethalDraws := [], survivalRates := [1/2],
    survivalDrawsI := [[2], [1]], survivalDrawsE := [[0], [0]], landings := [],
    stochasticEst := false, pEst := 0, overThreshold := 0, overLeaving := 0, overTargets := [],
    moves := [], treatEvents := [], mortalityRate := 0, mortalityLag := 0 }

def c12selDupLand : Land := [⟨0, [0], 4, 0, 0, [4], 0, 4⟩]

/-- Without `hnd` the conclusion of `C12_survival_selection` fails: the cell (0,0), inside the
    1 x 1 raster, is listed twice; 4 infected at rate 1/2 should leave round(4/2) = 2, but the rate
    is applied once per occurrence and 1 is left. Neither `survivalSpec` nor the stated post-state
    holds of the result. -/
theorem c12sel_survival_dup_counterexample :
    ¬ (c12selDupInp.suit.map fun rc => c12selDupInp.g.idx rc.1 rc.2).Nodup ∧
    (∀ rc ∈ c12selDupInp.suit, c12selDupInp.g.isOutside rc.1 rc.2 = false) ∧
    runGens [actionGen c12selDupInp 0 .survival] c12selDupLand =
      .ok [⟨3, [0], 1, 0, 0, [1], 0, 4⟩] ∧
    c12selDupLand[0]? = some ⟨0, [0], 4, 0, 0, [4], 0, 4⟩ ∧
    c12selDupInp.survivalRates[0]! = 1/2 ∧ lround ((4 : Rat) * (1/2)) = 2 ∧
    survivalSpec (1/2) ⟨0, [0], 4, 0, 0, [4], 0, 4⟩ ⟨3, [0], 1, 0, 0, [1], 0, 4⟩ = false ∧
    ¬ (∃ l', runGens [actionGen c12selDupInp 0 .survival] c12selDupLand = .ok l' ∧
        ∀ (k : Nat) (c : Cell), c12selDupLand[k]? = some c →
          ∀ (pos : Nat) (rc : Int × Int), c12selDupInp.suit[pos]? = some rc →
            c12selDupInp.g.idx rc.1 rc.2 = k →
            l'[k]? = some (if c12selDupInp.survivalRates[k]! < 1 then
              c.removeByRatio c12selDupInp.survivalRates[k]!
                (c12selDupInp.survivalDrawsI.getD pos []) (c12selDupInp.survivalDrawsE.getD pos [])
              else c)) := by
  have hrun : runGens [actionGen c12selDupInp 0 .survival] c12selDupLand =
      .ok [⟨3, [0], 1, 0, 0, [1], 0, 4⟩] := eq_ok_of_yields (by decide +kernel)
  refine ⟨by decide, by decide, hrun, rfl, by decide +kernel, by decide +kernel,
    by decide +kernel, ?_⟩
  rintro ⟨l', hl', h⟩
  rw [hrun] at hl'
  injection hl' with hl'
  subst hl'
  have h0 := h 0 ⟨0, [0], 4, 0, 0, [4], 0, 4⟩ rfl 0 (0, 0) rfl (by decide)
  revert h0
  decide +kernel

#print axioms C12_lethal_selection
#print axioms C12_survival_selection
#print axioms C12_lethal_selection_only_if
#print axioms C12_survival_selection_only_if
#print axioms c12sel_nodup_idx_of_inside
#print axioms c12sel_survival_dup_counterexample

end Pops
