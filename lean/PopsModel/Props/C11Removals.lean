/-
  C11 with the other actions of a run acting on the mortality cohorts between mortality steps:
  every host that was in the mortality cohorts is dead or removed after tracker-length mortality
  steps, whatever is removed from the cohorts (lethal temperature, survival rate, treatments, host
  movement out of the cell) and whatever joins them (landings, the latency step, host movement into
  the cell) in between.

  Definitions (Lemmas/C11Removals.lean): the history datatype `MortOp`
  (`mortality | add x | arrive d | remove d`), `mortSteps`, `addedBy`, `removedBy`, `lastMortWindow`,
  the step relation `MortOp.rel` on the cohorts and `died` (all other fields of the cell left open,
  so that each concrete action of the model is an instance), `MortOp.keepsI` (the infected count
  follows the cohorts) and `MortTrace` (a history leads from one cell to another).

  Two facts about pops-core that shape the statements:
   * host movement INTO a cell (`move_hosts_from_to`, target side) adds the drawn hosts to the cohort
     of the same index, not to the youngest cohort; hence the fourth constructor `arrive d`
     (`C11_move_target_is_arrival`). The bound is the same: hosts that arrive in cohort `k` are gone
     after `k + 1 ≤ n` mortality steps.
   * ratio treatments (finding F20): the cohorts always lose exactly their per-cohort shares
     (`MortOp.rel` holds), but `i` follows (`MortOp.keepsI`) iff the rounding of the total agrees with
     the per-cohort rounding (`roundingAgrees`); see `C11_simpleTreat_is_removal`,
     `C11_pesticideTreat_is_removal`, `C11_ratio_treatment_breaks_i`. For this reason the main theorem
     is stated on the cohorts (`MortOp.rel` only); `C11_eventual_death_infected` adds the conclusion on
     `i` for histories that keep `i` in step.
-/
import PopsModel.Props.C11
import PopsModel.Lemmas.C11Cohortwise
namespace Pops

/-- **Eventual death with removals.** Rate in (0, 1], lag ≥ 0, tracker length `n = |mort| > lag`,
    non-negative cohorts with `i = sum mort`. After ANY history (mortality steps; additions to the
    youngest cohort; arrivals cohort by cohort; removals of `0 ≤ d_k ≤ cohort_k`) that contains at
    least `n` mortality steps and does not throw:
     * what is left in the cohorts is at most what was added from the first of the last `n`
       mortality steps on - every host present before that step is dead or removed;
     * `died` grew by at least the initial infected minus the hosts removed along the way;
     * exactly: `died' + sum mort' = died + i + added - removed`. -/
theorem C11_eventual_death_with_removals (c c' : Cell) (rate : Rat) (lag : Int) (ops : List MortOp)
    (hr0 : 0 < rate) (hr1 : rate ≤ 1) (hl0 : 0 ≤ lag) (hl : lag < c.mort.length)
    (hn : ∀ x ∈ c.mort, 0 ≤ x) (hm : c.mortOK = true)
    (hsteps : c.mort.length ≤ mortSteps ops)
    (h : MortTrace (MortOp.rel rate lag) ops c c') :
    sumL c'.mort ≤ addedBy (lastMortWindow c.mort.length ops) ∧
    c.i - removedBy ops ≤ c'.died - c.died ∧
    c'.died + sumL c'.mort = c.died + c.i + addedBy ops - removedBy ops := by
  obtain ⟨a, b, d⟩ := mortc_eventual_death rate lag c c' ops hr0 hr1 hl0 hl hn hsteps h
  rw [(mortOK_iff c).mp hm]
  exact ⟨a, d, b⟩

/-- If moreover every entry keeps the infected count in step with the cohorts (`MortOp.keepsI`: true
    of every action of the model except ratio treatments with disagreeing rounding, F20), then
    `i = sum mort` still holds at the end and the remaining INFECTED are bounded by the late
    additions. -/
theorem C11_eventual_death_infected (c c' : Cell) (rate : Rat) (lag : Int) (ops : List MortOp)
    (hr0 : 0 < rate) (hr1 : rate ≤ 1) (hl0 : 0 ≤ lag) (hl : lag < c.mort.length)
    (hn : ∀ x ∈ c.mort, 0 ≤ x) (hm : c.mortOK = true)
    (hsteps : c.mort.length ≤ mortSteps ops)
    (h : MortTrace (fun op a b => op.rel rate lag a b ∧ op.keepsI a b) ops c c') :
    c'.mortOK = true ∧ c'.i ≤ addedBy (lastMortWindow c.mort.length ops) ∧
    c.i - removedBy ops ≤ c'.died - c.died := by
  have hm' := (mortOK_iff c).mp hm
  have hi := mortc_trace_i rate lag hr0 hr1 hl0 c' ops c hn hl h
  have h' := MortTrace.mono (R' := MortOp.rel rate lag) (fun _ _ _ hR => hR.1) ops c c' h
  obtain ⟨a, b, _⟩ := C11_eventual_death_with_removals c c' rate lag ops hr0 hr1 hl0 hl hn hm hsteps h'
  rw [hm', Int.sub_self] at hi
  have hi' : c'.i = sumL c'.mort := Int.eq_of_sub_eq_zero hi
  exact ⟨(mortOK_iff c').mpr hi', hi' ▸ a, b⟩

/-! ### Histories run by the model (in the style of `latencyHistory` / `ValidHistory`) -/

/-- Hosts arriving by host movement, cohort by cohort. -/
def Cell.arriveInMort (c : Cell) (d : List Int) : Cell :=
  { c with i := c.i + sumL d, mort := addL c.mort d, th := c.th + sumL d }

/-- Removal from the mortality cohorts; the removed hosts leave the infected class (where they go
    does not matter here; `th` follows as for a host-removal treatment). -/
def Cell.removeFromMort (c : Cell) (d : List Int) : Cell :=
  { c with i := c.i - sumL d, mort := subL c.mort d, th := c.th - sumL d }

/-- Run a history: the mortality action of the model, `Cell.infectN` for an addition. -/
def mortHistory (rate : Rat) (lag : Int) : List MortOp → Cell → Except ErrKind Cell
  | [], c => .ok c
  | .mortality :: rest, c => do
      let c1 ← (CellOp.mortality rate lag).apply c
      mortHistory rate lag rest c1
  | .add x :: rest, c => mortHistory rate lag rest (c.infectN x)
  | .arrive d :: rest, c => mortHistory rate lag rest (c.arriveInMort d)
  | .remove d :: rest, c => mortHistory rate lag rest (c.removeFromMort d)

/-- Additions are non-negative and of the tracker's length; every removal takes from each cohort at
    most what it holds at that moment (and nothing negative). -/
def ValidMortHistory (rate : Rat) (lag : Int) : List MortOp → Cell → Prop
  | [], _ => True
  | .mortality :: rest, c =>
      match (CellOp.mortality rate lag).apply c with
      | .ok c1 => ValidMortHistory rate lag rest c1
      | .error _ => True
  | .add x :: rest, c => 0 ≤ x ∧ ValidMortHistory rate lag rest (c.infectN x)
  | .arrive d :: rest, c =>
      d.length = c.mort.length ∧ (∀ x ∈ d, 0 ≤ x) ∧ ValidMortHistory rate lag rest (c.arriveInMort d)
  | .remove d :: rest, c =>
      d.length = c.mort.length ∧ (∀ k : Nat, k < d.length → 0 ≤ d[k]! ∧ d[k]! ≤ c.mort[k]!) ∧
      ValidMortHistory rate lag rest (c.removeFromMort d)

instance decValidMortHistory (rate : Rat) (lag : Int) :
    ∀ (ops : List MortOp) (c : Cell), Decidable (ValidMortHistory rate lag ops c)
  | [], _ => isTrue trivial
  | .mortality :: rest, c =>
    show Decidable (match (CellOp.mortality rate lag).apply c with
      | .ok c1 => ValidMortHistory rate lag rest c1 | .error _ => True) from
    match (CellOp.mortality rate lag).apply c with
    | .ok c1 => decValidMortHistory rate lag rest c1
    | .error _ => isTrue trivial
  | .add x :: rest, c =>
    have := decValidMortHistory rate lag rest (c.infectN x)
    inferInstanceAs (Decidable (0 ≤ x ∧ ValidMortHistory rate lag rest (c.infectN x)))
  | .arrive d :: rest, c =>
    have := decValidMortHistory rate lag rest (c.arriveInMort d)
    inferInstanceAs (Decidable (d.length = c.mort.length ∧ (∀ x ∈ d, 0 ≤ x) ∧
      ValidMortHistory rate lag rest (c.arriveInMort d)))
  | .remove d :: rest, c =>
    have := decValidMortHistory rate lag rest (c.removeFromMort d)
    inferInstanceAs (Decidable (d.length = c.mort.length ∧
      (∀ k : Nat, k < d.length → 0 ≤ d[k]! ∧ d[k]! ≤ c.mort[k]!) ∧
      ValidMortHistory rate lag rest (c.removeFromMort d)))

/-- A valid history that runs through is a trace (with the infected count in step). -/
theorem mortHistory_trace (rate : Rat) (lag : Int) (c' : Cell) :
    ∀ (ops : List MortOp) (c : Cell), ValidMortHistory rate lag ops c →
      mortHistory rate lag ops c = .ok c' →
      MortTrace (fun op a b => op.rel rate lag a b ∧ op.keepsI a b) ops c c' := by
  intro ops
  induction ops with
  | nil =>
    intro c _ h
    simp only [mortHistory, Except.ok.injEq] at h
    exact h.symm
  | cons op rest ih =>
    intro c hv h
    cases op with
    | mortality =>
      simp only [mortHistory] at h
      simp only [ValidMortHistory] at hv
      cases happ : (CellOp.mortality rate lag).apply c with
      | error e => rw [happ] at h; cases h
      | ok c1 =>
        rw [happ] at h hv
        exact ⟨c1, ⟨happ, trivial⟩, ih c1 hv h⟩
    | add x =>
      simp only [mortHistory] at h
      obtain ⟨hx, hv'⟩ := hv
      exact ⟨c.infectN x, ⟨⟨hx, rfl, rfl⟩, rfl⟩, ih _ hv' h⟩
    | arrive d =>
      simp only [mortHistory] at h
      obtain ⟨hl, hd, hv'⟩ := hv
      exact ⟨c.arriveInMort d, ⟨⟨hl, hd, rfl, rfl⟩, rfl⟩, ih _ hv' h⟩
    | remove d =>
      simp only [mortHistory] at h
      obtain ⟨hl, hd, hv'⟩ := hv
      exact ⟨c.removeFromMort d, ⟨⟨hl, hd, rfl, rfl⟩, rfl⟩, ih _ hv' h⟩

/-- **Eventual death with removals, for a history run by the model.** -/
theorem C11_eventual_death_history (c c' : Cell) (rate : Rat) (lag : Int) (ops : List MortOp)
    (hr0 : 0 < rate) (hr1 : rate ≤ 1) (hl0 : 0 ≤ lag) (hl : lag < c.mort.length)
    (hn : ∀ x ∈ c.mort, 0 ≤ x) (hm : c.mortOK = true)
    (hsteps : c.mort.length ≤ mortSteps ops)
    (hv : ValidMortHistory rate lag ops c) (h : mortHistory rate lag ops c = .ok c') :
    c'.mortOK = true ∧ c'.i ≤ addedBy (lastMortWindow c.mort.length ops) ∧
    c.i - removedBy ops ≤ c'.died - c.died :=
  C11_eventual_death_infected c c' rate lag ops hr0 hr1 hl0 hl hn hm hsteps
    (mortHistory_trace rate lag c' ops c hv h)

/-! ### Each action of the model is such an entry -/

/-- Lethal temperature (`remove_all_infected_at` with a valid draw) is the removal of the draw. -/
theorem C11_lethal_is_removal (rate : Rat) (lag : Int) (c : Cell) (draw : List Int)
    (hn : ∀ x ∈ c.mort, 0 ≤ x) (hm : c.mortOK = true) (hd : ValidDraw c.mort c.i draw) :
    (MortOp.remove draw).rel rate lag c (c.removeAllInfected draw) ∧
    (MortOp.remove draw).keepsI c (c.removeAllInfected draw) :=
  have hm' := (mortOK_iff c).mp hm
  mortc_removeInfected rate lag c c.i draw hm' (hm' ▸ sumL_nonneg hn) (Int.le_refl _) hd

/-- Survival rate (`remove_infection_by_ratio_at`, ratio in [0,1], valid draw of the infected) is
    the removal of the draw from the mortality cohorts. -/
theorem C11_survival_is_removal (rate : Rat) (lag : Int) (c : Cell) (ratio : Rat) (dI dE : List Int)
    (hn : ∀ x ∈ c.mort, 0 ≤ x) (hm : c.mortOK = true) (hr0 : 0 ≤ ratio) (hr1 : ratio ≤ 1)
    (hd : ValidDraw c.mort (c.ratioRemovedInfected ratio) dI) :
    (MortOp.remove dI).rel rate lag c (c.removeByRatio ratio dI dE) ∧
    (MortOp.remove dI).keepsI c (c.removeByRatio ratio dI dE) :=
  have hm' := (mortOK_iff c).mp hm
  have hi : 0 ≤ c.i := hm' ▸ sumL_nonneg hn
  have hb := ratioRemovedInfected_bounds c hi hr0 hr1
  mortc_removeExposed rate lag _ c _ _ dE
    (mortc_removeInfected rate lag c (c.ratioRemovedInfected ratio) dI hm' hb.1 hb.2 hd)

/-- Removal treatment, coefficient in [0,1]: the cohorts lose their shares rounded up - a `remove`
    on the cohorts in every case. The infected count follows IFF the application is "all infected"
    or the rounding of the total agrees with the per-cohort rounding (`roundingAgrees`, F20). -/
theorem C11_simpleTreat_is_removal (rate : Rat) (lag : Int) (coef : Rat) (app : TreatApp) (c : Cell)
    (h0 : 0 ≤ coef) (h1 : coef ≤ 1) (hn : c.nonNeg = true) (hm : c.mortOK = true) :
    ∃ c', c.simpleTreat coef app = .ok c' ∧
      (MortOp.remove (c.mort.map fun x => rceil (getTreated coef app x))).rel rate lag c c' ∧
      ((MortOp.remove (c.mort.map fun x => rceil (getTreated coef app x))).keepsI c c' ↔
        (app = .allInfected ∨ roundingAgrees rceil coef c = true)) :=
  have ⟨_, _, _, _, _, hmn, _, _⟩ := (nonNeg_iff c).mp hn
  ⟨_, mech_simpleTreat_eq coef app c h0 h1 hn hm,
    mortc_treat rate lag rceil mech_sh_all_ceil coef app c _ hmn ((mortOK_iff c).mp hm)
      (mech_sh_ceil_bounds coef app h0 h1) rfl rfl rfl⟩

/-- Pesticide treatment, coefficient in [0,1]: the same with shares rounded down. -/
theorem C11_pesticideTreat_is_removal (rate : Rat) (lag : Int) (coef : Rat) (app : TreatApp) (c : Cell)
    (h0 : 0 ≤ coef) (h1 : coef ≤ 1) (hn : c.nonNeg = true) (hm : c.mortOK = true) :
    ∃ c', c.pesticideTreat coef app = .ok c' ∧
      (MortOp.remove (c.mort.map fun x => rfloor (getTreated coef app x))).rel rate lag c c' ∧
      ((MortOp.remove (c.mort.map fun x => rfloor (getTreated coef app x))).keepsI c c' ↔
        (app = .allInfected ∨ roundingAgrees rfloor coef c = true)) :=
  have ⟨hs, _, _, _, _, hmn, _, _⟩ := (nonNeg_iff c).mp hn
  ⟨_, mech_pesticideTreat_eq coef app c h0 h1 hs,
    mortc_treat rate lag rfloor mech_sh_all_floor coef app c _ hmn ((mortOK_iff c).mp hm)
      (mech_sh_floor_bounds coef app h0 h1) rfl rfl rfl⟩

/-- F20 on a concrete cell: cohorts `[1, 1]`, `i = 2`, ratio treatment with coefficient 1/2.
    Removal: `ceil (1/2) + ceil (1/2) = 2` leave the cohorts, `ceil 1 = 1` leaves `i`.
    Pesticide: `floor (1/2) + floor (1/2) = 0` leave the cohorts, `floor 1 = 1` leaves `i`.
    Both are removals on the cohorts, neither keeps `i = sum mort`. -/
theorem C11_ratio_treatment_breaks_i :
    let c : Cell := ⟨4, [], 2, 0, 0, [1, 1], 0, 6⟩
    c.nonNeg = true ∧ c.mortOK = true ∧
    roundingAgrees rceil (1 / 2) c = false ∧ roundingAgrees rfloor (1 / 2) c = false ∧
    (∃ c', c.simpleTreat (1 / 2) .ratio = .ok c' ∧ c'.mort = [0, 0] ∧ c'.i = 1 ∧ c'.mortOK = false) ∧
    (∃ c', c.pesticideTreat (1 / 2) .ratio = .ok c' ∧ c'.mort = [1, 1] ∧ c'.i = 1 ∧
      c'.mortOK = false) := by
  intro c
  refine ⟨by decide, by decide, by decide +kernel, by decide +kernel, ?_, ?_⟩
  · exact ⟨_, mech_simpleTreat_eq (1 / 2) .ratio c (by decide +kernel) (by decide +kernel)
      (by decide) (by decide), by decide +kernel, by decide +kernel, by decide +kernel⟩
  · exact ⟨_, mech_pesticideTreat_eq (1 / 2) .ratio c (by decide +kernel) (by decide +kernel)
      (by decide), by decide +kernel, by decide +kernel, by decide +kernel⟩

/-- Host movement, source side (class draw with `0 ≤ d.i ≤ i`, valid cohort draw when `d.i > 0`):
    the removal of the cohort draw (of zeros when no infected host moves). -/
theorem C11_move_source_is_removal (rate : Rat) (lag : Int) (src dst : Cell) (count : Int)
    (d : ClassDraw) (dE dM : List Int) (hn : ∀ x ∈ src.mort, 0 ≤ x) (hm : src.mortOK = true)
    (hd0 : 0 ≤ d.i) (hd1 : d.i ≤ src.i) (hd : d.i > 0 → ValidDraw src.mort d.i dM) :
    (MortOp.remove (moveMortDelta src d dM)).rel rate lag src (moveHosts src dst count d dE dM).1 ∧
    (MortOp.remove (moveMortDelta src d dM)).keepsI src (moveHosts src dst count d dE dM).1 :=
  have ⟨_, _, hsum, hdom⟩ := mortc_moveDelta src d dM ((mortOK_iff src).mp hm) hd0 hd1 hd
  ⟨mortc_remove_of_Dom rate lag (hdom hn) rfl rfl,
    show (moveHosts src dst count d dE dM).1.i = src.i - sumL (moveMortDelta src d dM) from
      hsum ▸ rfl⟩

/-- Host movement, target side: the same counts arrive cohort by cohort (`arrive`, not `add`). -/
theorem C11_move_target_is_arrival (rate : Rat) (lag : Int) (src dst : Cell) (count : Int)
    (d : ClassDraw) (dE dM : List Int) (hlen : src.mort.length = dst.mort.length)
    (hm : src.mortOK = true)
    (hd0 : 0 ≤ d.i) (hd1 : d.i ≤ src.i) (hd : d.i > 0 → ValidDraw src.mort d.i dM) :
    (MortOp.arrive (moveMortDelta src d dM)).rel rate lag dst (moveHosts src dst count d dE dM).2.1 ∧
    (MortOp.arrive (moveMortDelta src d dM)).keepsI dst (moveHosts src dst count d dE dM).2.1 :=
  have ⟨hl, hnn, hsum, _⟩ := mortc_moveDelta src d dM ((mortOK_iff src).mp hm) hd0 hd1 hd
  ⟨⟨hl.trans hlen, hnn, rfl, rfl⟩,
    show (moveHosts src dst count d dE dM).2.1.i = dst.i + sumL (moveMortDelta src d dM) from
      hsum ▸ rfl⟩

/-- The SEI latency step adds the matured hosts (the front exposed cohort, when `step ≥ latency`) to
    the youngest cohort. -/
theorem C11_latency_step_is_addition (rate : Rat) (lag : Int) (latency step : Nat) (c : Cell)
    (he : ∀ x ∈ c.e, 0 ≤ x) :
    (MortOp.add (if step ≥ latency then c.e.headD 0 else 0)).rel rate lag c
        (c.stepForward .sei latency step) ∧
    (MortOp.add (if step ≥ latency then c.e.headD 0 else 0)).keepsI c
        (c.stepForward .sei latency step) := by
  unfold Cell.stepForward
  by_cases hs : step ≥ latency
  · simp only [hs, if_true]
    cases hce : c.e with
    | nil => exact mortc_add_zero rate lag c
    | cons o rest =>
      simp only [List.headD_cons]
      exact ⟨⟨he o (by rw [hce]; simp), rfl, rfl⟩, rfl⟩
  · simp only [hs, if_false]
    exact mortc_add_zero rate lag c

/-- A landing adds one host to the youngest cohort in SI when a susceptible host is present. -/
theorem C11_landing_is_addition (rate : Rat) (lag : Int) (mt : ModelType) (c : Cell) :
    (MortOp.add (if c.s ≤ 0 ∨ mt = .sei then 0 else 1)).rel rate lag c (c.addDisperserAt mt).1 ∧
    (MortOp.add (if c.s ≤ 0 ∨ mt = .sei then 0 else 1)).keepsI c (c.addDisperserAt mt).1 := by
  unfold Cell.addDisperserAt
  by_cases hs : c.s ≤ 0
  · simp only [hs, if_true, true_or]
    exact mortc_add_zero rate lag c
  · cases mt with
    | si =>
      have hne : ¬ (ModelType.si = ModelType.sei) := by decide
      simp only [hs, if_false, false_or, hne]
      exact ⟨⟨by omega, rfl, rfl⟩, rfl⟩
    | sei =>
      simp only [hs, if_false, or_true, if_true]
      exact mortc_add_zero rate lag c

/-! ### `C11_eventual_death` is the special case "mortality step, addition, mortality step, ..." -/

/-- The history `mortalityRun` makes: each mortality step followed by an addition. -/
def interleavedAdds : List Int → List MortOp
  | [] => []
  | a :: rest => .mortality :: .add a :: interleavedAdds rest

theorem mortalityRun_eq_history (rate : Rat) (lag : Int) : ∀ (adds : List Int) (c : Cell),
    mortalityRun rate lag adds c = mortHistory rate lag (interleavedAdds adds) c
  | [], _ => rfl
  | a :: rest, c => by
    simp only [mortalityRun, interleavedAdds, mortHistory]
    cases (CellOp.mortality rate lag).apply c with
    | error e => rfl
    | ok c1 => exact mortalityRun_eq_history rate lag rest (c1.infectN a)

theorem interleavedAdds_facts : ∀ (adds : List Int),
    mortSteps (interleavedAdds adds) = adds.length ∧ addedBy (interleavedAdds adds) = sumL adds ∧
    removedBy (interleavedAdds adds) = 0
  | [] => ⟨rfl, rfl, rfl⟩
  | a :: rest => by
    obtain ⟨h1, h2, h3⟩ := interleavedAdds_facts rest
    simp only [interleavedAdds, mortSteps, addedBy, removedBy, MortOp.added, MortOp.removed,
      List.length_cons, sumL_cons, h1, h2, h3]
    exact ⟨trivial, Int.zero_add _, Int.zero_add _⟩

theorem interleavedAdds_window (n : Nat) (adds : List Int) (h : adds.length ≤ n) :
    lastMortWindow n (interleavedAdds adds) = interleavedAdds adds := by
  cases adds with
  | nil => rfl
  | cons a rest =>
    have h1 := (interleavedAdds_facts rest).1
    have : mortSteps (MortOp.add a :: interleavedAdds rest) < n := by
      simp only [mortSteps, h1]; simp only [List.length_cons] at h; omega
    simp only [interleavedAdds, lastMortWindow, this, if_true]

theorem interleavedAdds_valid (rate : Rat) (lag : Int) : ∀ (adds : List Int) (c : Cell),
    (∀ a ∈ adds, 0 ≤ a) → ValidMortHistory rate lag (interleavedAdds adds) c
  | [], _, _ => trivial
  | a :: rest, c, h => by
    simp only [interleavedAdds, ValidMortHistory]
    cases (CellOp.mortality rate lag).apply c with
    | error e => trivial
    | ok c1 =>
      exact ⟨h a (by simp), interleavedAdds_valid rate lag rest _ (fun z hz => h z (by simp [hz]))⟩

theorem mortalityRun_trace (rate : Rat) (lag : Int) (adds : List Int) (c c' : Cell)
    (hadds : ∀ a ∈ adds, 0 ≤ a) (h : mortalityRun rate lag adds c = .ok c') :
    MortTrace (MortOp.rel rate lag) (interleavedAdds adds) c c' :=
  MortTrace.mono (fun _ _ _ hR => hR.1) _ c c'
    (mortHistory_trace rate lag c' _ c (interleavedAdds_valid rate lag adds c hadds)
      (mortalityRun_eq_history rate lag adds c ▸ h))

/-- The statement of `C11_eventual_death`, derived from `C11_eventual_death_history`. -/
example (c c' : Cell) (rate : Rat) (lag : Int) (adds : List Int)
    (hr0 : 0 < rate) (hr1 : rate ≤ 1) (hl0 : 0 ≤ lag) (hl : lag < c.mort.length)
    (hn : c.nonNeg = true) (hm : c.mortOK = true)
    (hadds : ∀ a ∈ adds, 0 ≤ a) (hlen : adds.length = c.mort.length)
    (h : mortalityRun rate lag adds c = .ok c') :
    sumL c'.mort ≤ sumL adds ∧ c.i ≤ c'.died - c.died := by
  obtain ⟨_, _, _, _, _, hmn, _, _⟩ := (nonNeg_iff c).mp hn
  obtain ⟨f1, f2, f3⟩ := interleavedAdds_facts adds
  rw [mortalityRun_eq_history] at h
  obtain ⟨r1, r2, r3⟩ := C11_eventual_death_history c c' rate lag (interleavedAdds adds) hr0 hr1 hl0 hl
    hmn hm (by rw [f1, hlen]; exact Nat.le_refl _) (interleavedAdds_valid rate lag adds c hadds) h
  rw [interleavedAdds_window _ adds (Nat.le_of_eq hlen), f2, (mortOK_iff c').mp r1] at r2
  rw [f3, Int.sub_zero] at r3
  exact ⟨r2, r3⟩

/-! ### Instances -/

/-- Three cohorts `[3, 2, 1]`, rate 1/2, lag 1, four mortality steps with an early addition, two
    removals and an arrival in between. The run ends with cohorts `[1, 0, 1]`, `i = 2`, `died = 9`.
    The last three mortality steps start at the fourth entry; from there on `2 + 1 + 1 = 4` hosts
    were added (9 in total - the early 5 are all dead or removed - and 4 removed): `2 ≤ 4`, `6 - 4 ≤ 9`. -/
example :
    let c : Cell := ⟨20, [], 6, 0, 0, [3, 2, 1], 0, 26⟩
    let ops : List MortOp := [.add 5, .mortality, .remove [1, 2, 0], .mortality, .add 2, .mortality,
      .remove [0, 1, 0], .arrive [1, 0, 0], .mortality, .add 1]
    ∃ c', mortHistory (1 / 2) 1 ops c = .ok c' ∧ c'.mort = [1, 0, 1] ∧ c'.died = 9 ∧
      addedBy (lastMortWindow 3 ops) = 4 ∧ addedBy ops = 9 ∧ removedBy ops = 4 ∧
      c'.mortOK = true ∧ c'.i ≤ 4 ∧ c.i - 4 ≤ c'.died - c.died := by
  intro c ops
  have hrun : mortHistory (1 / 2) 1 ops c = .ok ⟨12, [], 2, 0, 0, [1, 0, 1], 9, 14⟩ :=
    mortc_ok_of_check (by decide +kernel)
  have hv : ValidMortHistory (1 / 2) 1 ops c := by decide +kernel
  have hw : addedBy (lastMortWindow 3 ops) = 4 := by decide
  obtain ⟨r1, r2, r3⟩ := C11_eventual_death_history c _ (1 / 2) 1 ops (by decide +kernel)
    (by decide +kernel) (by decide) (by decide) (by decide) (by decide) (by decide) hv hrun
  refine ⟨_, hrun, rfl, rfl, hw, by decide, by decide, r1, ?_, ?_⟩
  · have : c.mort.length = 3 := rfl
    rw [this, hw] at r2; exact r2
  · have : removedBy ops = 4 := by decide
    rw [this] at r3; exact r3

/-- Lethal temperature on cohorts `[3, 2, 1]`: the draw `[3, 2, 1]` is removed, `i` goes to 0. -/
example :
    let c : Cell := ⟨5, [], 6, 0, 0, [3, 2, 1], 0, 11⟩
    (MortOp.remove [3, 2, 1]).rel (1 / 2) 1 c (c.removeAllInfected [3, 2, 1]) ∧
    (c.removeAllInfected [3, 2, 1]).mort = [0, 0, 0] ∧ (c.removeAllInfected [3, 2, 1]).i = 0 := by
  intro c
  have hd : ValidDraw c.mort c.i [3, 2, 1] :=
    ⟨rfl, by decide, by decide⟩
  exact ⟨(C11_lethal_is_removal (1 / 2) 1 c [3, 2, 1] (by decide) (by decide) hd).1, by decide, by decide⟩

/-- Survival rate 1/2 on the same cell: `6 - round 3 = 3` infected are removed, here one per cohort. -/
example :
    let c : Cell := ⟨5, [0, 2], 6, 0, 2, [3, 2, 1], 0, 13⟩
    (MortOp.remove [1, 1, 1]).rel (1 / 2) 1 c (c.removeByRatio (1 / 2) [1, 1, 1] [0, 1]) ∧
    (MortOp.remove [1, 1, 1]).keepsI c (c.removeByRatio (1 / 2) [1, 1, 1] [0, 1]) := by
  intro c
  have hd : ValidDraw c.mort (c.ratioRemovedInfected (1 / 2)) [1, 1, 1] :=
    ⟨rfl, by decide, by decide +kernel⟩
  exact C11_survival_is_removal (1 / 2) 1 c (1 / 2) [1, 1, 1] [0, 1] (by decide) (by decide)
    (by decide +kernel) (by decide +kernel) hd

/-- Ratio treatments where the rounding agrees (cohorts `[2, 4]`, coefficient 1/2: `1 + 2 = 3`):
    removal and pesticide are removals that keep `i` in step. -/
example :
    let c : Cell := ⟨4, [], 6, 0, 0, [2, 4], 0, 10⟩
    (∃ c', c.simpleTreat (1 / 2) .ratio = .ok c' ∧
      (MortOp.remove (c.mort.map fun x => rceil (getTreated (1 / 2) .ratio x))).keepsI c c') ∧
    (∃ c', c.pesticideTreat (1 / 2) .ratio = .ok c' ∧
      (MortOp.remove (c.mort.map fun x => rfloor (getTreated (1 / 2) .ratio x))).keepsI c c') := by
  intro c
  obtain ⟨c1, a1, _, a3⟩ := C11_simpleTreat_is_removal (1 / 2) 1 (1 / 2) .ratio c (by decide +kernel)
    (by decide +kernel) (by decide) (by decide)
  obtain ⟨c2, b1, _, b3⟩ := C11_pesticideTreat_is_removal (1 / 2) 1 (1 / 2) .ratio c (by decide +kernel)
    (by decide +kernel) (by decide) (by decide)
  exact ⟨⟨c1, a1, a3.mpr (Or.inr (by decide +kernel))⟩, ⟨c2, b1, b3.mpr (Or.inr (by decide +kernel))⟩⟩

/-- Host movement of 3 hosts (2 infected, 1 susceptible) between two cells with three cohorts:
    `[1, 0, 1]` leaves the source cohorts and arrives in the SAME cohorts of the target. -/
example :
    let src : Cell := ⟨5, [], 6, 0, 0, [3, 2, 1], 0, 11⟩
    let dst : Cell := ⟨7, [], 1, 0, 0, [0, 0, 1], 0, 8⟩
    let d : ClassDraw := ⟨2, 1, 0, 0⟩
    (MortOp.remove [1, 0, 1]).rel (1 / 2) 1 src (moveHosts src dst 3 d [] [1, 0, 1]).1 ∧
    (MortOp.arrive [1, 0, 1]).rel (1 / 2) 1 dst (moveHosts src dst 3 d [] [1, 0, 1]).2.1 ∧
    (moveHosts src dst 3 d [] [1, 0, 1]).1.mort = [2, 2, 0] ∧
    (moveHosts src dst 3 d [] [1, 0, 1]).2.1.mort = [1, 0, 2] := by
  intro src dst d
  have hd : d.i > 0 → ValidDraw src.mort d.i [1, 0, 1] := fun _ =>
    ⟨rfl, by decide, by decide⟩
  exact ⟨(C11_move_source_is_removal (1 / 2) 1 src dst 3 d [] [1, 0, 1] (by decide) (by decide)
      (by decide) (by decide) hd).1,
    (C11_move_target_is_arrival (1 / 2) 1 src dst 3 d [] [1, 0, 1] rfl (by decide)
      (by decide) (by decide) hd).1, by decide, by decide⟩

/-- The latency step of a cell with exposed cohorts `[4, 0, 5]` (step 5 ≥ latency 2) is `add 4`; a
    landing on a cell with susceptible hosts in SI is `add 1`. -/
example :
    let c : Cell := ⟨10, [4, 0, 5], 3, 0, 9, [1, 2], 0, 22⟩
    (MortOp.add 4).rel (1 / 2) 1 c (c.stepForward .sei 2 5) ∧
    (MortOp.add 1).rel (1 / 2) 1 c (c.addDisperserAt .si).1 := by
  intro c
  exact ⟨(C11_latency_step_is_addition (1 / 2) 1 2 5 c (by decide)).1,
    (C11_landing_is_addition (1 / 2) 1 .si c).1⟩

end Pops
