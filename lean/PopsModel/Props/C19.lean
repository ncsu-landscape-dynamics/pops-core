/-
  C19  Raster arithmetic is element-wise and value-semantic for every shape.
  Property theorems; helper lemmas are in PopsModel/Lemmas/Raster{,Heap,Frame,Effects}.lean.

  Part A (values): every operator of raster.hpp, for every operand kind, is the cell-wise
  operation on cells with the same (row, col); integer rasters stay integer (truncation toward
  zero of the exact result, the compound form agreeing with the binary one); different shapes are
  rejected with `invalid_argument` by the binary and the compound raster forms; `==` holds exactly
  for equal shape and equal cells, `!=` is its negation.
  Part B (storage): for *every* sequence of operations of the heap machine that respects the
  caller's contract (`Heap.inScope`), from any state satisfying the invariant (in particular from
  the initial state): no fault of any kind; copies are independent; moves transfer the buffer;
  wrappers write through and never free; operands of the arithmetic operators are unchanged.
-/
import PopsModel.Lemmas.Raster
import PopsModel.Lemmas.RasterEffects
import PopsModel.Model.RasterF31
namespace Pops
open Heap

/-! ## Part A: values -/

/-- `raster op scalar` for the four type combinations: shape kept, cell `(i, j)` of the result
    is `a(i, j) op v` with the C++ conversions. -/
theorem C19_elementwise_raster_scalar (o : BinOp) :
    (∀ (a : Raster Int) (v : Int), a.WF → ElemMapOK (fun x => o.int x v) a (a.rsII o v) = true) ∧
    (∀ (a : Raster Int) (v : Rat), a.WF → ElemMapOK (fun x => d2i (o.dbl (i2d x) v)) a (a.rsID o v) = true) ∧
    (∀ (a : Raster Rat) (v : Int), a.WF → ElemMapOK (fun x => o.dbl x (i2d v)) a (a.rsDI o v) = true) ∧
    (∀ (a : Raster Rat) (v : Rat), a.WF → ElemMapOK (fun x => o.dbl x v) a (a.rsDD o v) = true) :=
  ⟨fun a v hw => elemMapOK_map (cRS_II o v) a hw, fun a v hw => elemMapOK_map (cRS_ID o v) a hw,
   fun a v hw => elemMapOK_map (cRS_DI o v) a hw, fun a v hw => elemMapOK_map (cRS_DD o v) a hw⟩

/-- `scalar op raster`: cell `(i, j)` is `v op a(i, j)` (operand order matters for `-` and `/`). -/
theorem C19_elementwise_scalar_raster (a : Raster Int) (d : Raster Rat) (v : Int) (w : Rat)
    (ha : a.WF) (hd : d.WF) :
    ElemMapOK (fun x => x + v) a (Raster.srII .add v a) = true ∧
    ElemMapOK (fun x => v - x) a (Raster.srII .sub v a) = true ∧
    ElemMapOK (fun x => x * v) a (Raster.srII .mul v a) = true ∧
    ElemMapOK (fun x => Int.tdiv v x) a (Raster.srII .div v a) = true ∧
    ElemMapOK (fun x => d2i (i2d x + w)) a (Raster.srID .add w a) = true ∧
    ElemMapOK (fun x => d2i (w - i2d x)) a (Raster.srID .sub w a) = true ∧
    ElemMapOK (fun x => d2i (i2d x * w)) a (Raster.srID .mul w a) = true ∧
    ElemMapOK (fun x => d2i (w / i2d x)) a (Raster.srID .div w a) = true ∧
    ElemMapOK (fun x => x + i2d v) d (Raster.srDI .add v d) = true ∧
    ElemMapOK (fun x => i2d v - x) d (Raster.srDI .sub v d) = true ∧
    ElemMapOK (fun x => x * i2d v) d (Raster.srDI .mul v d) = true ∧
    ElemMapOK (fun x => i2d v / x) d (Raster.srDI .div v d) = true ∧
    ElemMapOK (fun x => x + w) d (Raster.srDD .add w d) = true ∧
    ElemMapOK (fun x => w - x) d (Raster.srDD .sub w d) = true ∧
    ElemMapOK (fun x => x * w) d (Raster.srDD .mul w d) = true ∧
    ElemMapOK (fun x => w / x) d (Raster.srDD .div w d) = true :=
  ⟨elemMapOK_map (cSR_II .add v) a ha, elemMapOK_map (cSR_II .sub v) a ha,
   elemMapOK_map (cSR_II .mul v) a ha, elemMapOK_map (cSR_II .div v) a ha,
   elemMapOK_map (cSR_ID .add w) a ha, elemMapOK_map (cSR_ID .sub w) a ha,
   elemMapOK_map (cSR_ID .mul w) a ha, elemMapOK_map (cSR_ID .div w) a ha,
   elemMapOK_map (cSR_DI .add v) d hd, elemMapOK_map (cSR_DI .sub v) d hd,
   elemMapOK_map (cSR_DI .mul v) d hd, elemMapOK_map (cSR_DI .div v) d hd,
   elemMapOK_map (cSR_DD .add w) d hd, elemMapOK_map (cSR_DD .sub w) d hd,
   elemMapOK_map (cSR_DD .mul w) d hd, elemMapOK_map (cSR_DD .div w) d hd⟩

/-- The same in the property's own words: each cell of `scalar op a` is `v op a(i, j)` for every
    operator (the header computes `+` and `*` as `a(i, j) op v`; they commute). -/
theorem C19_elementwise_scalar_raster_spec (o : BinOp) :
    (∀ (a : Raster Int) (v : Int), a.WF → ElemMapOK (specSR_II o v) a (Raster.srII o v a) = true) ∧
    (∀ (a : Raster Int) (v : Rat), a.WF → ElemMapOK (specSR_ID o v) a (Raster.srID o v a) = true) ∧
    (∀ (a : Raster Rat) (v : Int), a.WF → ElemMapOK (specSR_DI o v) a (Raster.srDI o v a) = true) ∧
    (∀ (a : Raster Rat) (v : Rat), a.WF → ElemMapOK (specSR_DD o v) a (Raster.srDD o v a) = true) :=
  ⟨fun a v hw => by rw [elemMapOK_congr (specSR_II_eq o v)]; exact elemMapOK_map _ a hw,
   fun a v hw => by rw [elemMapOK_congr (specSR_ID_eq o v)]; exact elemMapOK_map _ a hw,
   fun a v hw => by rw [elemMapOK_congr (specSR_DI_eq o v)]; exact elemMapOK_map _ a hw,
   fun a v hw => by rw [elemMapOK_congr (specSR_DD_eq o v)]; exact elemMapOK_map _ a hw⟩

/-- `raster op raster` for the four type combinations (result of the common type): whenever the
    operator returns, cell `(i, j)` of the result is `a(i, j) op b(i, j)`. -/
theorem C19_elementwise_raster_raster (o : BinOp) :
    (∀ (a b r : Raster Int), a.WF → b.WF → a.rrII o b = .ok r → ElemZipOK o.int a b r = true) ∧
    (∀ (a : Raster Int) (b r : Raster Rat), a.WF → b.WF → a.rrID o b = .ok r →
      ElemZipOK (fun x y => o.dbl (i2d x) y) a b r = true) ∧
    (∀ (a : Raster Rat) (b : Raster Int) (r : Raster Rat), a.WF → b.WF → a.rrDI o b = .ok r →
      ElemZipOK (fun x y => o.dbl x (i2d y)) a b r = true) ∧
    (∀ (a b r : Raster Rat), a.WF → b.WF → a.rrDD o b = .ok r → ElemZipOK o.dbl a b r = true) :=
  ⟨fun a b r h1 h2 h => elemZipOK_zip (cRR_II o) a b r h1 h2 h,
   fun a b r h1 h2 h => elemZipOK_zip (cRR_ID o) a b r h1 h2 h,
   fun a b r h1 h2 h => elemZipOK_zip (cRR_DI o) a b r h1 h2 h,
   fun a b r h1 h2 h => elemZipOK_zip (cRR_DD o) a b r h1 h2 h⟩

/-- Compound `raster op= scalar`: the new left operand is cell-wise `a(i, j) op v`. -/
theorem C19_elementwise_compound_scalar (o : BinOp) :
    (∀ (a : Raster Int) (v : Int), a.WF → ElemMapOK (fun x => o.int x v) a (a.asII o v) = true) ∧
    (∀ (a : Raster Int) (v : Rat), a.WF → ElemMapOK (fun x => d2i (o.dbl (i2d x) v)) a (a.asID o v) = true) ∧
    (∀ (a : Raster Rat) (v : Int), a.WF → ElemMapOK (fun x => o.dbl x (i2d v)) a (a.asDI o v) = true) ∧
    (∀ (a : Raster Rat) (v : Rat), a.WF → ElemMapOK (fun x => o.dbl x v) a (a.asDD o v) = true) :=
  ⟨fun a v hw => elemMapOK_map (cAS_II o v) a hw, fun a v hw => elemMapOK_map (cAS_ID o v) a hw,
   fun a v hw => elemMapOK_map (cAS_DI o v) a hw, fun a v hw => elemMapOK_map (cAS_DD o v) a hw⟩

/-- Compound `raster op= raster` (left type floating or both the same): whenever it returns,
    the new left operand is cell-wise `a(i, j) op b(i, j)`. -/
theorem C19_elementwise_compound_raster (o : BinOp) :
    (∀ (a b r : Raster Int), a.WF → b.WF → a.arII o b = .ok r → ElemZipOK o.int a b r = true) ∧
    (∀ (a : Raster Rat) (b : Raster Int) (r : Raster Rat), a.WF → b.WF → a.arDI o b = .ok r →
      ElemZipOK (fun x y => o.dbl x (i2d y)) a b r = true) ∧
    (∀ (a b r : Raster Rat), a.WF → b.WF → a.arDD o b = .ok r → ElemZipOK o.dbl a b r = true) :=
  ⟨fun a b r h1 h2 h => elemZipOK_zipAssign (cAR_II o) a b r h1 h2 h,
   fun a b r h1 h2 h => elemZipOK_zipAssign (cAR_DI o) a b r h1 h2 h,
   fun a b r h1 h2 h => elemZipOK_zipAssign (cAR_DD o) a b r h1 h2 h⟩

/-- All operator families together. -/
theorem C19_elementwise (o : BinOp) :
    ((∀ (a : Raster Int) (v : Int), a.WF → ElemMapOK (fun x => o.int x v) a (a.rsII o v) = true) ∧
     (∀ (a : Raster Int) (v : Rat), a.WF → ElemMapOK (fun x => d2i (o.dbl (i2d x) v)) a (a.rsID o v) = true) ∧
     (∀ (a : Raster Rat) (v : Int), a.WF → ElemMapOK (fun x => o.dbl x (i2d v)) a (a.rsDI o v) = true) ∧
     (∀ (a : Raster Rat) (v : Rat), a.WF → ElemMapOK (fun x => o.dbl x v) a (a.rsDD o v) = true)) ∧
    ((∀ (a : Raster Int) (v : Int), a.WF → ElemMapOK (specSR_II o v) a (Raster.srII o v a) = true) ∧
     (∀ (a : Raster Int) (v : Rat), a.WF → ElemMapOK (specSR_ID o v) a (Raster.srID o v a) = true) ∧
     (∀ (a : Raster Rat) (v : Int), a.WF → ElemMapOK (specSR_DI o v) a (Raster.srDI o v a) = true) ∧
     (∀ (a : Raster Rat) (v : Rat), a.WF → ElemMapOK (specSR_DD o v) a (Raster.srDD o v a) = true)) ∧
    ((∀ (a b r : Raster Int), a.WF → b.WF → a.rrII o b = .ok r → ElemZipOK o.int a b r = true) ∧
     (∀ (a : Raster Int) (b r : Raster Rat), a.WF → b.WF → a.rrID o b = .ok r →
       ElemZipOK (fun x y => o.dbl (i2d x) y) a b r = true) ∧
     (∀ (a : Raster Rat) (b : Raster Int) (r : Raster Rat), a.WF → b.WF → a.rrDI o b = .ok r →
       ElemZipOK (fun x y => o.dbl x (i2d y)) a b r = true) ∧
     (∀ (a b r : Raster Rat), a.WF → b.WF → a.rrDD o b = .ok r → ElemZipOK o.dbl a b r = true)) ∧
    ((∀ (a : Raster Int) (v : Int), a.WF → ElemMapOK (fun x => o.int x v) a (a.asII o v) = true) ∧
     (∀ (a : Raster Int) (v : Rat), a.WF → ElemMapOK (fun x => d2i (o.dbl (i2d x) v)) a (a.asID o v) = true) ∧
     (∀ (a : Raster Rat) (v : Int), a.WF → ElemMapOK (fun x => o.dbl x (i2d v)) a (a.asDI o v) = true) ∧
     (∀ (a : Raster Rat) (v : Rat), a.WF → ElemMapOK (fun x => o.dbl x v) a (a.asDD o v) = true)) ∧
    ((∀ (a b r : Raster Int), a.WF → b.WF → a.arII o b = .ok r → ElemZipOK o.int a b r = true) ∧
     (∀ (a : Raster Rat) (b : Raster Int) (r : Raster Rat), a.WF → b.WF → a.arDI o b = .ok r →
       ElemZipOK (fun x y => o.dbl x (i2d y)) a b r = true) ∧
     (∀ (a b r : Raster Rat), a.WF → b.WF → a.arDD o b = .ok r → ElemZipOK o.dbl a b r = true)) :=
  ⟨C19_elementwise_raster_scalar o, C19_elementwise_scalar_raster_spec o, C19_elementwise_raster_raster o,
   C19_elementwise_compound_scalar o, C19_elementwise_compound_raster o⟩

/-- The predicate is the coordinate-wise statement: it forces the shape and every cell. -/
theorem C19_elementwise_meaning {α β : Type} [DecidableEq β] (f : α → β) (a : Raster α) (r : Raster β)
    (h : ElemMapOK f a r = true) :
    r.rows = a.rows ∧ r.cols = a.cols ∧ r.WF ∧
    ∀ i j, i < a.rows → j < a.cols → r.at? i j = (a.at? i j).map f := by
  simp only [ElemMapOK, Bool.and_eq_true, beq_iff_eq, all_range_true] at h
  exact ⟨h.1.1.1, h.1.1.2, h.1.2, fun i j hi hj => h.2 i hi j hj⟩

example : ElemMapOK (fun x => d2i (BinOp.mul.dbl (i2d x) (1/2))) (⟨3, 1, [5, -5, 4]⟩ : Raster Int)
    ((⟨3, 1, [5, -5, 4]⟩ : Raster Int).asID .mul (1/2)) = true :=
  (C19_elementwise_compound_scalar .mul).2.1 ⟨3, 1, [5, -5, 4]⟩ (1/2) (by decide)

example : ElemZipOK BinOp.div.int (⟨2, 3, [7, -7, 9, 1, 0, 5]⟩ : Raster Int) ⟨2, 3, [2, 2, -3, 1, 4, 5]⟩
    ⟨2, 3, [3, -3, -3, 1, 0, 1]⟩ = true := by decide

/-- Integer rasters stay integer under scalar operations: with a floating scalar each cell is the
    exact result truncated toward zero (equal to it when it is an integer), and the compound form
    gives the same raster as the binary form. -/
theorem C19_int_stays_int (o : BinOp) (a : Raster Int) (v : Rat) :
    a.asID o v = a.rsID o v ∧
    (∀ x : Int, cRS_ID o v x = d2i (o.dbl (i2d x) v)) ∧
    (∀ q : Rat, (0 ≤ q → 0 ≤ d2i q ∧ (d2i q : Rat) ≤ q ∧ q < ((d2i q + 1 : Int) : Rat)) ∧
               (q < 0 → d2i q ≤ 0 ∧ q ≤ (d2i q : Rat) ∧ (d2i q : Rat) < q + 1)) ∧
    (∀ n : Int, d2i (i2d n) = n) :=
  ⟨rfl, fun _ => rfl, fun _ => ⟨d2i_nonneg, d2i_neg⟩, d2i_i2d⟩

/-- Binary and compound raster-raster operators reject operands of different shape with
    `invalid_argument` (for any cell function, hence every operator and type combination), and
    accept equal shapes. -/
theorem C19_shape_mismatch_rejected {α β γ : Type} (f : α → β → γ) (g : α → β → α)
    (a : Raster α) (b : Raster β) :
    ((a.rows ≠ b.rows ∨ a.cols ≠ b.cols) →
      Raster.zip f a b = .error .invalid_argument ∧ Raster.zipAssign g a b = .error .invalid_argument) ∧
    ((a.rows = b.rows ∧ a.cols = b.cols) →
      (∃ r, Raster.zip f a b = .ok r ∧ r.rows = a.rows ∧ r.cols = a.cols) ∧
      (∃ r, Raster.zipAssign g a b = .ok r ∧ r.rows = a.rows ∧ r.cols = a.cols)) := by
  constructor
  · intro h
    have : a.cols ≠ b.cols ∨ a.rows ≠ b.rows := by omega
    simp only [Raster.zip, Raster.zipAssign, if_pos this, and_self]
  · intro h
    have : ¬ (a.cols ≠ b.cols ∨ a.rows ≠ b.rows) := by omega
    simp only [Raster.zip, Raster.zipAssign, if_neg this]
    exact ⟨⟨_, rfl, rfl, rfl⟩, ⟨_, rfl, rfl, rfl⟩⟩

/-- Instances: the sixteen binary and twelve compound operators are `zip` / `zipAssign`. -/
theorem C19_shape_mismatch_rejected_ops (o : BinOp) (a : Raster Int) (b : Raster Int) (c : Raster Rat) (d : Raster Rat)
    (hab : a.rows ≠ b.rows ∨ a.cols ≠ b.cols) (hac : a.rows ≠ c.rows ∨ a.cols ≠ c.cols)
    (hca : c.rows ≠ a.rows ∨ c.cols ≠ a.cols) (hcd : c.rows ≠ d.rows ∨ c.cols ≠ d.cols) :
    a.rrII o b = .error .invalid_argument ∧ a.rrID o c = .error .invalid_argument ∧
    c.rrDI o a = .error .invalid_argument ∧ c.rrDD o d = .error .invalid_argument ∧
    a.arII o b = .error .invalid_argument ∧ c.arDI o a = .error .invalid_argument ∧
    c.arDD o d = .error .invalid_argument :=
  ⟨((C19_shape_mismatch_rejected (cRR_II o) (cAR_II o) a b).1 hab).1,
   ((C19_shape_mismatch_rejected (cRR_ID o) (fun x _ => x) a c).1 hac).1,
   ((C19_shape_mismatch_rejected (cRR_DI o) (cAR_DI o) c a).1 hca).1,
   ((C19_shape_mismatch_rejected (cRR_DD o) (cAR_DD o) c d).1 hcd).1,
   ((C19_shape_mismatch_rejected (cRR_II o) (cAR_II o) a b).1 hab).2,
   ((C19_shape_mismatch_rejected (cRR_DI o) (cAR_DI o) c a).1 hca).2,
   ((C19_shape_mismatch_rejected (cRR_DD o) (cAR_DD o) c d).1 hcd).2⟩

example : (⟨1, 3, [1, 2, 3]⟩ : Raster Int).rrII .add ⟨3, 1, [1, 2, 3]⟩ = .error .invalid_argument ∧
    (⟨2, 3, [1, 2, 3, 4, 5, 6]⟩ : Raster Int).arII .add ⟨3, 2, [1, 2, 3, 4, 5, 6]⟩ = .error .invalid_argument :=
  ⟨rfl, rfl⟩

/-- Two rasters compare equal exactly when their shapes and all their cells agree (any `rows`,
    `cols`, also `rows ≠ cols`), and `!=` is the negation of `==`. -/
theorem C19_eq_iff {α : Type} [DecidableEq α] (a b : Raster α) (ha : a.WF) (hb : b.WF) :
    (a.eqOp b = true ↔ (a.rows = b.rows ∧ a.cols = b.cols ∧ a.cells = b.cells)) ∧
    a.neOp b = !a.eqOp b :=
  ⟨eqOp_iff a b ha hb, neOp_eq_not_eqOp a b⟩

example : (⟨3, 1, [1, 2, 3]⟩ : Raster Int).eqOp ⟨3, 1, [1, 2, 4]⟩ = false ∧
    (⟨3, 1, [1, 2, 3]⟩ : Raster Int).eqOp ⟨1, 3, [1, 2, 3]⟩ = false ∧
    (⟨1, 3, [1, 2, 3]⟩ : Raster Int).neOp ⟨1, 3, [1, 2, 3]⟩ = false := by decide

/-- Consequence for callers that use `==` as an equivalence (e.g. to detect a fixed point of a
    run): on well-formed rasters `==` is reflexive, symmetric and transitive, for every shape. -/
theorem C19_eq_equivalence {α : Type} [DecidableEq α] (a b c : Raster α) (ha : a.WF) (hb : b.WF) (hc : c.WF) :
    a.eqOp a = true ∧ (a.eqOp b = true → b.eqOp a = true) ∧
    (a.eqOp b = true → b.eqOp c = true → a.eqOp c = true) := by
  refine ⟨(eqOp_iff a a ha ha).mpr ⟨rfl, rfl, rfl⟩, fun h => ?_, fun h1 h2 => ?_⟩
  · obtain ⟨h1, h2, h3⟩ := (eqOp_iff a b ha hb).mp h
    exact (eqOp_iff b a hb ha).mpr ⟨h1.symm, h2.symm, h3.symm⟩
  · obtain ⟨p1, p2, p3⟩ := (eqOp_iff a b ha hb).mp h1
    obtain ⟨q1, q2, q3⟩ := (eqOp_iff b c hb hc).mp h2
    exact (eqOp_iff a c ha hc).mpr ⟨p1.trans q1, p2.trans q2, p3.trans q3⟩

/-! ## Part B: storage, over every sequence of operations -/

/-- No run from the initial state (any caller arrays, any operation list) ends in a fault other
    than a breach of the caller's contract, and a completed run ends in an invariant state. -/
theorem C19_heap_safe {α : Type} (exts : List (List α)) (ops : List (HOp α)) :
    (∃ h', (Heap.init exts).run ops = .ok h' ∧ Inv h') ∨ (Heap.init exts).run ops = .error .illScoped :=
  run_ok (inv_init exts) ops

/-- The same from any invariant state. -/
theorem C19_heap_safe_from {α : Type} (h : Heap α) (hi : Inv h) (ops : List (HOp α)) :
    (∃ h', h.run ops = .ok h' ∧ Inv h') ∨ h.run ops = .error .illScoped :=
  run_ok hi ops

theorem C19_no_double_free {α : Type} (h : Heap α) (hi : Inv h) (ops : List (HOp α)) :
    h.run ops ≠ .error .doubleFree :=
  run_no_fault hi ops (by decide)

theorem C19_no_use_after_free {α : Type} (h : Heap α) (hi : Inv h) (ops : List (HOp α)) :
    h.run ops ≠ .error .useAfterFree ∧ h.run ops ≠ .error .wildPointer ∧
    h.run ops ≠ .error .nullDeref ∧ h.run ops ≠ .error .outOfBounds ∧
    (∀ h', h.run ops = .ok h' → ∀ s o b, h'.slots s = some o → o.data = some b →
      ∃ cells, h'.bufs b = .live cells ∧ o.rows * o.cols ≤ cells.length) :=
  ⟨run_no_fault hi ops (by decide), run_no_fault hi ops (by decide), run_no_fault hi ops (by decide),
   run_no_fault hi ops (by decide), fun _ e s o b h1 h2 => ((inv_of_run hi e).no_dangling s o b h1 h2).2⟩

theorem C19_no_external_free {α : Type} (h : Heap α) (hi : Inv h) (ops : List (HOp α)) :
    h.run ops ≠ .error .freeExternal ∧
    (∀ h', h.run ops = .ok h' → h'.nExt = h.nExt ∧ ∀ e, e < h.nExt → ∃ cells, h'.ext e = some cells) :=
  ⟨run_no_fault hi ops (by decide), fun _ e => ext_live_run hi e⟩

/-- The invariant behind the three statements: at every point of every run, the owners are
    disjoint (an owned buffer has exactly one raster pointing to it and is not a caller array). -/
theorem C19_owners_disjoint {α : Type} (h : Heap α) (hi : Inv h) (ops : List (HOp α)) (h' : Heap α)
    (hr : h.run ops = .ok h') (s s' : Nat) (o o' : RObj) (b : Nat)
    (h1 : h'.slots s = some o) (h2 : o.data = some b) (h3 : o.owns = true)
    (hne : s' ≠ s) (h4 : h'.slots s' = some o') : o'.data ≠ some b ∧ h'.nExt ≤ b :=
  let i' := inv_of_run hi hr
  ⟨(i'.owner_excl s o b h1 h2 h3).2 s' o' hne h4, (i'.owner_excl s o b h1 h2 h3).1⟩

/-- Copies are independent of their source. After `Raster s(t)` or `s = t` (in any reachable
    state, `s ≠ t`): `s` shows what `t` showed, nothing else changed, and from then on
    * whatever happens to the other variables and the caller arrays, `s` keeps showing that value
      until it is itself rebound or written through, and
    * a store through `s` is invisible through every other variable and in every caller array. -/
theorem C19_copy_independent {α : Type} (h h1 : Heap α) (hi : Inv h) (s t : Nat) (op : HOp α)
    (hop : op = .copyCtor s t ∨ (op = .copyAssign s t ∧ s ≠ t))
    (hs : h.inScope op = true) (he : h.step op = .ok h1) :
    h1.view s = h.view t ∧ (∀ u, u ≠ s → h1.view u = h.view u) ∧
    (∀ e, e < h.nExt → h1.ext e = h.ext e) ∧
    (∀ ops h2, (∀ op' ∈ ops, op'.reseats s = false ∧ op'.writesVia s = false) →
      h1.run ops = .ok h2 → h2.view s = h.view t) ∧
    (∀ ops h2 op' h3, (∀ op'' ∈ ops, op''.reseats s = false) → h1.run ops = .ok h2 →
      op'.writesVia s = true → h2.inScope op' = true → h2.step op' = .ok h3 →
      (∀ u, u ≠ s → h3.view u = h2.view u) ∧ (∀ e, e < h2.nExt → h3.ext e = h2.ext e)) := by
  obtain ⟨c1, c2, c3, c4⟩ := copy_effect hi hop hs he
  have i1 := inv_of_step hi hs he
  refine ⟨c1, c3, fun e he' => by simp only [ext, c4 e he'], ?_, ?_⟩
  · intro ops h2 hn hr
    rw [(private_run i1 ops c2 hn hr).2, c1]
  · intro ops h2 op' h3 hn hr hv hs' he'
    have p2 := private_keep_run i1 ops c2 hn hr
    obtain ⟨w1, w2⟩ := private_write_local (inv_of_run i1 hr) p2 hv hs' he'
    exact ⟨w1, fun e he'' => by simp only [ext, w2 e he'']⟩

/-- The hypotheses of the storage theorems are satisfiable in a non-trivial reachable state: a
    wrapper of a caller array (variable 0) and an owner (variable 1); copy-assigning the wrapper's
    view to the owner, and moving the owner, are in scope and succeed. -/
example : ∃ h h1 h2 : Heap Int, Inv h ∧ h.inScope (.copyAssign 1 0) = true ∧ h.step (.copyAssign 1 0) = .ok h1 ∧
    h.inScope (.moveCtor 3 1) = true ∧ h.step (.moveCtor 3 1) = .ok h2 ∧
    h1.view 1 = some ⟨2, 3, [1, 2, 3, 4, 5, 6]⟩ ∧ h2.view 3 = some ⟨2, 3, [7, 7, 7, 7, 7, 7]⟩ :=
  ⟨_, _, _, inv_of_run (inv_init [[1, 2, 3, 4, 5, 6]]) (ops := [.wrap 0 0 2 3, .construct 1 2 3 7]) rfl,
   rfl, rfl, rfl, rfl, by decide, by decide⟩

/-- Moves transfer the data. After `Raster s(std::move(t))` or `s = std::move(t)` (`s ≠ t`):
    `s` holds the very buffer and ownership flag `t` had and shows what `t` showed, nothing was
    allocated, `t` is left with a null pointer, and nothing else changed. -/
theorem C19_move_transfers {α : Type} (h h1 : Heap α) (hi : Inv h) (s t : Nat) (op : HOp α) (o : RObj)
    (hop : op = .moveCtor s t ∨ (op = .moveAssign s t ∧ s ≠ t))
    (hs : h.inScope op = true) (ht : h.slots t = some o) (he : h.step op = .ok h1) :
    h1.slots s = some ⟨o.rows, o.cols, o.data, o.owns⟩ ∧ h1.slots t = some { o with data := none } ∧
    h1.view s = h.view t ∧ h1.next = h.next ∧
    (∀ u, u ≠ s → u ≠ t → h1.view u = h.view u) ∧ (∀ e, e < h.nExt → h1.ext e = h.ext e) := by
  obtain ⟨m1, m2, m3, m4, m5, m6⟩ := move_effect hi hop hs ht he
  exact ⟨m1, m2, m3, m4, m5, fun e he' => by simp only [ext, m6 e he']⟩

/-- A raster wrapping caller-owned memory writes through to it and never frees it. After
    `Raster s(array e, r, c)`, for every continuation that does not rebind `s`: `s` still wraps
    `e` without owning it, it shows the first `r * c` cells of the caller's array as they are now
    (so the caller's own writes are seen), a write to cell `(i, j)` through `s` lands at index
    `i * c + j` of the array, and destroying `s` leaves the array as it is. -/
theorem C19_wrap_writes_through {α : Type} (h h1 : Heap α) (hi : Inv h) (s e r c : Nat)
    (hs : h.inScope (.wrap s e r c) = true) (he : h.step (.wrap s e r c) = .ok h1) :
    ∀ ops h2, (∀ op ∈ ops, op.reseats s = false) → h1.run ops = .ok h2 →
      h2.slots s = some ⟨r, c, some e, false⟩ ∧
      (∃ cells, h2.ext e = some cells ∧ r * c ≤ cells.length ∧ h2.view s = some ⟨r, c, cells.take (r * c)⟩) ∧
      (∀ i j v h3, h2.inScope (.write s i j v) = true → h2.step (.write s i j v) = .ok h3 →
        ∃ cells, h2.ext e = some cells ∧ i * c + j < cells.length ∧ h3.ext e = some (cells.set (i * c + j) v)) ∧
      (∀ h3, h2.step (.destroy s) = .ok h3 → h3.ext e = h2.ext e ∧ ∃ cells, h3.ext e = some cells) := by
  intro ops h2 hn hr
  have i1 := inv_of_step hi hs he
  have i2 := inv_of_run i1 hr
  have s1 : h1.slots s = some ⟨r, c, some e, false⟩ := by
    simp only [step] at he; cases he; simp
  have s2 : h2.slots s = some ⟨r, c, some e, false⟩ := by rw [slots_run i1 ops hn hr]; exact s1
  obtain ⟨_, cells, b1, b2⟩ := i2.no_dangling s _ e s2 rfl
  refine ⟨s2, ⟨cells, by simp [ext, b1], b2, view_of s2 rfl b1⟩, ?_, ?_⟩
  · intro i j v h3 hs' he'
    obtain ⟨cells', w1, w2, w3, _, _⟩ := write_effect i2 hs' s2 rfl he'
    exact ⟨cells', by simp [ext, w1], w2, by simp [ext, w3]⟩
  · intro h3 he'
    simp only [step, obj, s2, release, bind, Except.bind] at he'
    cases he'
    exact ⟨rfl, cells, by simp [ext, b1]⟩

/-- Operands that are not assigned to are left unchanged: `a op scalar`, `scalar op a`, `a op b`,
    `pow(a, k)`, `sqrt(a)` build their result in a new variable and leave every existing variable
    and every caller array as it was (also when the operator throws); the compound forms change
    only what is seen through the buffer of their left operand. -/
theorem C19_operands_unchanged {α : Type} (h h1 : Heap α) (hi : Inv h) (op : HOp α)
    (hs : h.inScope op = true) (he : h.step op = .ok h1) :
    (∀ d, ((∃ a f, op = .mapNew d a f) ∨ (∃ a b f, op = .zipNew d a b f) ∨ (∃ a f, op = .powNew d a f)) →
      (∀ u, u ≠ d → h1.view u = h.view u) ∧ (∀ e, e < h.nExt → h1.ext e = h.ext e)) ∧
    (∀ s, op.writesVia s = true → Private h s →
      (∀ u, u ≠ s → h1.view u = h.view u) ∧ (∀ e, e < h.nExt → h1.ext e = h.ext e)) ∧
    (∀ k, h.throws op = some k → h1 = h) := by
  refine ⟨?_, ?_, ?_⟩
  · intro d hop
    obtain ⟨f1, f2⟩ := fresh_result_frame hi hop hs he
    exact ⟨f1, fun e he' => by simp only [ext, f2 e he']⟩
  · intro s hv hp
    obtain ⟨w1, w2⟩ := private_write_local hi hp hv hs he
    exact ⟨w1, fun e he' => by simp only [ext, w2 e he']⟩
  · intro k hk
    have st := steps_of_step hi hs he
    cases st with
    | zipThrow => rfl
    | zipNewThrow => rfl
    | zipInPlace _ _ _ o o2 b b2 cells cells2 hh hh2 g3 =>
      rw [throws_zipInPlace hh.slot hh2.slot, if_neg g3] at hk; cases hk
    | zipNew _ _ _ _ o o2 p p2 cells cells2 hh hh2 g3 =>
      rw [throws_zipNew hh.slot hh2.slot, if_neg g3] at hk; cases hk
    | _ => simp [throws] at hk

/-- The storage-level operators compute the value-level ones: what the result variable shows is
    `Raster.map` / `Raster.zip` / `Raster.zipAssign` of what the operand variables showed (so
    Part A applies to it), including the `invalid_argument` rejection with the state untouched. -/
theorem C19_elementwise_heap {α : Type} (h h1 : Heap α) (hi : Inv h) :
    (∀ d a f op, (op = .mapNew d a f ∨ op = .powNew d a f) → h.inScope op = true → h.step op = .ok h1 →
      ∃ va, h.view a = some va ∧ h1.view d = some (va.map f)) ∧
    (∀ s f, h.inScope (.mapInPlace s f) = true → h.step (.mapInPlace s f) = .ok h1 →
      ∃ va, h.view s = some va ∧ h1.view s = some (va.map f)) ∧
    (∀ d a b f, h.inScope (.zipNew d a b f) = true → h.step (.zipNew d a b f) = .ok h1 →
      ∃ va vb, h.view a = some va ∧ h.view b = some vb ∧
        match Raster.zip f va vb with
        | .error k => h.throws (.zipNew d a b f) = some k ∧ h1 = h
        | .ok r => h.throws (.zipNew d a b f) = none ∧ h1.view d = some r) ∧
    (∀ s t f, h.inScope (.zipInPlace s t f) = true → h.step (.zipInPlace s t f) = .ok h1 →
      ∃ va vb, h.view s = some va ∧ h.view t = some vb ∧
        match Raster.zipAssign f va vb with
        | .error k => h.throws (.zipInPlace s t f) = some k ∧ h1 = h
        | .ok r => h.throws (.zipInPlace s t f) = none ∧ h1.view s = some r) :=
  ⟨fun _ _ _ _ hop hs he => mapNew_effect hi hop hs he, fun _ _ hs he => mapInPlace_effect hi hs he,
   fun _ _ _ _ hs he => zipNew_effect hi hs he, fun _ _ _ hs he => zipInPlace_effect hi hs he⟩

/-- A non-trivial run: a caller array wrapped twice, an owner copied into a wrapper (which then
    no longer writes through - the header keeps `owns_ == false` and the new buffer is never
    freed: a leak, not a fault), moves, arithmetic, destruction; the machine completes it. -/
def C19_demo : List (HOp Int) :=
  [.wrap 0 0 2 3, .construct 1 2 3 7, .copyCtor 2 0, .write 0 1 2 99, .moveCtor 3 1,
   .copyAssign 1 3, .zipNew 4 2 3 (· + ·), .zipInPlace 0 3 (· * ·), .powNew 5 0 (fun x => x * x),
   .moveAssign 2 0, .destroy 0, .destroy 2, .copyAssign 3 3, .destroy 3, .destroy 1, .destroy 4, .destroy 5]

example : ∃ h', (Heap.init [[1, 2, 3, 4, 5, 6]]).run C19_demo = .ok h' ∧
    h'.ext 0 = some [7, 14, 21, 28, 35, 693] ∧ (∀ s, s < 6 → h'.slots s = none) := by
  refine ⟨_, rfl, by decide, by decide⟩

/-! ## Finding F31: assignment INTO a raster that wraps caller memory

  `C19_wrap_writes_through` above carries the hypothesis `∀ op ∈ ops, op.reseats s = false`. The
  property quantifies over "every sequence of copy, move and assignment", so the continuation may
  assign to the wrapper, and there the header (raster.hpp:250-275) does not do what the sentence says:
  `w = x` gives `w` a new buffer, keeps `owns_ == false` (the buffer is never released) and the caller's
  array is no longer written; `w = std::move(x)` makes `w` hold `x`'s storage. The heap model mirrors
  the header, so the full statement is **refuted** here; the hypothesis of `C19_wrap_writes_through`
  excludes exactly the continuations that rebind the wrapper, of which the assignments into it
  (`Heap.f31Region`, Model/RasterF31.lean) are the open finding F31.
  (`Heap.Leaked` and `Heap.leaked_run`, Lemmas/RasterEffects.lean: such a buffer stays as it is over
  every run.) -/

/-- F31, the leak. A copy assignment in the region of F31 (`s ≠ t`, the target does not own its
    storage - e.g. it wraps a caller array), in any reachable state: the target then points to the
    freshly allocated buffer `h.next`, shows the source's value there, still does not own it, and no
    caller array received anything. That buffer is never released: it is allocated and without an
    owner after **every** continuation (no destructor and no later assignment `delete[]`s it), and
    after the destructor of `s` it is allocated with no variable pointing to it. -/
theorem C19_assign_into_wrapper_leaks {α : Type} (h h1 : Heap α) (hi : Inv h) (s t : Nat)
    (hreg : h.f31Region (.copyAssign s t) = true)
    (hs : h.inScope (.copyAssign s t) = true) (he : h.step (.copyAssign s t) = .ok h1) :
    (∃ r c, h1.slots s = some ⟨r, c, some h.next, false⟩) ∧ h1.orphan s = true ∧
    h1.view s = h.view t ∧ (∀ e, e < h.nExt → h1.ext e = h.ext e) ∧
    (∀ ops h2, h1.run ops = .ok h2 → Live h2 h.next ∧ Unowned h2 h.next) ∧
    (∀ h2, h1.step (.destroy s) = .ok h2 → Live h2 h.next ∧ Unreachable h2 h.next) := by
  have hne : s ≠ t := by
    intro e; simp [f31Region, e] at hreg
  have hno : h.nonOwning s = true := by
    simp only [f31Region, Bool.and_eq_true] at hreg; exact hreg.2
  -- the target's new storage is private: no other variable points to it
  obtain ⟨c1, ⟨o', b', p1, p2, p3, p4⟩, _, c4⟩ := copy_effect hi (op := .copyAssign s t) (.inr ⟨rfl, hne⟩) hs he
  have i1 := inv_of_step hi hs he
  have st := steps_of_step hi hs he
  cases st with
  | copySelf => exact absurd rfl hne
  | copyAssign _ _ me o b cells h0 _ g1 g3 =>
    obtain ⟨_, r2, _, _⟩ := release_frame g3
    have hown : me.owns = false := by
      simp only [nonOwning, g1, Bool.not_eq_true'] at hno; exact hno
    have hslot : (h0.allocInto s o.rows o.cols (cells.take o.size) me.owns).slots s =
        some ⟨o.rows, o.cols, some h.next, false⟩ := by
      simp only [allocInto, upd_same, r2, hown]
    rw [hslot] at p1; cases p1; cases p2
    have hl : Leaked (h0.allocInto s o.rows o.cols (cells.take o.size) me.owns) h.next := by
      refine ⟨⟨_, by simp only [allocInto, r2, upd_same]; rfl⟩, p3, by simp only [allocInto, r2]; omega, ?_⟩
      intro u o' hu hp
      by_cases e : u = s
      · subst e; rw [hslot] at hu; cases hu; rfl
      · exact absurd hp (p4 u o' e hu)
    refine ⟨⟨_, _, hslot⟩, ?_, c1, fun e he' => by simp only [ext, c4 e he'], ?_, ?_⟩
    · simp only [orphan, hslot, Bool.not_false, Bool.true_and, decide_eq_true_eq]; exact p3
    · intro ops h2 hr
      have := leaked_run i1 ops hl hr
      exact ⟨this.live, this.unowned⟩
    · intro h2 hd
      simp only [step, obj, hslot, release, bind, Except.bind] at hd
      cases hd
      refine ⟨?_, fun u o' hu hp => ?_⟩
      · obtain ⟨cells', hc⟩ := hl.live; exact ⟨cells', by simpa [setSlot] using hc⟩
      · by_cases e : u = s
        · subst e; simp at hu
        · exact p4 u o' e (setSlot_ne _ none e ▸ hu) hp

/-- The statement of `C19_wrap_writes_through` with the hypothesis `∀ op ∈ ops, op.reseats s = false`
    removed: the property's sentence over *every* continuation, assignments into the wrapper included. -/
def C19_wrap_writes_through_full : Prop :=
  ∀ (α : Type) (h h1 : Heap α), Inv h → ∀ (s e r c : Nat),
    h.inScope (.wrap s e r c) = true → h.step (.wrap s e r c) = .ok h1 →
    ∀ ops h2, h1.run ops = .ok h2 →
      h2.slots s = some ⟨r, c, some e, false⟩ ∧
      (∃ cells, h2.ext e = some cells ∧ r * c ≤ cells.length ∧ h2.view s = some ⟨r, c, cells.take (r * c)⟩) ∧
      (∀ i j v h3, h2.inScope (.write s i j v) = true → h2.step (.write s i j v) = .ok h3 →
        ∃ cells, h2.ext e = some cells ∧ i * c + j < cells.length ∧ h3.ext e = some (cells.set (i * c + j) v)) ∧
      (∀ h3, h2.step (.destroy s) = .ok h3 → h3.ext e = h2.ext e ∧ ∃ cells, h3.ext e = some cells)

/-- The witness of F31: `int b[6] = {1,..,6}; Raster w(b, 2, 3), x(2, 3, 7); w = x;` -/
def C19_f31_witness : List (HOp Int) := [.wrap 0 0 2 3, .construct 1 2 3 7, .copyAssign 0 1]

/-- It fails on `[wrap, construct, copyAssign into the wrapper, write]`: after `w = x` the write
    `w(0, 0) = 9` is in scope and succeeds, and the caller's array still reads `1, 2, 3, 4, 5, 6`. -/
theorem C19_wrap_writes_through_full_fails : ¬ C19_wrap_writes_through_full := by
  intro H
  obtain ⟨_, _, hw, _⟩ := H Int (Heap.init [[1, 2, 3, 4, 5, 6]]) _ (inv_init _) 0 0 2 3 rfl rfl
    [.construct 1 2 3 7, .copyAssign 0 1] _ rfl
  obtain ⟨cells, e1, _, e2⟩ := hw 0 0 9 _ rfl rfl
  have e1' : some [1, 2, 3, 4, 5, 6] = some cells := e1
  cases e1'
  revert e2
  decide

/-- The same sentence restricted to what can be asked of a variable that still holds the raster:
    over every continuation that neither destroys `s` nor moves from it (assignments INTO `s` are
    allowed), a write through `s` lands in the caller's array. -/
def C19_wrap_writes_through_over_assignments : Prop :=
  ∀ (α : Type) (h h1 : Heap α), Inv h → ∀ (s e r c : Nat),
    h.inScope (.wrap s e r c) = true → h.step (.wrap s e r c) = .ok h1 →
    ∀ ops h2, (∀ op ∈ ops, op.vacates s = false) → h1.run ops = .ok h2 →
      ∀ i j v h3, h2.inScope (.write s i j v) = true → h2.step (.write s i j v) = .ok h3 →
        ∃ o cells, h2.slots s = some o ∧ h2.ext e = some cells ∧ h3.ext e = some (cells.set (i * o.cols + j) v)

theorem C19_wrap_writes_through_over_assignments_fails : ¬ C19_wrap_writes_through_over_assignments := by
  intro H
  obtain ⟨o, cells, e0, e1, e2⟩ := H Int (Heap.init [[1, 2, 3, 4, 5, 6]]) _ (inv_init _) 0 0 2 3 rfl rfl
    [.construct 1 2 3 7, .copyAssign 0 1] _ (by decide) rfl 0 0 9 _ rfl rfl
  have e0' : some (⟨2, 3, some 2, false⟩ : RObj) = some o := e0
  have e1' : some [1, 2, 3, 4, 5, 6] = some cells := e1
  cases e0'; cases e1'
  revert e2
  decide

/-- The move form, `w = std::move(x)`, is in the region as well: `w` ends up owning `x`'s buffer (so
    nothing leaks: its destructor releases it once), the caller's array is dropped without notice and
    the write `w(0, 0) = 9` does not reach it. -/
example : ∃ h2 h3 : Heap Int, (Heap.init [[1, 2, 3, 4, 5, 6]]).run [.wrap 0 0 2 3, .construct 1 2 3 7] = .ok h2 ∧
    h2.f31Region (.moveAssign 0 1) = true ∧ h2.run [.moveAssign 0 1, .write 0 0 0 9] = .ok h3 ∧
    h3.slots 0 = some ⟨2, 3, some 1, true⟩ ∧ h3.orphan 0 = false ∧
    h3.view 0 = some ⟨2, 3, [9, 7, 7, 7, 7, 7]⟩ ∧ h3.ext 0 = some [1, 2, 3, 4, 5, 6] :=
  ⟨_, _, rfl, by decide, rfl, by decide, by decide, by decide, by decide⟩

/-- What the witness run looks like. The assignment is in the region of F31 (`h1` is the state before
    it); afterwards the wrapper shows the sevens in a buffer of its own (id 2) that it does not own, and
    the caller's array received nothing; the write goes to that buffer; after the destructor the
    buffer is still allocated and no variable points to it. -/
theorem C19_f31_witness_run :
    ∃ h1 h2 h3 h4, (Heap.init [[1, 2, 3, 4, 5, 6]]).run (C19_f31_witness.take 2) = .ok h1 ∧
      h1.f31Region (.copyAssign 0 1) = true ∧ h1.inScope (.copyAssign 0 1) = true ∧
      h1.step (.copyAssign 0 1) = .ok h2 ∧
      h2.slots 0 = some ⟨2, 3, some 2, false⟩ ∧ h2.orphan 0 = true ∧
      h2.view 0 = some ⟨2, 3, [7, 7, 7, 7, 7, 7]⟩ ∧ h2.ext 0 = some [1, 2, 3, 4, 5, 6] ∧
      h2.inScope (.write 0 0 0 9) = true ∧ h2.step (.write 0 0 0 9) = .ok h3 ∧
      h3.view 0 = some ⟨2, 3, [9, 7, 7, 7, 7, 7]⟩ ∧ h3.ext 0 = some [1, 2, 3, 4, 5, 6] ∧
      h3.step (.destroy 0) = .ok h4 ∧ h4.slots 0 = none ∧ h4.slots 1 = some ⟨2, 3, some 1, true⟩ ∧
      h4.bufs 2 = .live [9, 7, 7, 7, 7, 7] :=
  ⟨_, _, _, _, rfl, by decide, by decide, rfl, by decide, by decide, by decide, by decide, by decide, rfl,
   by decide, by decide, rfl, by decide, by decide, rfl⟩

end Pops
