/-
  C13  Stochastic kernels draw the configured distance law in the configured direction.
  Property theorems only. Helper lemmas: Lemmas/Kern.lean, Lemmas/KernRadial.lean, Lemmas/KernElig.lean
  (core) and Analysis/KernReal.lean (Mathlib: rounding, cosine / sine of the coded angles, von Mises
  over the reals).

  NOT proved (trusted, see tools/props/C13.py): that libstdc++'s cauchy / exponential / weibull /
  normal / lognormal / gamma / uniform distributions sample the law the C++ standard names, and that
  the rejection loop of `VonMisesDistribution` yields the von Mises law. What is proved is every
  piece of logic between those samplers and the cell a disperser lands in.
-/
import PopsModel.Lemmas.Kern
import PopsModel.Lemmas.KernRadial
import PopsModel.Lemmas.KernElig
import PopsModel.Analysis.KernReal
namespace Pops
open Real

/-! ### Geometry: north decreases the row, east increases the column -/

/-- Angle 0 (north) decreases the row by `round(d / ns)` and leaves the column; `pi/2` (east)
    increases the column by `round(d / ew)` and leaves the row; `pi` and `3pi/2` are their mirror
    images. For every source cell, distance and resolutions. -/
theorem C13_axes (row col : ℤ) (d ns ew : ℝ) :
    radialTarget TF.real row col d 0 ns ew = (row - lroundR (d / ns), col) ∧
    radialTarget TF.real row col d (π / 2) ns ew = (row, col + lroundR (d / ew)) ∧
    radialTarget TF.real row col d π ns ew = (row + lroundR (d / ns), col) ∧
    radialTarget TF.real row col d (3 * π / 2) ns ew = (row, col - lroundR (d / ew)) := by
  refine ⟨?_, ?_, ?_, ?_⟩
  · rw [radialTarget_real, cos_zero, sin_zero, mul_one, mul_zero, zero_div, lroundR_zero, add_zero]
  · rw [radialTarget_real, cos_pi_div_two, sin_pi_div_two, mul_one, mul_zero, zero_div, lroundR_zero, sub_zero]
  · rw [radialTarget_real, cos_pi, sin_pi, mul_zero, zero_div, lroundR_zero, add_zero, mul_neg, mul_one,
      neg_div, lroundR_neg, sub_neg_eq_add]
  · rw [radialTarget_real, show 3 * π / 2 = π / 2 + π by ring, cos_add_pi, sin_add_pi, cos_pi_div_two,
      sin_pi_div_two, neg_zero, mul_zero, zero_div, lroundR_zero, sub_zero, mul_neg, mul_one, neg_div, lroundR_neg]
    rfl

/-- The same for exact rational arithmetic, with the exact cosine / sine of the four axis
    directions (the form the driver evaluates on the implementation's output). -/
theorem C13_axes_rat (row col : Int) (d ns ew : Rat) :
    radialTargetQ row col d 1 0 ns ew = (row - lround (d / ns), col) ∧
    radialTargetQ row col d 0 1 ns ew = (row, col + lround (d / ew)) ∧
    radialTargetQ row col d (-1) 0 ns ew = (row + lround (d / ns), col) ∧
    radialTargetQ row col d 0 (-1) ns ew = (row, col - lround (d / ew)) :=
  ⟨radialTargetQ_north row col d ns ew, radialTargetQ_east row col d ns ew,
   radialTargetQ_south row col d ns ew, radialTargetQ_west row col d ns ew⟩

/-- The table of exact axis cosines / sines is the real cosine / sine of the coded angle. -/
theorem C13_axes_table (d : Direction) (c s : Rat) (hc : axisCos d = some c) (hs : axisSin d = some s) :
    cos (directionMu TF.real d) = c ∧ sin (directionMu TF.real d) = s := by
  obtain ⟨hax, rfl, rfl⟩ := axis_table d c s hc hs
  obtain ⟨m, -, hm, hcos, hsin⟩ := compass_vector d (by rintro rfl; cases hc)
  rw [hcos, hsin, hm hax, mul_one, mul_one, Rat.cast_intCast, Rat.cast_intCast]
  exact ⟨rfl, rfl⟩

/-- The eight compass directions, coded as degrees clockwise from north, have the stated signs of
    cosine and sine; consequently a disperser sent in direction `d` never moves south when `d` has a
    northward component, never west when it has an eastward one, and so on, and stays on its row /
    column for the pure axis directions. Every distance `>= 0`, every positive resolution. -/
theorem C13_compass (d : Direction) (hd : d ≠ .none) :
    ((d.northSign = 1 → 0 < cos (directionMu TF.real d)) ∧
     (d.northSign = -1 → cos (directionMu TF.real d) < 0) ∧
     (d.northSign = 0 → cos (directionMu TF.real d) = 0) ∧
     (d.eastSign = 1 → 0 < sin (directionMu TF.real d)) ∧
     (d.eastSign = -1 → sin (directionMu TF.real d) < 0) ∧
     (d.eastSign = 0 → sin (directionMu TF.real d) = 0)) ∧
    ∀ (row col : ℤ) (dist ns ew : ℝ), 0 ≤ dist → 0 < ns → 0 < ew →
      let t := radialTarget TF.real row col dist (directionMu TF.real d) ns ew
      (d.northSign = 1 → t.1 ≤ row) ∧ (d.northSign = -1 → row ≤ t.1) ∧ (d.northSign = 0 → t.1 = row) ∧
      (d.eastSign = 1 → col ≤ t.2) ∧ (d.eastSign = -1 → t.2 ≤ col) ∧ (d.eastSign = 0 → t.2 = col) := by
  obtain ⟨m, hm, -, hc, hs⟩ := compass_vector d hd
  have sc := sign_of_mul_pos hm hc
  have ss := sign_of_mul_pos hm hs
  refine ⟨⟨sc.1, sc.2.1, sc.2.2, ss⟩, fun row col dist ns ew hdist hns hew => ?_⟩
  obtain ⟨r1, r2, r3⟩ := lroundR_offset_sign hdist hns sc
  obtain ⟨s1, s2, s3⟩ := lroundR_offset_sign hdist hew ss
  simp only [radialTarget_real]
  exact ⟨fun h => by have := r1 h; omega, fun h => by have := r2 h; omega, fun h => by have := r3 h; omega,
    fun h => by have := s1 h; omega, fun h => by have := s2 h; omega, fun h => by have := s3 h; omega⟩

example : Direction.SE ≠ .none ∧ Direction.SE.northSign = -1 ∧ Direction.SE.eastSign = 1 := by decide

/-- Map distance is converted to cells with the north-south resolution for rows and the east-west
    resolution for columns: `m` cells' worth of map units along an axis moves exactly `m` cells
    whatever the other resolution is, and in general each offset is within half a cell of the
    component divided by its own resolution. Also over the reals for any angle. -/
theorem C13_resolution :
    (∀ (row col m : Int) (ns ew : Rat), ns ≠ 0 →
        radialTargetQ row col ((m : Rat) * ns) 1 0 ns ew = (row - m, col)) ∧
    (∀ (row col m : Int) (ns ew : Rat), ew ≠ 0 →
        radialTargetQ row col ((m : Rat) * ew) 0 1 ns ew = (row, col + m)) ∧
    (∀ (row col : Int) (d c s ns ew : Rat),
        let t := radialTargetQ row col d c s ns ew
        (((row - t.1 : Int) : Rat) - d * c / ns ≤ 1 / 2 ∧ d * c / ns - ((row - t.1 : Int) : Rat) ≤ 1 / 2) ∧
        (((t.2 - col : Int) : Rat) - d * s / ew ≤ 1 / 2 ∧ d * s / ew - ((t.2 - col : Int) : Rat) ≤ 1 / 2)) ∧
    (∀ (row col : ℤ) (d theta ns ew : ℝ),
        let t := radialTarget TF.real row col d theta ns ew
        |((row - t.1 : ℤ) : ℝ) - d * cos theta / ns| ≤ 1 / 2 ∧
        |((t.2 - col : ℤ) : ℝ) - d * sin theta / ew| ≤ 1 / 2) := by
  refine ⟨fun row col m ns ew h => radialTargetQ_cells_north row col m ns ew h,
          fun row col m ns ew h => radialTargetQ_cells_east row col m ns ew h,
          fun row col d c s ns ew => radialTargetQ_within_half_cell row col d c s ns ew, ?_⟩
  intro row col d theta ns ew
  simp only [radialTarget_real]
  have e1 : row - (row - lroundR (d * cos theta / ns)) = lroundR (d * cos theta / ns) := by omega
  have e2 : col + lroundR (d * sin theta / ew) - col = lroundR (d * sin theta / ew) := by omega
  rw [e1, e2]
  exact ⟨lroundR_close _, lroundR_close _⟩

example : radialTargetQ 10 10 (3 * 30) 1 0 30 100 = (7, 10) := by
  have := C13_resolution.1 10 10 3 30 100 (by decide)
  simpa using this

/-- The call operator of the radial kernel, assembled: supported type, distance `|random()|`, angle
    from the von Mises member, rows through `ns`, columns through `ew`; unsupported types throw. -/
theorem C13_radial_call {α : Type} (T : TF α) (k : RadialKernel α) (row col : Int) (draw : α) (us : List α) :
    (∀ law r theta rest, k.type.law? = some law → lawRandom T law k.scale k.shape draw = .ok r →
        vonMises T k.mu k.kappa us = some (theta, rest) →
        k.call T row col draw us =
          some (.ok (row - T.lround (T.div (T.mul (T.abs r) (T.cos theta)) k.ns),
                     col + T.lround (T.div (T.mul (T.abs r) (T.sin theta)) k.ew)))) ∧
    (k.type.law? = none → k.call T row col draw us = some (.error .invalid_argument)) :=
  ⟨fun law r theta rest hl hr hv => radial_call T k law row col draw r theta us rest hl hr hv,
   fun hl => radial_call_unsupported T k row col draw us hl⟩

/-! ### Angle: von Mises around the configured direction, uniform without one -/

/-- As coded: with no direction the concentration is 0 whatever was configured, and for
    `kappa <= 1e-6` the angle is `2 pi U`; otherwise the angle is `mu + arccos f` or `mu - arccos f`
    (up to whole turns) for the `f` ACCEPTED BY THE REJECTION LOOP on these very draws, the sign decided by
    comparing the next uniform value `u3` with 1/2 - symmetric about the configured direction `mu = degrees * pi / 180`.
    (That `f` has the von Mises law is the trusted part.) -/
theorem C13_vonmises (mu kappa : ℝ) :
    (∀ u rest, vonMises TF.real mu (directionKappa TF.real .none kappa) (u :: rest) = some (2 * π * u, rest)) ∧
    (∀ u rest, kappa ≤ 1 / 1000000 → vonMises TF.real mu kappa (u :: rest) = some (2 * π * u, rest)) ∧
    (∀ us f u3 rest, 1 / 1000000 < kappa →
        vonMisesLoop TF.real kappa (vonMisesR TF.real kappa) us = some (f, u3 :: rest) →
        ∃ (theta : ℝ) (k : ℤ), vonMises TF.real mu kappa us = some (theta, rest) ∧
          theta = (if 1 / 2 < u3 then mu + arccos f else mu - arccos f) - 2 * π * k) ∧
    (∀ d : Direction, d ≠ .none → directionKappa TF.real d kappa = kappa ∧
        directionMu TF.real d = (d.degrees.toNat : ℝ) * π / 180) :=
  ⟨fun u rest => vonMises_none_real mu kappa u rest,
   fun u rest h => vonMises_small_real mu kappa u rest h,
   fun us f u3 rest h hloop =>
     have ⟨k, hk⟩ := vonMises_real_of_loop mu kappa f u3 us rest h hloop
     ⟨_, k, hk, rfl⟩,
   fun d hd => ⟨directionKappa_some TF.real d hd kappa, directionMu_real d⟩⟩

/-- The mirror pair, generically in the number type (also what the driver's `Float` twin runs). -/
theorem C13_vonmises_mirror {α : Type} (T : TF α) (mu kappa f u3 : α) (us rest : List α)
    (h : T.leb kappa (vonMisesEps T) = false)
    (hloop : vonMisesLoop T kappa (vonMisesR T kappa) us = some (f, u3 :: rest)) :
    vonMises T mu kappa us =
      some (if T.ltb (T.div (T.ofNat 1) (T.ofNat 2)) u3 then T.fmod (T.add mu (T.acos f)) (T.mul (T.ofNat 2) T.pi)
            else T.fmod (T.sub mu (T.acos f)) (T.mul (T.ofNat 2) T.pi), rest) :=
  vonMises_mirror T mu kappa f u3 us rest h hloop

/-! ### Distance law: sampler parameters and inverse transform -/

/-- For the six classes that own a standard-library distribution, the density the C++ standard
    assigns to that distribution with the constructed parameters is the class's own `pdf`
    (gamma: `(alpha, theta)` with `theta` the scale, after F15; exponential: rate `1 / beta`;
    Weibull: `(a, b) = (shape, scale)`), and `random()` is the absolute value of its draw. -/
theorem C13_parameter_wiring (scale shape x : ℝ) :
    (lawSampler TF.real .cauchy scale shape).density TF.real x = some (lawPdf TF.real .cauchy scale shape x) ∧
    (lawSampler TF.real .exponential scale shape).density TF.real x = some (lawPdf TF.real .exponential scale shape x) ∧
    (lawSampler TF.real .weibull scale shape).density TF.real x = some (lawPdf TF.real .weibull scale shape x) ∧
    (scale ≠ 0 → (lawSampler TF.real .normal scale shape).density TF.real x = some (lawPdf TF.real .normal scale shape x)) ∧
    (0 < x → (lawSampler TF.real .logNormal scale shape).density TF.real x = some (lawPdf TF.real .logNormal scale shape x)) ∧
    (lawSampler TF.real .gamma scale shape).density TF.real x = some (lawPdf TF.real .gamma scale shape x) ∧
    (∀ law, law = .cauchy ∨ law = .exponential ∨ law = .weibull ∨ law = .normal ∨ law = .logNormal ∨ law = .gamma →
        ∀ draw : ℝ, lawRandom TF.real law scale shape draw = .ok |draw|) := by
  refine ⟨?_, ?_, rfl, fun hs => ?_, fun hx => ?_, ?_, fun law h draw => (lawRandom_std TF.real law h scale shape draw).1⟩
  · simp only [lawSampler, Sampler.density, lawPdf, cauchyPdf, TF.real, Nat.cast_zero, sub_zero, Option.some.injEq]
    rw [mul_comm π scale]
  · simp only [lawSampler, Sampler.density, lawPdf, exponentialPdf, TF.real, Nat.cast_one, Option.some.injEq]
    congr 2
    rw [one_div, inv_mul_eq_div, neg_div]
  · simp only [lawSampler, Sampler.density, lawPdf, normalPdf, TF.real, Nat.cast_zero, sub_zero,
      Nat.cast_one, Nat.cast_ofNat, Option.some.injEq, decide_eq_true_eq, Real.rpow_two]
    by_cases h1 : scale = 1
    · rw [if_pos h1]; subst h1
      congr 1
      · rw [one_mul]
      · congr 1; ring
    · rw [if_neg h1]
      congr 2
      field_simp
  · simp only [lawSampler, Sampler.density, lawPdf, lognormalPdf, TF.real, Nat.cast_zero, sub_zero,
      Option.some.injEq, decide_eq_true_eq]
    rw [if_neg hx.ne', mul_comm scale x]
  · simp only [lawSampler, Sampler.density, lawPdf, gammaPdf, TF.real, Nat.cast_one, Option.some.injEq]
    rw [mul_comm (shape ^ scale) (Gamma scale)]
    ring

/-- The standard parameters, spelled out (what the probe subclasses read back). -/
theorem C13_sampler_parameters {α : Type} (T : TF α) (scale shape : α) :
    lawSampler T .cauchy scale shape = .stdCauchy (T.ofNat 0) scale ∧
    lawSampler T .exponential scale shape = .stdExponential (T.div (T.ofNat 1) scale) ∧
    lawSampler T .weibull scale shape = .stdWeibull shape scale ∧
    lawSampler T .normal scale shape = .stdNormal (T.ofNat 0) scale ∧
    lawSampler T .logNormal scale shape = .stdLognormal (T.ofNat 0) scale ∧
    lawSampler T .gamma scale shape = .stdGamma scale shape :=
  ⟨rfl, rfl, rfl, rfl, rfl, rfl⟩

example : (lawSampler TF.real .gamma 2 10).density TF.real 3 = some (gammaPdf TF.real 2 10 3) :=
  (C13_parameter_wiring 2 10 3).2.2.2.2.2.1

/-- Logistic, hyperbolic secant, power law and exponential power sample `icdf(U)` with `U` a
    `uniform_real_distribution(0, 1)` value (any number type). Where `icdf` is the inverse of the
    cdf of the class's density (C14_quantile_logistic, C14_quantile_hyperbolic_secant) the sample has
    that density; for the power law it is refuted (`C14_quantile_powerlaw_fails`, open finding F21 of
    C14), for the exponential power law C14 has numeric evidence only. The C14 theorems speak of the
    formulas of Model/KernLaws.lean that `lawIcdfE` dispatches to; the deterministic kernel's own
    enumeration `Det.Law` is a second type, and no theorem maps it to `Law`. -/
theorem C13_inverse_transform {α : Type} (T : TF α) (law : Law)
    (h : law = .logistic ∨ law = .hyperbolicSecant ∨ law = .powerLaw ∨ law = .exponentialPower)
    (scale shape u : α) :
    lawSampler T law scale shape = .icdfOfUniform (T.ofNat 0) (T.ofNat 1) ∧
    lawRandom T law scale shape u = lawIcdfE T law scale shape u :=
  lawRandom_inverse_transform T law h scale shape u

example : lawRandom TF.real .logistic 2 1 (1 / 4) = logisticIcdfE TF.real 2 (1 / 4) :=
  (C13_inverse_transform TF.real .logistic (Or.inl rfl) 2 1 (1 / 4)).2

/-! ### Neighbour and uniform kernels -/

/-- The neighbour kernel moves to the cell at Chebyshev distance exactly 1 in the named direction
    (north = row - 1, east = column + 1), for each of the eight directions and every source cell;
    with no direction it throws. -/
theorem C13_neighbor (row col : Int) :
    (∀ d : Direction, d ≠ .none →
        ∃ t, neighborKernel d row col = .ok t ∧ chebyshev t (row, col) = 1 ∧
             t.1 = row - d.northSign ∧ t.2 = col + d.eastSign) ∧
    neighborKernel .none row col = .error .invalid_argument :=
  ⟨fun d hd => neighbor_in_direction d hd row col, rfl⟩

example : neighborKernel .SW 4 4 = .ok (5, 3) := rfl

/-- The uniform kernel: whatever the two draws (within the ranges the distributions were built
    with), the target is a cell of the `rows x cols` landscape; every cell is the target of exactly
    one pair of draws. With each draw uniform on its range (trusted), every cell is equally likely. -/
theorem C13_uniform_in_landscape (rows cols row col : Int) :
    (∀ dr dc, (UniformKernel.make rows cols).InRange dr dc →
        InLandscape rows cols ((UniformKernel.make rows cols).call row col dr dc)) ∧
    (∀ c, InLandscape rows cols c →
        ∃ dr dc, (UniformKernel.make rows cols).InRange dr dc ∧ (UniformKernel.make rows cols).call row col dr dc = c) ∧
    (∀ dr dc dr' dc', (UniformKernel.make rows cols).call row col dr dc = (UniformKernel.make rows cols).call row col dr' dc' →
        dr = dr' ∧ dc = dc') := by
  simp only [UniformKernel.InRange, UniformKernel.make, InLandscape, UniformKernel.call, Prod.mk.injEq]
  exact ⟨fun dr dc h => by omega, fun c h => ⟨c.1, c.2, by omega, rfl⟩, fun _ _ _ _ h => h⟩

example : (UniformKernel.make 3 4).InRange 2 3 ∧ InLandscape 3 4 ((UniformKernel.make 3 4).call 0 0 2 3) := by decide

/-! ### Natural / anthropogenic mix -/

/-- The anthropogenic kernel is used iff it is enabled, the source cell is eligible for it, and the
    uniform value of the Bernoulli draw is at least the natural share; of `n` equally spaced uniform
    values exactly `n - m` do so for a natural share `m/n` (probability one minus the natural
    share). Eligibility is asked only when enabled; the value is drawn only when enabled and eligible. -/
theorem C13_mix (enabled eligible : Bool) (u p : Rat) :
    (mixUsesAnthropogenic enabled eligible u p = true ↔ enabled = true ∧ eligible = true ∧ p ≤ u) ∧
    (mixNatural enabled eligible u p = !mixUsesAnthropogenic enabled eligible u p) ∧
    (mixBernoulliDraws enabled eligible = if enabled = true ∧ eligible = true then 1 else 0) ∧
    (∀ n m : ℕ, 0 < n → mixAnthroCount true true n ((m : ℚ) / (n : ℚ)) = n - m) := by
  refine ⟨mix_iff enabled eligible u p, by simp [mixUsesAnthropogenic], ?_, fun n m hn => mix_count n m hn⟩
  cases enabled <;> cases eligible <;> simp [mixBernoulliDraws]

example : mixUsesAnthropogenic true true (3 / 4) (3 / 4) = true ∧ mixUsesAnthropogenic true true (1 / 2) (3 / 4) = false :=
  ⟨(mix_iff _ _ _ _).mpr ⟨rfl, rfl, Rat.le_refl⟩, by
    cases h : mixUsesAnthropogenic true true (1 / 2) (3 / 4) with
    | false => rfl
    | true => exact absurd ((mix_iff _ _ _ _).mp h).2.2 (by grind)⟩

/-! ### Eligibility and supported kernel types -/

/-- **Eligibility.** Only the network kernel restricts source cells (to cells holding a node); every
    other class is eligible everywhere. The switch kernel forwards the question to the kernel it
    selects, whatever the stochasticity flag (so for the network selector it is the network kernel's
    answer for the same cell, and `true` for every other selector). A built kernel is eligible
    exactly where its class is. And the natural / anthropogenic mix uses the anthropogenic kernel
    only at eligible source cells: at a cell that is not eligible the natural kernel is used whatever
    the draw, the enable flag and the natural share. -/
theorem C13_eligibility :
    (∀ (c : KernelClass) (hasNode : Bool), classEligible c hasNode = (c ≠ .network || hasNode)) ∧
    (∀ (t : DispersalKernelType) (stochastic hasNode : Bool),
        switchEligible t hasNode = classEligible (switchSelect t stochastic).cls hasNode) ∧
    (∀ (t : DispersalKernelType) (hasNode : Bool),
        switchEligible t hasNode = (t ≠ .network || hasNode)) ∧
    (∀ (d : KernelDesc) (hasNode : Bool), d.eligible hasNode = classEligible d.cls hasNode) ∧
    (∀ (enabled eligible : Bool) (u p : Rat),
        mixUsesAnthropogenic enabled eligible u p = true → eligible = true) ∧
    (∀ (enabled : Bool) (u p : Rat),
        mixUsesAnthropogenic enabled false u p = false ∧ mixNatural enabled false u p = true) := by
  refine ⟨?_, ?_, ?_, fun _ _ => rfl, ?_, ?_⟩
  · intro c hasNode; cases c <;> cases hasNode <;> rfl
  · intro t stochastic hasNode
    cases t <;> cases stochastic <;> cases hasNode <;> rfl
  · intro t hasNode; cases t <;> cases hasNode <;> rfl
  · intro enabled eligible u p h
    exact ((mix_iff enabled eligible u p).mp h).2.1
  · intro enabled u p
    cases enabled <;> simp [mixUsesAnthropogenic, mixNatural]

/-- A network selector with stochasticity on or off, at a cell without a node: not eligible; any
    other selector: eligible; the mix at a cell without a node stays natural even for `u = 1 - ε`. -/
example : switchEligible .network false = false ∧ switchEligible .network true = true ∧
    switchEligible .cauchy false = true ∧
    mixUsesAnthropogenic true false (1023 / 1024) (1 / 4) = false ∧
    mixUsesAnthropogenic true true (1023 / 1024) (1 / 4) = true :=
  ⟨rfl, rfl, rfl, (C13_eligibility.2.2.2.2.2 true _ _).1,
   (mix_iff _ _ _ _).mpr ⟨rfl, rfl, by norm_num⟩⟩

/-- **Supported types.** `supports_kernel` of each concrete class is true exactly for the kernel
    types its call operator serves (`ServesType`: uniform, neighbour and network implement the type
    of their name, radial and deterministic the ten laws); the switch kernel supports uniform,
    neighbour and the ten laws, the mix what either of its classes supports. Consequently the kernel a
    factory builds for a name supports the type that name maps to, for every name except `none` and
    `network` as a natural kernel (`builtMustSupport`). -/
theorem C13_supports_kernel :
    (∀ (c : KernelClass) (t : DispersalKernelType), classSupports c t = true ↔ ServesType c t) ∧
    (∀ (c : KernelConfig) (t : DispersalKernelType) (d : KernelDesc),
        kernelTypeFromString c.naturalKernelType = .ok t → createNaturalKernel c = .ok d →
        builtMustSupport false t = true → classSupports d.cls t = true) ∧
    (∀ (c : KernelConfig) (t : DispersalKernelType) (d : KernelDesc),
        kernelTypeFromString c.anthroKernelType = .ok t → createAnthroKernel c = .ok d →
        builtMustSupport true t = true → classSupports d.cls t = true) := by
  refine ⟨?_, ?_, ?_⟩
  · intro c t
    cases c <;> simp only [classSupports, ServesType, beq_iff_eq, Bool.or_eq_true, radialSupports_iff,
      switchSupports_iff]
  · intro c t d ht hd hm
    rw [createNatural_cls c t d ht hd]; exact builtClass_supports false _ t hm
  · intro c t d ht hd hm
    rw [createAnthro_cls c t d ht hd]; exact builtClass_supports true _ t hm

example : classSupports .network .network = true ∧ classSupports .network .cauchy = false ∧
    classSupports .radial .weibull = true ∧ classSupports .radial .uniform = false ∧
    classSupports .switch .network = false := ⟨rfl, rfl, rfl, rfl, rfl⟩

/-! ### Names -/

/-- `kernel_type_from_string` and `direction_from_string` accept exactly the listed spellings, each
    mapped to the kernel / direction it names (lower-cased, hyphen read as blank; the empty string
    names `none`); everything else is `invalid_argument`. -/
theorem C13_names :
    (∀ p ∈ kernelSpellings, kernelTypeFromString p.1 = .ok p.2 ∧ NamesKernel p.1 p.2) ∧
    (∀ s k, kernelTypeFromString s = .ok k → (s, k) ∈ kernelSpellings) ∧
    (∀ s, (∀ p ∈ kernelSpellings, s ≠ p.1) → kernelTypeFromString s = .error .invalid_argument) ∧
    (∀ k : DispersalKernelType, kernelTypeFromString k.name = .ok k) ∧
    (∀ p ∈ directionTable, directionFromString p.1 = .ok p.2 ∧ NamesDirection p.1 p.2) ∧
    (∀ s d, directionFromString s = .ok d → (s, d) ∈ directionTable) ∧
    (∀ s, (∀ p ∈ directionTable, s ≠ p.1) → directionFromString s = .error .invalid_argument) ∧
    (∀ d : Direction, directionFromString d.name = .ok d) :=
  ⟨kernelSpellings_ok, kernelTypeFromString_ok_mem, kernelTypeFromString_other, kernelTypeFromString_name,
   directionTable_ok, directionFromString_ok_mem, directionFromString_other, directionFromString_name⟩

example : kernelTypeFromString "Exponential-Power" = .ok .exponentialPower ∧
    kernelTypeFromString "exponential_power" = .error .invalid_argument := by decide +kernel

/-! ### Factories -/

/-- `create_natural_kernel` / `create_anthro_kernel` / `create_dynamic_kernel`: a name of one of the
    ten laws with dispersal stochasticity on builds the radial kernel of THAT type with the
    configuration's east-west and north-south resolutions in their own slots, the natural
    (anthropogenic) scale, direction and kappa and the shared shape; `uniform` builds the uniform
    kernel of the configured rows x cols; the dynamic kernel carries the enable flag and the natural
    share unchanged; an unknown name is `invalid_argument`. -/
theorem C13_factory (c : KernelConfig) :
    (∀ t d, kernelTypeFromString c.naturalKernelType = .ok t → t.law?.isSome = true →
        c.dispersalStochasticity = true → directionFromString c.naturalDirection = .ok d →
        radialCtorOk c.naturalScale c.shape = true →
        createNaturalKernel c = .ok (.radial c.ewRes c.nsRes t c.naturalScale d c.naturalKappa c.shape)) ∧
    (∀ t d, kernelTypeFromString c.anthroKernelType = .ok t → t.law?.isSome = true →
        c.dispersalStochasticity = true → directionFromString c.anthroDirection = .ok d →
        radialCtorOk c.anthroScale c.shape = true →
        createAnthroKernel c = .ok (.radial c.ewRes c.nsRes t c.anthroScale d c.anthroKappa c.shape)) ∧
    (kernelTypeFromString c.naturalKernelType = .ok .uniform → createNaturalKernel c = .ok (.uniform c.rows c.cols)) ∧
    (kernelTypeFromString c.anthroKernelType = .ok .uniform → createAnthroKernel c = .ok (.uniform c.rows c.cols)) ∧
    (∀ d, kernelTypeFromString c.naturalKernelType = .ok .deterministicNeighbor →
        directionFromString c.naturalDirection = .ok d → createNaturalKernel c = .ok (.neighbor d)) ∧
    (kernelTypeFromString c.naturalKernelType = .error .invalid_argument →
        createNaturalKernel c = .error .invalid_argument) ∧
    (∀ k, createDynamicKernel c = .ok k →
        createNaturalKernel c = .ok k.natural ∧ createAnthroKernel c = .ok k.anthro ∧
        k.useAnthropogenic = c.useAnthropogenicKernel ∧ k.percentNatural = c.percentNaturalDispersal) :=
  ⟨fun t d h1 h2 h3 h4 h5 => createNatural_radial c t d h1 h2 h3 h4 h5,
   fun t d h1 h2 h3 h4 h5 => createAnthro_radial c t d h1 h2 h3 h4 h5,
   createNatural_uniform c, createAnthro_uniform c,
   fun d h1 h2 => createNatural_neighbor c d h1 h2,
   createNatural_unknown_name c,
   fun k h => createDynamic_fields c k h⟩

/-- The radial kernel's constructor keeps each resolution in its own member and is accepted iff
    scale and shape are positive (the ten class guards together). -/
theorem C13_radial_ctor (ew ns : ℝ) (t : DispersalKernelType) (scale : ℝ) (dir : Direction) (kappa shape : ℝ) :
    ((RadialKernel.make TF.real ew ns t scale dir kappa shape).toBool = true ↔ 0 < scale ∧ 0 < shape) ∧
    (∀ k, RadialKernel.make TF.real ew ns t scale dir kappa shape = .ok k →
        k.ew = ew ∧ k.ns = ns ∧ k.type = t ∧ k.scale = scale ∧ k.shape = shape ∧
        k.mu = directionMu TF.real dir ∧ k.kappa = directionKappa TF.real dir kappa) :=
  ⟨radial_make_real ew ns t scale dir kappa shape,
   fun k h => radial_make_fields TF.real ew ns t scale dir kappa shape k h⟩

end Pops
