/-
  C16 at the level of `Model::run_step` with several hosts: the single-host results lifted to a
  list of hosts. Model and predicates: Model/MModelPred.lean (on top of Model/Multi.lean and
  Model/RunStep.lean); lemmas: Lemmas/MModel.lean. The driver (Driver/MModelEng.lean) evaluates
  `modelLedgerOK`, `poolSumsOK`, `atMostOneSpec` per landing, `landSpreadOK` per spread block,
  `generatedSpec`, and per host the single-host predicates, on the implementation's observed states.
-/
import PopsModel.Lemmas.MModel
import PopsModel.Props.C16
import PopsModel.Props.C01Step
import PopsModel.Props.C05OffSeason
namespace Pops
open Pops.MM

attribute [local instance] exceptDecEq

/-- Conservation over several hosts: if every host's history is a valid single-host history
    (the hypotheses of `C01_history`: consistent start, actions in their domain along the run),
    then summed over ALL hosts and cells, hosts after = hosts before - hosts reported dead -
    hosts taken out by removal treatments; both sinks are non-negative, nothing is ever created;
    and the ledger predicate the driver evaluates per action block holds for the class of the
    block (mortality block: no removals; reclassifying block: neither). -/
theorem C16_model_conservation (runs : List HostRun) (hv : ∀ r ∈ runs, r.valid) :
    let before : MLand := runs.map (·.start)
    let after : MLand := runs.map (·.stop)
    let removed : Int := sumL (runs.map HostRun.removed)
    after.hosts = before.hosts - (after.died - before.died) - removed ∧
    0 ≤ removed ∧ before.died ≤ after.died ∧ after.hosts ≤ before.hosts ∧
    (removed = 0 → modelLedgerOK .death before after = true) ∧
    (after.died = before.died → modelLedgerOK .removal before after = true) ∧
    (removed = 0 → after.died = before.died → modelLedgerOK .reclassify before after = true) := by
  intro before after removed
  have key : after.hosts = before.hosts - (after.died - before.died) - removed ∧
      0 ≤ removed ∧ before.died ≤ after.died ∧ after.hosts ≤ before.hosts := by
    simp only [before, after, removed, MLand.hosts_map, MLand.died_map]
    exact sumL_ledger runs _ _ _ _ _ fun r hr =>
      let ⟨hinv, hu, hd, hrun⟩ := hv r hr
      C01_history r.ops r.start r.stop hinv hu hd hrun
  obtain ⟨k1, k2, k3, k4⟩ := key
  refine ⟨k1, k2, k3, k4, ?_, ?_, ?_⟩ <;> simp only [modelLedgerOK, Bool.and_eq_true, decide_eq_true_eq]
  · intro h0
    exact ⟨by rw [k1, h0, Int.sub_zero], k3⟩
  · intro hd
    exact ⟨k4, hd⟩
  · intro h0 hd
    exact ⟨by rw [k1, h0, hd, Int.sub_self, Int.sub_zero, Int.sub_zero], hd⟩

/-- The same for whole model steps: every host runs its own list of action generators (its share
    of `Model::run_step`, with its own mortality rate and lag, the landings handed to it, ...);
    `C01_generators` per host gives conservation over all hosts, and every host stays consistent. -/
theorem C16_model_step_conservation (runs : List HostGens) (hv : ∀ r ∈ runs, r.valid) :
    let before : MLand := runs.map (·.start)
    let after : MLand := runs.map (·.stop)
    let removed : Int := sumL (runs.map HostGens.removed)
    after.hosts = before.hosts - (after.died - before.died) - removed ∧
    0 ≤ removed ∧ before.died ≤ after.died ∧ after.hosts ≤ before.hosts ∧
    (∀ r ∈ runs, r.stop.inv ∧ r.stop.uniform) := by
  intro before after removed
  have each : ∀ r ∈ runs, _ := fun r hr =>
    let ⟨hinv, hu, hd, hrun⟩ := hv r hr
    C01_generators r.gens r.start r.stop hinv hu hd hrun
  have key := sumL_ledger runs (fun r => r.stop.hosts) (fun r => r.start.hosts) (fun r => r.stop.died)
    (fun r => r.start.died) HostGens.removed
    fun r hr => ⟨(each r hr).1, (each r hr).2.1, (each r hr).2.2.1, (each r hr).2.2.2.1⟩
  simp only [before, after, removed, MLand.hosts_map, MLand.died_map]
  exact ⟨key.1, key.2.1, key.2.2.1, key.2.2.2, fun r hr => (each r hr).2.2.2.2⟩

/-! #### a non-trivial instance: two hosts, mortality on one, a removal treatment on the other -/

/-- Host A: one cell, 3 susceptible and 2 infected hosts in the oldest of two mortality cohorts;
    mortality with rate 1, lag 0 kills both. -/
def MM.c16mRunA : HostRun :=
  { ops := [.at 0 (.mortality 1 0)], start := [⟨3, [], 2, 0, 0, [2, 0], 0, 5⟩], stop := [⟨3, [], 0, 0, 0, [0, 0], 2, 3⟩] }

/-- Host B: one cell, 4 susceptible and 2 infected; a removal treatment with coefficient 1/2 takes
    out 2 susceptible and 1 infected host. -/
def MM.c16mRunB : HostRun :=
  { ops := [.at 0 (.simpleTreat (1/2) .ratio)], start := [⟨4, [], 2, 0, 0, [2, 0], 0, 6⟩], stop := [⟨2, [], 1, 0, 0, [1, 0], 0, 3⟩] }

/-- For the two instance runs below: the domain of their one operation does not depend on the
    state, the rest is finite. -/
theorem MM.valid_of_static (r : HostRun) (hi : r.start.inv) (hu : r.start.uniform)
    (hd : ∀ op ∈ r.ops, ∀ x : Land, op.inDomain x) (hr : yields (runOps r.ops r.start) r.stop = true) : r.valid :=
  ⟨hi, hu, domainAlong_of_static _ hd _, eq_ok_of_yields hr⟩

theorem MM.c16mRunA_valid : c16mRunA.valid :=
  valid_of_static _ (by unfold Land.inv; decide) (by unfold Land.uniform; decide)
    (fun op hop x => by
      cases List.mem_singleton.mp hop
      exact fun c _ => ⟨by decide, by decide, by decide⟩)
    (by decide +kernel)

theorem MM.c16mRunB_valid : c16mRunB.valid :=
  valid_of_static _ (by unfold Land.inv; decide) (by unfold Land.uniform; decide)
    (fun op hop x => by
      cases List.mem_singleton.mp hop
      exact fun c _ => half_in_unit)
    (by decide +kernel)

/-- Both hosts together: 11 hosts before, 6 after, 2 reported dead, 3 removed by the treatment. -/
example :
    (∀ r ∈ [c16mRunA, c16mRunB], r.valid) ∧
    MLand.hosts [c16mRunA.start, c16mRunB.start] = 11 ∧ MLand.hosts [c16mRunA.stop, c16mRunB.stop] = 6 ∧
    MLand.died [c16mRunA.stop, c16mRunB.stop] - MLand.died [c16mRunA.start, c16mRunB.start] = 2 ∧
    sumL ([c16mRunA, c16mRunB].map HostRun.removed) = 3 := by
  have hv : ∀ r ∈ [c16mRunA, c16mRunB], r.valid := by
    simp only [List.forall_mem_cons, List.not_mem_nil, false_imp_iff, implies_true, and_true]
    exact ⟨c16mRunA_valid, c16mRunB_valid⟩
  have h := (C16_model_conservation [c16mRunA, c16mRunB] hv).1
  have e1 : MLand.hosts [c16mRunA.start, c16mRunB.start] = 11 := by decide +kernel
  have e2 : MLand.hosts [c16mRunA.stop, c16mRunB.stop] = 6 := by decide +kernel
  have e3 : MLand.died [c16mRunA.stop, c16mRunB.stop] - MLand.died [c16mRunA.start, c16mRunB.start] = 2 := by decide +kernel
  refine ⟨hv, e1, e2, e3, ?_⟩
  simp only [List.map_cons, List.map_nil] at h ⊢
  omega

/-- Whole model steps: the SEI instance of Props/C05OffSeason.lean (survival rate, removal treatment
    and mortality in one step) as one host, next to a second host that only has mortality. -/
example :
    let a : HostGens := { gens := stepGens c05OffCfg c05OffInp 0, start := c05OffLand, stop := [⟨7, [0, 1], 1, 0, 1, [1, 0], 0, 9⟩] }
    let b : HostGens := { gens := [fun _ => c16mRunA.ops], start := c16mRunA.start, stop := c16mRunA.stop }
    (∀ r ∈ [a, b], r.valid) := by
  intro a b r hr
  simp only [List.mem_cons, List.not_mem_nil, or_false] at hr
  rcases hr with rfl | rfl
  · exact ⟨by show Land.inv c05OffLand; unfold Land.inv; decide,
      by show Land.uniform c05OffLand; unfold Land.uniform; decide, c05Off_domain, c05Off_run⟩
  · obtain ⟨h1, h2, h3, h4⟩ := c16mRunA_valid
    refine ⟨h1, h2, ⟨h3, fun _ _ => trivial⟩, ?_⟩
    show runGens [fun _ => c16mRunA.ops] c16mRunA.start = .ok c16mRunA.stop
    simp only [runGens, h4, bind, Except.bind]

/-- What the multi-host pool reports per cell are the sums over its hosts, whatever state the
    hosts are in: `infected_at` / `total_hosts_at` of cell `k` are the sums of the hosts' values at
    `k` (the predicate the driver evaluates holds), and summed over the raster they are the sums
    over the hosts of each host's own raster sums. -/
theorem C16_model_sums (m : MLand) (n : Nat) (hlen : ∀ l ∈ m, l.length = n) :
    poolSumsOK m (poolInfected m n) (poolTotalHosts m n) = true ∧
    (∀ k, k < n → (poolInfected m n)[k]! = sumL (m.map fun l => (l[k]!).i) ∧
                  (poolTotalHosts m n)[k]! = sumL (m.map fun l => (l[k]!).s + (l[k]!).i)) ∧
    sumL (poolInfected m n) = sumL (m.map fun l => sumL (l.map (·.i))) ∧
    sumL (poolTotalHosts m n) = sumL (m.map fun l => sumL (l.map fun c => c.s + c.i)) := by
  refine ⟨poolSumsOK_self m n, fun k hk => ⟨poolInfected_getElem m hk, poolTotalHosts_getElem m hk⟩, ?_, ?_⟩
  · have := sum_cells_hosts m n (·.i) hlen
    simpa [poolInfected, multiInfectedAt] using this
  · have := sum_cells_hosts m n Cell.totalHostsAt hlen
    have e : (fun c : Cell => c.s + c.i) = Cell.totalHostsAt := rfl
    rw [e]
    simpa [poolTotalHosts, multiTotalHostsAt] using this

/-- ... in particular after any per-host histories (any actions, any interleaving per host):
    histories keep the raster shape, so the sums are those of the states the hosts ended in. -/
theorem C16_model_sums_after_histories (runs : List HostRun) (n : Nat)
    (hok : ∀ r ∈ runs, runOps r.ops r.start = .ok r.stop) (hlen : ∀ r ∈ runs, r.start.length = n) :
    let after : MLand := runs.map (·.stop)
    poolSumsOK after (poolInfected after n) (poolTotalHosts after n) = true ∧
    sumL (poolInfected after n) = sumL (after.map fun l => sumL (l.map (·.i))) ∧
    sumL (poolTotalHosts after n) = sumL (after.map fun l => sumL (l.map fun c => c.s + c.i)) := by
  intro after
  have hl : ∀ l ∈ after, l.length = n := by
    intro l hl
    obtain ⟨r, hr, rfl⟩ := List.mem_map.mp hl
    rw [runOps_length (hok r hr), hlen r hr]
  obtain ⟨h1, _, h3, h4⟩ := C16_model_sums after n hl
  exact ⟨h1, h3, h4⟩

/-- Two hosts on a 1 x 2 raster: the pool reports [3, 1] infected and [8, 5] total hosts. -/
example :
    let m : MLand := [[⟨4, [], 2, 0, 0, [2], 0, 6⟩, ⟨1, [], 0, 0, 0, [0], 0, 1⟩],
                      [⟨1, [], 1, 0, 0, [1], 0, 2⟩, ⟨3, [], 1, 0, 0, [1], 0, 4⟩]]
    (∀ l ∈ m, l.length = 2) ∧ poolInfected m 2 = [3, 1] ∧ poolTotalHosts m 2 = [8, 5] ∧
    poolSumsOK m [3, 1] [8, 5] = true ∧ poolSumsOK m [3, 2] [8, 5] = false := by
  decide +kernel

/-- One landing on the landscape (`MultiHostPool::disperser_to` at cell `ld.k`): the result is 0 or
    1; with 0 nothing changes; with 1 exactly one host of exactly that cell changes, by one
    S -> E/I transition, and it had a susceptible individual. The per-landing predicate
    (`landingStepOK`) and the aggregate predicate (`landSpreadOK`) the driver evaluates hold, and
    the susceptible hosts consumed equal the result. -/
theorem C16_model_landing_one_host (cfg : MultiCfg) (ps : List HostParams) (land : CLand) (ld : Landing)
    (land' : CLand) (r : Int) (h : landAt cfg ps land ld = .ok (land', r)) :
    landingStepOK ps land land' = true ∧ landSpreadOK land land' = true ∧ sLostTotal land land' = r ∧
    ((r = 0 ∧ land' = land) ∨
     (r = 1 ∧ ∃ cells hh, land[ld.k]? = some cells ∧ hh < cells.length ∧ 0 < (cells[hh]!).s ∧
        land' = land.set ld.k (cells.set hh (landed (ps[hh]!).mt (cells[hh]!))))) := by
  have same : landingStepOK ps land land = true ∧ landSpreadOK land land = true ∧ sLostTotal land land = 0 :=
    ⟨by simp [landingStepOK], (landSpreadOK_iff _ _).2 (LandSpread.refl _), sLostTotal_refl _⟩
  unfold landAt at h
  cases hk : land[ld.k]? with
  | none =>
    rw [hk] at h
    simp only [Except.ok.injEq, Prod.mk.injEq] at h
    obtain ⟨rfl, rfl⟩ := h
    exact ⟨same.1, same.2.1, same.2.2, .inl ⟨rfl, rfl⟩⟩
  | some cells =>
    rw [hk] at h
    simp only at h
    split at h
    · rename_i cells' r' n hm
      simp only [Except.ok.injEq, Prod.mk.injEq] at h
      obtain ⟨rfl, rfl⟩ := h
      obtain ⟨hspec, hcases⟩ := C16_at_most_one_host cfg ps ld.env cells ld.pick ld.u cells' r' n hm
      have hlt := (List.getElem?_eq_some_iff.mp hk).1
      have hcs : CellSpread cells cells' := cellSpread_of_atMostOne hspec
      have hland : landSpreadOK land (land.set ld.k cells') = true :=
        (landSpreadOK_iff _ _).2 (LandSpread.set hk hcs)
      rcases hcases with ⟨h0, he⟩ | ⟨h1, hh, hhlt, _, hpos, hset, _⟩
      · subst h0; subst he
        rw [set_eq_of_getElem? hk]
        exact ⟨same.1, same.2.1, same.2.2, .inl ⟨rfl, rfl⟩⟩
      · subst h1
        refine ⟨?_, hland, ?_, .inr ⟨rfl, cells, hh, rfl, hhlt, hpos, by rw [hset]⟩⟩
        · unfold landingStepOK
          simp only [Bool.or_eq_true, List.any_eq_true, List.mem_range, Bool.and_eq_true, beq_iff_eq]
          refine .inr ⟨ld.k, hlt, ?_, ?_⟩
          · rw [act_getElem!_set_self land cells' hlt]
          · rw [act_getElem!_set_self land cells' hlt, getElem!_of_some hk]; exact hspec
        · rw [sLostTotal_set hk, hset]
          exact cellLost_set_landed _ hhlt
    · cases h

/-- The landings of a whole spread step, in kernel-call order: the aggregate predicate holds between
    the landscape before the first and after the last landing (per cell the susceptible hosts lost
    over the hosts equal the E/I gained, each host gains what it loses and never more than it had),
    the number of established dispersers is the number of susceptible hosts consumed, and it lies
    between 0 and the number of landings. By induction over the list of landings. -/
theorem C16_model_spread_aggregate (cfg : MultiCfg) (ps : List HostParams) (lds : List Landing) (land land' : CLand)
    (n : Int) (h : runLandings cfg ps lds land = .ok (land', n)) :
    landSpreadOK land land' = true ∧ sLostTotal land land' = n ∧ 0 ≤ n ∧ n ≤ lds.length := by
  induction lds generalizing land n with
  | nil =>
    simp only [runLandings, Except.ok.injEq, Prod.mk.injEq] at h
    obtain ⟨rfl, rfl⟩ := h
    exact ⟨(landSpreadOK_iff _ _).2 (LandSpread.refl _), sLostTotal_refl _, by omega, by simp⟩
  | cons ld rest ih =>
    simp only [runLandings] at h
    split at h
    · cases h
    · rename_i mid r h1
      split at h
      · cases h
      · rename_i fin m h2
        simp only [Except.ok.injEq, Prod.mk.injEq] at h
        obtain ⟨rfl, rfl⟩ := h
        obtain ⟨_, a2, a3, a4⟩ := C16_model_landing_one_host cfg ps land ld mid r h1
        obtain ⟨b1, b2, b3, b4⟩ := ih mid m h2
        have l1 := (landSpreadOK_iff _ _).1 a2
        have l2 := (landSpreadOK_iff _ _).1 b1
        have hr : 0 ≤ r ∧ r ≤ 1 := by rcases a4 with ⟨r0, _⟩ | ⟨r1, _⟩ <;> omega
        refine ⟨(landSpreadOK_iff _ _).2 (l1.trans l2), ?_, Int.add_nonneg hr.1 b3, ?_⟩
        · rw [sLostTotal_trans l1 l2, a3, b2]
        · simp only [List.length_cons]; omega

/-- The same step on OBSERVED states, independent of the model: if every consecutive pair of a
    chain of landscapes is one landing in the sense the driver checks per `mm.land` line (nothing
    changes, or exactly one cell changes and `atMostOneSpec` holds there with result 1), then the
    aggregate predicate holds between the first and the last landscape. This is what makes the
    aggregate spread check a consequence of the per-landing checks. -/
theorem C16_model_aggregate_of_landings (ps : List HostParams) (a : CLand) (chain : List CLand)
    (h : landingChainOK ps a chain = true) : landSpreadOK a (chain.getLastD a) = true := by
  have step : ∀ x y : CLand, landingStepOK ps x y = true → LandSpread x y := by
    intro x y hxy
    unfold landingStepOK at hxy
    simp only [Bool.or_eq_true, beq_iff_eq, List.any_eq_true, List.mem_range, Bool.and_eq_true] at hxy
    rcases hxy with rfl | ⟨k, hk, hset, hspec⟩
    · exact LandSpread.refl _
    · rw [hset]
      have hs : x[k]? = some (x[k]!) := act_getElem?_eq_some_getElem! hk
      exact LandSpread.set hs (cellSpread_of_atMostOne hspec)
  rw [landSpreadOK_iff]
  induction chain generalizing a with
  | nil => exact LandSpread.refl a
  | cons b rest ih =>
    simp only [landingChainOK, Bool.and_eq_true] at h
    have : (b :: rest).getLastD a = rest.getLastD b := by cases rest <;> rfl
    rw [this]
    exact (step a b h.1).trans (ih b h.2)

/-! #### a non-trivial instance: two hosts, two cells, three landings -/

def MM.c16mPs : List HostParams := [{ mt := .si, sto := true, pEst := 0, rr := 1 }, { mt := .sei, sto := true, pEst := 0, rr := 1 }]
def MM.c16mCfg : MultiCfg := { arrival := .land, sto := true, pEst := 0 }
def MM.c16mEnv : MEnv := { n := 4, w := none, pht := some { sus := [1, 1/2], rate := [0, 0], lag := [0, 0] }, comp := none }

/-- Cell 0: host 0 (SI) has 2 susceptible, host 1 (SEI) has 2; cell 1: only host 1 has hosts. -/
def MM.c16mLand : CLand :=
  [[⟨2, [], 0, 0, 0, [0], 0, 2⟩, ⟨2, [0], 0, 0, 0, [0], 0, 2⟩],
   [⟨0, [], 0, 0, 0, [0], 0, 0⟩, ⟨1, [0], 0, 0, 0, [0], 0, 1⟩]]

/-- Landing 1 at cell 0 picks host 1 and establishes (tester 1/4 < 3/4), landing 2 at cell 0 picks
    host 0 but fails (tester 7/8 >= 5/8), landing 3 at cell 1 picks host 1 (tester 0 < 1/8). -/
def MM.c16mLandings : List Landing :=
  [{ k := 0, env := c16mEnv, pick := 1, u := 1/4 }, { k := 0, env := c16mEnv, pick := 0, u := 7/8 },
   { k := 1, env := c16mEnv, pick := 1, u := 0 }]

def MM.c16mAfter : CLand :=
  [[⟨2, [], 0, 0, 0, [0], 0, 2⟩, ⟨1, [1], 0, 0, 1, [0], 0, 2⟩],
   [⟨0, [], 0, 0, 0, [0], 0, 0⟩, ⟨0, [1], 0, 0, 1, [0], 0, 1⟩]]

theorem MM.c16m_run : runLandings c16mCfg c16mPs c16mLandings c16mLand = .ok (c16mAfter, 2) :=
  by decide +kernel

/-- The three landings establish twice, consume two susceptible hosts, and satisfy the aggregate
    predicate; a state in which host 0 had gained the infection host 1 paid for does not. -/
example :
    runLandings c16mCfg c16mPs c16mLandings c16mLand = .ok (c16mAfter, 2) ∧
    landSpreadOK c16mLand c16mAfter = true ∧ sLostTotal c16mLand c16mAfter = 2 ∧
    landSpreadOK c16mLand
      [[⟨2, [], 1, 0, 0, [1], 0, 2⟩, ⟨1, [0], 0, 0, 0, [0], 0, 2⟩],
       [⟨0, [], 0, 0, 0, [0], 0, 0⟩, ⟨0, [1], 0, 0, 1, [0], 0, 1⟩]] = false := by
  obtain ⟨h1, h2, _, _⟩ := C16_model_spread_aggregate c16mCfg c16mPs c16mLandings c16mLand c16mAfter 2 c16m_run
  exact ⟨c16m_run, h1, h2, by decide +kernel⟩

/-- The first landing alone, through `C16_model_landing_one_host`. -/
example :
    ∃ land', landAt c16mCfg c16mPs c16mLand { k := 0, env := c16mEnv, pick := 1, u := 1/4 } = .ok (land', 1) ∧
      landingStepOK c16mPs c16mLand land' = true ∧ sLostTotal c16mLand land' = 1 := by
  have h : landAt c16mCfg c16mPs c16mLand { k := 0, env := c16mEnv, pick := 1, u := 1/4 } =
      .ok ([[⟨2, [], 0, 0, 0, [0], 0, 2⟩, ⟨1, [1], 0, 0, 1, [0], 0, 2⟩],
            [⟨0, [], 0, 0, 0, [0], 0, 0⟩, ⟨1, [0], 0, 0, 0, [0], 0, 1⟩]], 1) := by decide +kernel
  obtain ⟨a1, _, a3, _⟩ := C16_model_landing_one_host _ _ _ _ _ _ h
  exact ⟨_, h, a1, a3⟩

/-- A chain of observed landscapes (before, after landing 1, after landing 3) passes the per-landing
    check, hence the aggregate one. -/
example :
    let mid : CLand := [[⟨2, [], 0, 0, 0, [0], 0, 2⟩, ⟨1, [1], 0, 0, 1, [0], 0, 2⟩],
                        [⟨0, [], 0, 0, 0, [0], 0, 0⟩, ⟨1, [0], 0, 0, 0, [0], 0, 1⟩]]
    landingChainOK c16mPs c16mLand [mid, mid, c16mAfter] = true ∧ landSpreadOK c16mLand c16mAfter = true := by
  intro mid
  refine ⟨?ok, C16_model_aggregate_of_landings c16mPs c16mLand [mid, mid, c16mAfter] ?ok⟩
  decide +kernel

/-- The disperser raster: at every cell of the pool's cell list the generated number is the pool's
    `dispersers_from` there - the sum over the hosts of
    `lround (reproductive rate x weather x competency of the combination present x infected)`
    (`dispersersSpec`, proved equal to the model of `dispersers_from` in `C16_competency_scaling`). -/
theorem C16_model_generation (env : Nat → MEnv) (ps : List HostParams) (land : CLand) (suitIdx : List Nat) (l : List Int)
    (h : modelGenerated env ps land suitIdx = .ok l) :
    generatedSpec env ps land suitIdx = l.map some ∧ l.length = suitIdx.length := by
  induction suitIdx generalizing l with
  | nil =>
    simp only [modelGenerated, Except.ok.injEq] at h
    subst h
    exact ⟨rfl, rfl⟩
  | cons k rest ih =>
    simp only [modelGenerated] at h
    split at h
    · cases h
    · rename_i v h1
      split at h
      · cases h
      · rename_i vs h2
        simp only [Except.ok.injEq] at h
        subst h
        obtain ⟨i1, i2⟩ := ih vs h2
        have hs := C16_competency_scaling (env k) ps (land[k]!)
        rw [h1] at hs
        refine ⟨?_, by simp [i2]⟩
        simp only [generatedSpec, List.map_cons] at i1 ⊢
        rw [hs, i1]

/-- Two hosts with 2 and 3 infected at the only cell, rates 1 and 2, weather 1/2, a complete
    competency table giving 1/2 when both are present: 1 x 1/2 x 1/2 x 2 = 1/2 -> 1 and
    2 x 1/2 x 1/2 x 3 = 3/2 -> 2, together 3. -/
example :
    let env : Nat → MEnv := fun _ =>
      { n := 10, w := some (1/2), pht := none,
        comp := some (.complete [⟨[false, false], 0⟩, ⟨[true, false], 1⟩, ⟨[false, true], 1⟩, ⟨[true, true], 1/2⟩]) }
    let ps : List HostParams := [{ mt := .si, sto := true, pEst := 0, rr := 1 }, { mt := .si, sto := true, pEst := 0, rr := 2 }]
    let land : CLand := [[⟨1, [], 2, 0, 0, [2], 0, 3⟩, ⟨0, [], 3, 0, 0, [3], 0, 3⟩]]
    modelGenerated env ps land [0] = .ok [3] ∧ generatedSpec env ps land [0] = [some 3] := by
  intro env ps land
  refine ⟨?ok, (C16_model_generation env ps land [0] [3] ?ok).1⟩
  decide +kernel

/-- The mortality action over several hosts: host `h` ends in exactly the state its OWN single-host
    mortality history produces from its own landscape with the rate and lag of ITS row of the
    pest-host table (the operations `actionGen .. .mortality` generates for a single host with those
    parameters); no other host's row and no other host's state enters. -/
theorem C16_model_mortality_per_host (t : PestHostTable) (suitIdx : List Nat) (h0 : Nat) (m m' : MLand)
    (h : modelMortality t suitIdx h0 m = .ok m') :
    m'.length = m.length ∧
    ∀ j, j < m.length → ∃ rate lag, t.rate[h0 + j]? = some rate ∧ t.lag[h0 + j]? = some lag ∧
      runOps (hostMortalityOps suitIdx rate lag (m[j]!)) (m[j]!) = .ok (m'[j]!) := by
  rw [modelMortality_eq] at h
  obtain ⟨h1, h2⟩ := forFrom_ok h
  exact ⟨h1, fun j hj => hostMortalityAt_ok (h2 j hj)⟩

/-- The operations of one host's share are those the single-host step model generates for the
    mortality action with that host's parameters. -/
theorem C16_model_mortality_ops (inp : StepInputs) (step : Nat) (rate : Rat) (lag : Int) (l : Land) :
    hostMortalityOps (inp.suit.map fun rc => inp.g.idx rc.1 rc.2) rate lag l =
      actionGen { inp with mortalityRate := rate, mortalityLag := lag } step .mortality l := rfl

/-- Two hosts, one cell each in the pool's list, table rows (rate 1, lag 0) and (rate 1, lag 1): the
    first host's infected die, the second host's single cohort lies inside its own lag. -/
example :
    let t : PestHostTable := { sus := [1, 1], rate := [1, 1], lag := [0, 1] }
    let c : Cell := ⟨0, [], 1, 0, 0, [1], 0, 1⟩
    modelMortality t [0] 0 [[c], [c]] = .ok [[⟨0, [], 0, 0, 0, [0], 1, 0⟩], [c]] := by
  intro t c
  decide +kernel

end Pops
