/-
  C01  Hosts are conserved: only mortality and removal treatments take hosts out.
-/
import PopsModel.Model.HostOps
import PopsModel.Lemmas.HostLists
import PopsModel.Lemmas.HostHistory
namespace Pops

/-- Every action at a cell obeys the ledger of its class: reclassification keeps the number of
    hosts, a removal treatment only takes hosts out, mortality takes out exactly the hosts it
    adds to `died`. For all arguments in the documented domain, all draws. -/
theorem C01_cell_step (op : CellOp) (c c' : Cell) (hd : op.inDomain c)
    (hn : c.nonNeg = true) (ht : c.totalsOK = true) (h : op.apply c = .ok c') :
    ledgerOK op.ledger c c' = true :=
  (cellOp_facts op c c' hd (good_of_bool hn ht) h).ledger

/-- A host move only relocates hosts between the two cells. Holds for every mortality-cohort draw
    `dM` (the C++ always produces a `ValidDraw src.mort d.i dM`) and whatever the length of the
    target's mortality-cohort list (in the C++ all cells share the length of the tracker vector). -/
theorem C01_move (src dst : Cell) (count : Int) (d : ClassDraw) (dE dM : List Int)
    (hs : src.nonNeg = true) (hts : src.totalsOK = true)
    (hd : validClassDrawB src count d = true)
    (hE : d.e > 0 → ValidDraw src.e d.e dE)
    (hlenE : dst.e.length = src.e.length) :
    let r := moveHosts src dst count d dE dM
    moveLedgerOK src dst r.1 r.2.1 = true :=
  move_ledger rfl (good_of_bool hs hts) hd hE hlenE

/-- Over any history of actions (any interleaving, any length, any draws) from a consistent
    landscape: hosts after = hosts before - hosts reported dead - hosts taken out by removal
    treatments; none of the two sinks is negative; in particular no action creates a host. -/
theorem C01_history (ops : List LandOp) (l l' : Land) (hinv : l.inv) (hu : l.uniform)
    (hd : DomainAlong ops l) (h : runOps ops l = .ok l') :
    l'.hosts = l.hosts - (l'.died - l.died) - removedAlong ops l ∧
    0 ≤ removedAlong ops l ∧ l.died ≤ l'.died ∧ l'.hosts ≤ l.hosts :=
  (history_facts ops l l' hinv hu hd h).1

/-- Non-vacuity of the hypothesis `Land.inv`: a two-cell SEI landscape satisfies it. -/
example : (Land.inv [⟨5, [1, 2], 3, 0, 3, [1, 2], 0, 11⟩, ⟨2, [0, 0], 0, 0, 0, [0, 0], 0, 2⟩]) := by
  intro c hc
  simp only [List.mem_cons, List.not_mem_nil, or_false] at hc
  rcases hc with rfl | rfl <;> decide

end Pops
