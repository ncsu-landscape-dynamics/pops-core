/-
  C10  Treatments act once, where and when scheduled, by the stated share.
-/
import PopsModel.Model.HostOps
import PopsModel.Lemmas.HostMech
namespace Pops

/-- Host removal: from a consistent cell and a coefficient in [0,1] the treatment succeeds and
    takes from susceptible, every exposed cohort, infected and every mortality cohort the
    coefficient's share rounded up (everything of the infection-carrying classes in the
    all-infected mode when the coefficient is non-zero); totals follow. -/
theorem C10_removal (coef : Rat) (app : TreatApp) (c : Cell) (h0 : 0 ≤ coef) (h1 : coef ≤ 1)
    (hn : c.nonNeg = true) (ht : c.totalsOK = true) (hm : c.mortOK = true) :
    ∃ c', c.simpleTreat coef app = .ok c' ∧
      simpleTreatSpec coef (app == .allInfected) c c' = true ∧ c'.totalsOK = true := by
  refine ⟨_, mech_simpleTreat_eq coef app c h0 h1 hn hm, ?_, mech_simpleRes_totalsOK coef app c ht⟩
  simp only [simpleTreatSpec, mech_simpleRes, mech_rounds_ceil.sh_spec, decide_true, Bool.and_self]

/-- Pesticide: the share rounded down of each class moves into the resistant class. (Whether or
    not infected = sum of the mortality cohorts: `mortOK` is not needed.) -/
theorem C10_pesticide (coef : Rat) (app : TreatApp) (c : Cell) (h0 : 0 ≤ coef) (h1 : coef ≤ 1)
    (hn : c.nonNeg = true) (ht : c.totalsOK = true) :
    ∃ c', c.pesticideTreat coef app = .ok c' ∧
      pesticideTreatSpec coef (app == .allInfected) c c' = true ∧ c'.totalsOK = true := by
  have hs := ((nonNeg_iff c).mp hn).s
  refine ⟨_, mech_pesticideTreat_eq coef app c h0 h1 hs, ?_, mech_pestRes_totalsOK coef app c ht⟩
  simp only [pesticideTreatSpec, mech_pestRes, mech_rounds_floor.sh_spec, Int.add_assoc, decide_true,
    Bool.and_self]

/-- At the end of a pesticide every resistant host of a treated cell returns to susceptible. -/
theorem C10_pesticide_end (coef : Rat) (c : Cell) :
    pesticideEndSpec coef c (c.pesticideEnd coef) = true := by
  unfold pesticideEndSpec Cell.pesticideEnd Cell.removeResistance
  split <;> simp

/-- Coefficient 0 changes nothing; coefficient 1 empties the treated classes (removal) or moves
    them entirely into the resistant class (pesticide). -/
theorem C10_coef_zero_one (app : TreatApp) (c : Cell)
    (hn : c.nonNeg = true) (ht : c.totalsOK = true) (hm : c.mortOK = true) :
    c.simpleTreat 0 app = .ok c ∧ c.pesticideTreat 0 app = .ok c ∧
    (∃ c', c.simpleTreat 1 app = .ok c' ∧ c'.s = 0 ∧ c'.i = 0 ∧ (∀ x ∈ c'.e, x = 0) ∧
        (∀ x ∈ c'.mort, x = 0) ∧ c'.r = c.r ∧ c'.th = c.r) ∧
    (∃ c', c.pesticideTreat 1 app = .ok c' ∧ c'.s = 0 ∧ c'.i = 0 ∧ (∀ x ∈ c'.e, x = 0) ∧
        (∀ x ∈ c'.mort, x = 0) ∧ c'.r = c.hosts) := by
  have hs := ((nonNeg_iff c).mp hn).s
  have z0 : (0 : Rat) ≤ 0 := by decide
  have z1 : (0 : Rat) ≤ 1 := by decide
  have o1 : (1 : Rat) ≤ 1 := by decide
  refine ⟨?_, ?_, ⟨_, mech_simpleTreat_eq 1 app c z1 o1 hn hm, ?_⟩,
    ⟨_, mech_pesticideTreat_eq 1 app c z1 o1 hs, ?_⟩⟩
  · rw [mech_simpleTreat_eq 0 app c z0 z1 hn hm, mech_simpleRes_zero app c ht]
  · rw [mech_pesticideTreat_eq 0 app c z0 z1 hs, mech_pestRes_zero app c]
  -- with coefficient 1 the share of a count is the count
  · have hsh : mech_sh rceil 1 app = fun x => x := funext (mech_rounds_ceil.sh_one app)
    simp only [mech_simpleRes, hsh, Int.sub_self, share_one, rceil_int, List.mem_map, true_and,
      sumL_zeros]
    refine ⟨?_, ?_, ?_⟩
    · rintro x ⟨_, _, rfl⟩; rfl
    · rintro x ⟨_, _, rfl⟩; rfl
    · omega
  · have hsh : mech_sh rfloor 1 app = fun x => x := funext (mech_rounds_floor.sh_one app)
    simp only [mech_pestRes, Cell.hosts, hsh, Int.sub_self, share_one, rfloor_int, List.mem_map,
      true_and, List.map_id']
    refine ⟨?_, ?_, ?_⟩
    · rintro x ⟨_, _, rfl⟩; rfl
    · rintro x ⟨_, _, rfl⟩; rfl
    · omega

/-- Resistant hosts cannot be infected: a landing disperser consumes a susceptible host only. -/
theorem C10_resistant_not_infected (mt : ModelType) (c : Cell) (env : EnvCell) (sto : Bool) (pEst u : Rat)
    (c' : Cell) (k : Int) (n : Nat) (h : c.disperserTo mt env sto pEst u = .ok (c', k, n)) :
    c'.r = c.r ∧ (k = 0 ∨ k = 1) ∧ c'.s = c.s - k ∧ (c.s ≤ 0 → k = 0) := by
  have hstay : c.r = c.r ∧ ((0 : Int) = 0 ∨ (0 : Int) = 1) ∧ c.s = c.s - 0 ∧ (c.s ≤ 0 → (0 : Int) = 0) :=
    ⟨rfl, Or.inl rfl, (Int.sub_zero _).symm, fun _ => rfl⟩
  by_cases hs : c.s ≤ 0
  · rw [mech_disperserTo_nonpos mt c env sto pEst u hs] at h
    cases h
    exact hstay
  · rw [mech_disperserTo_pos mt c env sto pEst u (Int.not_le.mp hs)] at h
    cases hp : c.suitability env with
    | error e => rw [hp] at h; cases h
    | ok p =>
      rw [hp] at h
      change Except.ok (if _ then _ else _) = _ at h
      split at h <;> cases h
      · exact ⟨(mech_landed_s mt c).1, Or.inr rfl, (mech_landed_s mt c).2, fun h => absurd h hs⟩
      · exact hstay

/-- A treatment takes effect exactly once, at the step equal to its start; a pesticide ends
    exactly once, at its end step (later than the start); nothing happens at any other step. -/
theorem C10_when (t : TreatSpec) (hlt : t.pesticide = true → t.start < t.end_) (k : Nat) :
    (t.eventAt k = .apply ↔ k = t.start) ∧
    (t.eventAt k = .finish ↔ (t.pesticide = true ∧ k = t.end_)) ∧
    (t.eventAt k = .nothing ↔ (k ≠ t.start ∧ ¬ (t.pesticide = true ∧ k = t.end_))) := by
  unfold TreatSpec.eventAt
  have e1 : (k = t.start) ↔ (t.start = k) := eq_comm
  have e2 : (k = t.end_) ↔ (t.end_ = k) := eq_comm
  simp only [ne_eq, e1, e2]
  by_cases h1 : t.start = k <;> by_cases hp : t.pesticide = true <;> by_cases h2 : t.end_ = k <;>
    simp [h1, hp, h2]
  have := hlt hp; omega

/-- Treatments dated after a cleared step never run: they are no longer in the list, and every
    other treatment stays. -/
theorem C10_cleared_never_run (ts : List TreatSpec) (step : Nat) (t : TreatSpec) :
    t ∈ clearAfterStep ts step ↔ (t ∈ ts ∧ t.start ≤ step) := by
  unfold clearAfterStep
  simp only [List.mem_filter, Bool.not_eq_true', decide_eq_false_iff_not, Nat.not_lt]

example : ∃ c : Cell, c.nonNeg = true ∧ c.totalsOK = true ∧ c.mortOK = true ∧ c.i > 0 ∧ c.e ≠ [] :=
  ⟨⟨5, [1, 2], 3, 1, 3, [1, 2], 0, 12⟩, by decide⟩

end Pops
