/-
  C11, last sentence: rates and lags given per host in the pest-host table apply to that host only
  - stated from the configuration rows (`Config::read_pest_host_table`) through the table
  constructor `PestHostTable(config, environment)` to the pool-level mortality call.
-/
import PopsModel.Props.C16
namespace Pops

/-- With the pest-host table built from the configuration rows, the pool-level
    `apply_mortality_at(row, col)` leaves host `h` in exactly the state that host's own
    `apply_mortality_at(row, col, rate_h, lag_h)` produces with the rate and the (truncated) time lag
    of ROW `h` - no other row, and no global parameter, enters. -/
theorem C11_per_host (env : MEnv) (rows : List PestHostRow) (cells cells' : List Cell)
    (ht : env.pht = some (PestHostTable.ofConfig rows))
    (hm : multiApplyMortality env cells = .ok cells') (h : Nat) (hh : h < cells.length) :
    ∃ row, rows[h]? = some row ∧
      (cells[h]!).applyMortality row.rate (truncToInt row.lag) = .ok (cells'[h]!) := by
  obtain ⟨_, hall⟩ := (C16_per_host_mortality env cells cells').1 _ ht hm
  obtain ⟨rate, lag, hr, hl, happ⟩ := hall h hh
  simp only [PestHostTable.ofConfig, List.getElem?_map] at hr hl
  cases hrow : rows[h]? with
  | none => rw [hrow] at hr; cases hr
  | some row =>
    rw [hrow] at hr hl
    simp only [Option.map_some, Option.some.injEq] at hr hl
    exact ⟨row, rfl, by rw [hr, hl]; exact happ⟩

/-- Two hosts, rows (rate 1, lag 0) and (rate 1, lag 1): the first host's infected die, the second
    host's single cohort lies within its own lag and is untouched (with the first row's lag it would
    have died). -/
example :
    let c : Cell := { s := 0, e := [], i := 1, r := 0, te := 0, mort := [1], died := 0, th := 1 }
    let rows : List PestHostRow := [{ sus := 1, rate := 1, lag := 0 }, { sus := 1, rate := 1, lag := 1 }]
    let env : MEnv := { n := 1, w := none, pht := some (PestHostTable.ofConfig rows), comp := none }
    multiApplyMortality env [c, c] = .ok [{ c with i := 0, mort := [0], died := 1, th := 0 }, c] := by
  intro c rows env; rfl

end Pops
