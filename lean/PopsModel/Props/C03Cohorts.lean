/-
  C03, cohort part, over HISTORIES and WHOLE RUNS: "unless pest overpopulation movement is used,
  infected also equals the sum of the mortality cohorts, so that mortality can account for every
  infected host and never fails on a state the model itself produced".

  Props/C03.lean proves this for ONE action (`C03_cohorts_step_partial`, `C03_cohorts_move`) and
  proves `C03_mortality_never_fails` from `mortOK` of the current cell. Here `Land.cohortsOK` is
  carried along every history of actions, every run of generators, every model step and every whole
  run of a configuration with `useOverpop = false`, and `mortOK` of every cell a mortality
  operation meets is DERIVED from the initial landscape.

  Hypotheses, all taken along the run (Lemmas/C03Cohorts.lean, first section):
    * `DomainAlong` / `GensDomainAlong` / `RunDomainAlong`   the documented domain (as in C01-C02);
    * `op.keepsCohorts` for every operation (`LandOp.keepsCohorts`: everything except the two
      overpopulation primitives) - for model steps and runs this is derived from
      `cfg.useOverpop = false`;
    * `RoundingAlong` / `GensRoundingAlong` / `RunRoundingAlong`   finding F20: each RATIO
      treatment rounds consistently (`CellOp.roundingOK`, i.e. `roundingAgrees`) at the cell it is
      applied to. The condition is needed: `C03_cohorts_full_fails` (one action) and
      `C03_rounding_needed_for_mortality` below (a run in its domain, without overpopulation, whose
      mortality step ends in `runtime_error`). It is void when there is no ratio treatment
      (`C03_cohorts_history_no_ratio_treatments`).

  * `C03_cohorts_history`, `C03_cohorts_generators`, `C03_cohorts_model_step`, `C03_cohorts_run`
  * `C03_mortality_never_fails_along_history`, `C03_mortality_never_fails_along_run`,
    `C03_run_never_runtime_error`, `C03_runtime_error_only_from_mortality`
-/
import PopsModel.Lemmas.C03Cohorts
import PopsModel.Props.RunModel
namespace Pops

/-- Over any history of cohort-maintaining actions (any interleaving of establishment, latency
    steps, survival rate, lethal temperature, treatments, mortality, host moves; any draws) from a
    consistent landscape with `i = sum mort` in every cell, in the documented domain along the
    history and with consistently rounding ratio treatments along the history: `i = sum mort` holds
    in every cell afterwards. -/
theorem C03_cohorts_history (ops : List LandOp) (l l' : Land) (hinv : l.inv) (hu : l.uniform)
    (hc : l.cohortsOK) (hd : DomainAlong ops l) (hk : ∀ op ∈ ops, op.keepsCohorts = true)
    (hr : RoundingAlong ops l) (h : runOps ops l = .ok l') : l'.cohortsOK :=
  ((history_result ops l hinv hu hc hd hk hr).of_ok h).2.2

/-- Without ratio treatments in the history the rounding condition is void. -/
theorem C03_cohorts_history_no_ratio_treatments (ops : List LandOp) (l l' : Land) (hinv : l.inv)
    (hu : l.uniform) (hc : l.cohortsOK) (hd : DomainAlong ops l)
    (hk : ∀ op ∈ ops, op.keepsCohorts = true) (hnr : ∀ op ∈ ops, op.noRatioTreat = true)
    (h : runOps ops l = .ok l') : l'.cohortsOK :=
  C03_cohorts_history ops l l' hinv hu hc hd hk (roundingAlong_of_noRatio ops l hnr) h

/-- The same over any sequence of state-dependent actions (generators). -/
theorem C03_cohorts_generators (gens : List OpGen) (l l' : Land) (hinv : l.inv) (hu : l.uniform)
    (hc : l.cohortsOK) (hd : GensDomainAlong gens l) (hk : ∀ gen ∈ gens, KeepsCohortsGen gen)
    (hr : GensRoundingAlong gens l) (h : runGens gens l = .ok l') : l'.cohortsOK :=
  ((gens_result gens l hinv hu hc hd hk hr).of_ok h).2.2

/-- Per model step: for every configuration WITHOUT overpopulation movement, every combination of
    the other enabled and scheduled actions, every input and draw in the domain along the step:
    `i = sum mort` in every cell after `run_step`. -/
theorem C03_cohorts_model_step (cfg : StepCfg) (inp : StepInputs) (step : Nat) (l l' : Land)
    (hov : cfg.useOverpop = false) (hinv : l.inv) (hu : l.uniform) (hc : l.cohortsOK)
    (hd : GensDomainAlong (stepGens cfg inp step) l)
    (hr : GensRoundingAlong (stepGens cfg inp step) l)
    (h : runStepHosts cfg inp step l = .ok l') : l'.cohortsOK :=
  C03_cohorts_generators (stepGens cfg inp step) l l' hinv hu hc hd
    (stepGens_keepsCohorts cfg inp step hov) hr h

/-- Over whole runs: any number of steps, any first step, every step with its own inputs and
    draws: after the run, and after every prefix of it, `i = sum mort` in every cell. -/
theorem C03_cohorts_run (cfg : StepCfg) (inps : List StepInputs) (first : Nat) (l l' : Land)
    (hov : cfg.useOverpop = false) (hinv : l.inv) (hu : l.uniform) (hc : l.cohortsOK)
    (hd : RunDomainAlong cfg inps first l) (hr : RunRoundingAlong cfg inps first l)
    (h : runModel cfg inps first l = .ok l') :
    l'.cohortsOK ∧ ∀ k m, runModel cfg (inps.take k) first l = .ok m → m.cohortsOK := by
  refine ⟨((run_result cfg inps first l hov hinv hu hc hd hr).of_ok h).2.2, fun k m hm => ?_⟩
  have hsplit : inps.take k ++ inps.drop k = inps := List.take_append_drop k inps
  rw [← hsplit] at hd hr
  exact ((run_result cfg (inps.take k) first l hov hinv hu hc
    (runDomainAlong_append_left cfg _ _ first l hd)
    (runRoundingAlong_append_left cfg _ _ first l hr)).of_ok hm).2.2

/-- Mortality never fails on a state the history itself produced: wherever a mortality operation
    stands in a history of cohort-maintaining actions, it returns `.ok` at the landscape its
    predecessors left (never one of the two `runtime_error` branches of `apply_mortality_at`).
    `mortOK` of the cell it meets is derived, not assumed. -/
theorem C03_mortality_never_fails_along_history (pre post : List LandOp) (k : Nat) (rate : Rat)
    (lag : Int) (l m : Land) (hinv : l.inv) (hu : l.uniform) (hc : l.cohortsOK)
    (hd : DomainAlong (pre ++ .at k (.mortality rate lag) :: post) l)
    (hk : ∀ op ∈ pre, op.keepsCohorts = true)
    (hr : RoundingAlong (pre ++ .at k (.mortality rate lag) :: post) l)
    (hm : runOps pre l = .ok m) :
    ∃ m', (LandOp.at k (.mortality rate lag)).apply m = .ok m' := by
  induction pre generalizing l with
  | nil =>
    simp only [runOps] at hm; injection hm with hm; subst hm
    exact landOp_mortality_ok k rate lag l hinv hc hd.1
  | cons op rest ih =>
    simp only [runOps] at hm
    cases h1 : op.apply l with
    | error e => rw [h1] at hm; cases hm
    | ok l1 =>
      rw [h1] at hm
      have st := landOp_step op l l1 hinv hu hd.1 h1
      have hc1 := landOp_cohorts op l l1 hinv hu hc hd.1 (hk op (List.mem_cons_self ..)) hr.1 h1
      exact ih l1 st.inv st.uniform hc1 (hd.2 l1 h1)
        (fun o ho => hk o (List.mem_cons_of_mem _ ho)) (hr.2 l1 h1) hm

/-- Mortality never fails along a run: in a run of a configuration without overpopulation
    movement, whenever the run has reached a step `inp` (after the steps `a`, at landscape `m`) and
    within that step the actions before mortality have been executed (`gpre`, reaching `m2`), the
    whole mortality action - every one of its per-cell mortality operations - returns `.ok`. -/
theorem C03_mortality_never_fails_along_run (cfg : StepCfg) (a b : List StepInputs)
    (inp : StepInputs) (first : Nat) (l m m2 : Land) (gpre gpost : List OpGen)
    (hov : cfg.useOverpop = false) (hinv : l.inv) (hu : l.uniform) (hc : l.cohortsOK)
    (hd : RunDomainAlong cfg (a ++ inp :: b) first l)
    (hr : RunRoundingAlong cfg (a ++ inp :: b) first l)
    (hm : runModel cfg a first l = .ok m)
    (hsplit : stepGens cfg inp (first + a.length) =
      gpre ++ actionGen inp (first + a.length) .mortality :: gpost)
    (hm2 : runGens gpre m = .ok m2) :
    ∃ m3, runOps (actionGen inp (first + a.length) .mortality m2) m2 = .ok m3 := by
  obtain ⟨i1, i2, i3⟩ := (run_result cfg a first l hov hinv hu hc
    (runDomainAlong_append_left cfg _ _ first l hd)
    (runRoundingAlong_append_left cfg _ _ first l hr)).of_ok hm
  have hdB := (runDomainAlong_append_right cfg a (inp :: b) first l m hd hm).1
  have hrB := (runRoundingAlong_append_right cfg a (inp :: b) first l m hr hm).1
  have hkB := stepGens_keepsCohorts cfg inp (first + a.length) hov
  rw [hsplit] at hdB hrB hkB
  exact gens_mortality_ok gpre gpost _ m m2 i1 i2 i3 hdB
    (fun g hg => hkB g (List.mem_append_left _ hg)) hrB
    (actionGen_mortality_isMortality inp (first + a.length)) hm2

/-- In the model the `runtime_error` branches are mortality's only: no other cell operation
    returns that error. -/
theorem C03_runtime_error_only_from_mortality (op : CellOp) (c : Cell)
    (h : op.apply c = .error .runtime_error) : ∃ rate lag, op = .mortality rate lag :=
  (cellOp_error op c _ h).resolve_right (fun he => nomatch he)

/-- Hence such a run never ends in `runtime_error`: it either succeeds or stops with another
    error kind (`invalid_argument` from a suitability outside [0,1] or a treatment). -/
theorem C03_run_never_runtime_error (cfg : StepCfg) (inps : List StepInputs) (first : Nat)
    (l : Land) (hov : cfg.useOverpop = false) (hinv : l.inv) (hu : l.uniform) (hc : l.cohortsOK)
    (hd : RunDomainAlong cfg inps first l) (hr : RunRoundingAlong cfg inps first l) :
    runModel cfg inps first l ≠ .error .runtime_error :=
  (run_result cfg inps first l hov hinv hu hc hd hr).ne_runtime_error

/-- A history of cohort-maintaining actions in its domain succeeds or stops with
    `invalid_argument` (`history_result`): never with `runtime_error`. -/
theorem C03_history_never_runtime_error (ops : List LandOp) (l : Land) (hinv : l.inv)
    (hu : l.uniform) (hc : l.cohortsOK) (hd : DomainAlong ops l)
    (hk : ∀ op ∈ ops, op.keepsCohorts = true) (hr : RoundingAlong ops l) :
    runOps ops l ≠ .error .runtime_error :=
  (history_result ops l hinv hu hc hd hk hr).ne_runtime_error

/-! ### why the rounding condition is needed -/

/-- One action: `C03_cohorts_full_fails` (Props/C03.lean; mort = [1,1], i = 2, host removal with
    coefficient 1/2: the per-cohort shares round up to 1 + 1, the share of the total to 1).

    A run: a one-cell landscape, consistent, `i = sum mort`; a pesticide treatment with
    coefficient 1/2 (ratio application) followed by mortality with rate 1: both operations are in
    their documented domain all along, none is an overpopulation primitive - only the rounding
    condition fails (per-cohort shares round down to 0 + 0, the share of the total to 1). The
    treatment leaves i = 1 with cohorts [1, 1], and the mortality step throws `runtime_error`. -/
theorem C03_rounding_needed_for_mortality :
    let l : Land := [⟨2, [], 2, 0, 0, [1, 1], 0, 4⟩]
    let ops : List LandOp := [.at 0 (.pesticideTreat (1/2) .ratio), .at 0 (.mortality 1 0)]
    l.inv ∧ l.uniform ∧ l.cohortsOK ∧ DomainAlong ops l ∧ (∀ op ∈ ops, op.keepsCohorts = true) ∧
    ¬ RoundingAlong ops l ∧
    runOps [.at 0 (.pesticideTreat (1/2) .ratio)] l = .ok [⟨1, [], 1, 2, 0, [1, 1], 0, 4⟩] ∧
    runOps ops l = .error .runtime_error := by
  intro l ops
  have hrun : runOps ops l = .error .runtime_error := eq_error_of_failsWith (by decide +kernel)
  have hinv : l.inv := Land.inv_of_B _ (by decide)
  have hu : l.uniform := Land.uniform_of_B _ (by decide)
  have hc : l.cohortsOK := by decide
  have hd : DomainAlong ops l := domainAlong_of_B _ _ (by decide +kernel)
  have hk : ∀ op ∈ ops, op.keepsCohorts = true := by decide
  refine ⟨hinv, hu, hc, hd, hk, fun hr => ?_, eq_ok_of_yields (by decide +kernel), hrun⟩
  exact C03_history_never_runtime_error ops l hinv hu hc hd hk hr hrun

/-! ### a non-trivial instance: the SEI run of Props/RunModel.lean with overpopulation switched off

  Latency 1, a 1x2 landscape, four steps: survival rate + host-removal treatment (ratio 1/2) +
  mortality; a spread step (landings, latency step, a host movement from cell 1 to cell 0);
  survival rate + a removal treatment and a pesticide treatment (both ratio 1/2) + mortality;
  survival rate + end of the pesticide treatment. Three ratio treatments are applied, each rounds
  consistently at the cell it meets. -/

def cohSeiCfg : StepCfg := { runSeiCfg with useOverpop := false }

/-- `runSeiInp2` with the survival draws that fit the landscape this run reaches. -/
def cohSeiInp2 : StepInputs :=
  { runSeiInp2 with survivalDrawsI := [[0, 1], [0, 0]], survivalDrawsE := [[0, 0], [0, 0]] }

def cohSeiInps : List StepInputs := [runSeiInp0, runSeiInp1, cohSeiInp2, runSeiInp3]

def cohSeiLand1 : Land := [⟨7, [1, 0], 1, 0, 1, [1, 0], 0, 9⟩, ⟨7, [1, 0], 0, 0, 1, [0, 0], 1, 8⟩]
def cohSeiLand2 : Land := [⟨8, [1, 0], 2, 0, 1, [1, 1], 0, 11⟩, ⟨5, [0, 0], 1, 0, 0, [0, 1], 1, 6⟩]
def cohSeiLand3 : Land := [⟨5, [1, 0], 0, 4, 1, [0, 0], 1, 10⟩, ⟨2, [0, 0], 0, 0, 0, [0, 0], 1, 2⟩]
def cohSeiLand4 : Land := [⟨10, [0, 0], 0, 0, 0, [0, 0], 1, 10⟩, ⟨2, [0, 0], 0, 0, 0, [0, 0], 1, 2⟩]

theorem cohSei_cohorts0 : runSeiLand0.cohortsOK := by decide

theorem cohSei_run : runModel cohSeiCfg cohSeiInps 0 runSeiLand0 = .ok cohSeiLand4 :=
  eq_ok_of_yields (by decide +kernel)

theorem cohSei_run2 : runModel cohSeiCfg [runSeiInp0, runSeiInp1] 0 runSeiLand0 = .ok cohSeiLand2 :=
  eq_ok_of_yields (by decide +kernel)

theorem cohSei_domain : RunDomainAlong cohSeiCfg cohSeiInps 0 runSeiLand0 :=
  runDomainAlong_of_B _ _ _ _ (by decide +kernel)

theorem cohSei_rounding : RunRoundingAlong cohSeiCfg cohSeiInps 0 runSeiLand0 :=
  by decide +kernel

/-- What each step executes (no overpopulation in the spread step). -/
theorem cohSei_plans :
    (plan cohSeiCfg 0).map (·.1) = [.survival, .treatments, .mortality] ∧
    (plan cohSeiCfg 1).map (·.1) = [.spread, .stepForward, .movement, .treatments] ∧
    (plan cohSeiCfg 2).map (·.1) = [.survival, .treatments, .mortality] ∧
    (plan cohSeiCfg 3).map (·.1) = [.survival, .treatments] := by decide +kernel

/-- `C03_cohorts_run` at the instance: all hypotheses hold, the final landscape and the landscapes
    after 1, 2 and 3 steps have `i = sum mort` in both cells (cell 0 after the spread step:
    i = 2 = 1 + 1). -/
example :
    cohSeiCfg.useOverpop = false ∧ runSeiLand0.inv ∧ runSeiLand0.uniform ∧ runSeiLand0.cohortsOK ∧
    RunDomainAlong cohSeiCfg cohSeiInps 0 runSeiLand0 ∧
    RunRoundingAlong cohSeiCfg cohSeiInps 0 runSeiLand0 ∧
    runModel cohSeiCfg cohSeiInps 0 runSeiLand0 = .ok cohSeiLand4 ∧
    cohSeiLand4.cohortsOK ∧ cohSeiLand1.cohortsOK ∧ cohSeiLand2.cohortsOK ∧ cohSeiLand3.cohortsOK := by
  obtain ⟨h1, h2⟩ := C03_cohorts_run cohSeiCfg cohSeiInps 0 runSeiLand0 cohSeiLand4 rfl runSei_inv
    runSei_uniform cohSei_cohorts0 cohSei_domain cohSei_rounding cohSei_run
  exact ⟨rfl, runSei_inv, runSei_uniform, cohSei_cohorts0, cohSei_domain, cohSei_rounding,
    cohSei_run, h1,
    h2 1 cohSeiLand1 (eq_ok_of_yields (by decide +kernel)),
    h2 2 cohSeiLand2 cohSei_run2,
    h2 3 cohSeiLand3 (eq_ok_of_yields (by decide +kernel))⟩

/-- `C03_mortality_never_fails_along_run` at the instance, for the mortality action of step 2
    (after the steps 0 and 1 and, within step 2, after survival rate and the two treatments): the
    mortality action succeeds - one host of the oldest cohort of cell 0 dies. -/
example :
    ∃ m2 m3, runGens [actionGen cohSeiInp2 2 .survival, actionGen cohSeiInp2 2 .treatments]
        cohSeiLand2 = .ok m2 ∧
      runOps (actionGen cohSeiInp2 2 .mortality m2) m2 = .ok m3 ∧ m3 = cohSeiLand3 := by
  have hsplit : stepGens cohSeiCfg cohSeiInp2 (0 + [runSeiInp0, runSeiInp1].length) =
      [actionGen cohSeiInp2 2 .survival, actionGen cohSeiInp2 2 .treatments] ++
        actionGen cohSeiInp2 (0 + [runSeiInp0, runSeiInp1].length) .mortality :: [] := by
    have hp : (plan cohSeiCfg 2).map (·.1) = [.survival, .treatments, .mortality] := cohSei_plans.2.2.1
    have hs : stepGens cohSeiCfg cohSeiInp2 2 =
        ((plan cohSeiCfg 2).map (·.1)).map (actionGen cohSeiInp2 2) := by
      rw [List.map_map]; rfl
    show stepGens cohSeiCfg cohSeiInp2 2 = _
    rw [hs, hp]
    rfl
  have hm2 : runGens [actionGen cohSeiInp2 2 .survival, actionGen cohSeiInp2 2 .treatments]
      cohSeiLand2 = .ok [⟨5, [1, 0], 1, 4, 1, [1, 0], 0, 11⟩, ⟨2, [0, 0], 0, 0, 0, [0, 0], 1, 2⟩] :=
    eq_ok_of_yields (by decide +kernel)
  obtain ⟨m3, h3⟩ := C03_mortality_never_fails_along_run cohSeiCfg [runSeiInp0, runSeiInp1]
    [runSeiInp3] cohSeiInp2 0 runSeiLand0 cohSeiLand2 _ _ [] rfl runSei_inv runSei_uniform
    cohSei_cohorts0 cohSei_domain cohSei_rounding cohSei_run2 hsplit hm2
  refine ⟨_, m3, hm2, h3, ?_⟩
  have h3' : runOps (actionGen cohSeiInp2 2 .mortality
      [⟨5, [1, 0], 1, 4, 1, [1, 0], 0, 11⟩, ⟨2, [0, 0], 0, 0, 0, [0, 0], 1, 2⟩])
      [⟨5, [1, 0], 1, 4, 1, [1, 0], 0, 11⟩, ⟨2, [0, 0], 0, 0, 0, [0, 0], 1, 2⟩] = .ok cohSeiLand3 :=
    eq_ok_of_yields (by decide +kernel)
  have h3'' : runOps (actionGen cohSeiInp2 2 .mortality
      [⟨5, [1, 0], 1, 4, 1, [1, 0], 0, 11⟩, ⟨2, [0, 0], 0, 0, 0, [0, 0], 1, 2⟩])
      [⟨5, [1, 0], 1, 4, 1, [1, 0], 0, 11⟩, ⟨2, [0, 0], 0, 0, 0, [0, 0], 1, 2⟩] = .ok m3 := h3
  rw [h3'] at h3''
  injection h3'' with h
  exact h.symm

/-- `C03_run_never_runtime_error` at the instance. -/
example : runModel cohSeiCfg cohSeiInps 0 runSeiLand0 ≠ .error .runtime_error :=
  C03_run_never_runtime_error cohSeiCfg cohSeiInps 0 runSeiLand0 rfl runSei_inv runSei_uniform
    cohSei_cohorts0 cohSei_domain cohSei_rounding

/-- `C03_cohorts_history` and `C03_mortality_never_fails_along_history` on a history of cell
    operations: an establishment, the latency step, a ratio treatment that rounds consistently
    (it meets i = 5, mort = [2, 3]; coefficient 1/2: ceil 1 + ceil 3/2 = 3 = ceil 5/2), mortality (one
    host of the oldest cohort dies), a host move. -/
example :
    let l : Land := [⟨5, [1, 0], 4, 0, 1, [2, 2], 0, 10⟩, ⟨3, [0, 0], 0, 0, 0, [0, 0], 0, 3⟩]
    let pre : List LandOp := [.at 0 (.add .sei), .at 0 (.stepForward .sei 1 3),
      .at 0 (.simpleTreat (1/2) .ratio)]
    let post : List LandOp := [.move 0 1 2 ⟨1, 1, 0, 0⟩ [0, 0] [1, 0]]
    ∃ m l', runOps pre l = .ok m ∧ (∃ m', (LandOp.at 0 (.mortality (1/2) 0)).apply m = .ok m') ∧
      runOps (pre ++ .at 0 (.mortality (1/2) 0) :: post) l = .ok l' ∧ l'.cohortsOK ∧
      l' = [⟨1, [0, 0], 0, 0, 0, [0, 0], 1, 1⟩, ⟨4, [0, 0], 1, 0, 0, [1, 0], 0, 5⟩] := by
  intro l pre post
  have hinv : l.inv := Land.inv_of_B _ (by decide)
  have hu : l.uniform := Land.uniform_of_B _ (by decide)
  have hc : l.cohortsOK := by decide
  have hd : DomainAlong (pre ++ .at 0 (.mortality (1/2) 0) :: post) l :=
    domainAlong_of_B _ _ (by decide +kernel)
  have hr : RoundingAlong (pre ++ .at 0 (.mortality (1/2) 0) :: post) l :=
    by decide +kernel
  have hk : ∀ op ∈ pre ++ .at 0 (.mortality (1/2) 0) :: post, op.keepsCohorts = true := by decide
  have hm : runOps pre l = .ok [⟨2, [0, 0], 2, 0, 0, [1, 1], 0, 4⟩, ⟨3, [0, 0], 0, 0, 0, [0, 0], 0, 3⟩] :=
    eq_ok_of_yields (by decide +kernel)
  have hrun : runOps (pre ++ .at 0 (.mortality (1/2) 0) :: post) l =
      .ok [⟨1, [0, 0], 0, 0, 0, [0, 0], 1, 1⟩, ⟨4, [0, 0], 1, 0, 0, [1, 0], 0, 5⟩] :=
    eq_ok_of_yields (by decide +kernel)
  exact ⟨_, _, hm,
    C03_mortality_never_fails_along_history pre post 0 (1/2) 0 l _ hinv hu hc hd
      (fun op hop => hk op (List.mem_append_left _ hop)) hr hm,
    hrun, C03_cohorts_history _ l _ hinv hu hc hd hk hr hrun, rfl⟩

end Pops
