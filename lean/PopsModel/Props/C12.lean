/-
  C12  Establishment, weather and pest-removal rules follow their stated formulas.
  (The weather-coefficient part of C12, `C12_weather_range`, is in Props/C20.lean with the environment model.)
-/
import PopsModel.Model.HostOps
import PopsModel.Lemmas.HostMech
namespace Pops

/-- A landing disperser establishes exactly when a susceptible host is present and the tester
    (the uniform draw u, or 1 - establishment probability when stochasticity is off) is strictly
    below susceptible / total population x weather x susceptibility; the accepting draws are
    therefore exactly the interval [0, p). The cell changes by exactly one S -> E/I host iff it
    establishes.
    `hdom` (the cohort list of the model type is present) is not used by the proof but is kept on
    purpose: on an empty `mortality_tracker_vector_` (SI) / `exposed_` (SEI) `add_disperser_at`
    calls `.back()` on an empty vector (undefined behaviour), while the model's `addLast [] _ = []`
    is total. -/
theorem C12_establish_event (mt : ModelType) (c : Cell) (env : EnvCell) (sto : Bool) (pEst u p : Rat)
    (hdom : (mt = .si → c.mort ≠ []) ∧ (mt = .sei → c.e ≠ []))
    (hp : c.suitability env = .ok p) :
    ∃ c' k n, c.disperserTo mt env sto pEst u = .ok (c', k, n) ∧
      establishSpec c env sto pEst u k = true ∧ landingSpec mt c c' k = true ∧
      (k = 1 ↔ (c.s > 0 ∧ (if sto then u else 1 - pEst) < p)) := by
  have _ := hdom  -- domain of the C++ (see the doc comment), not needed by the model
  have h01 : ¬ (0 : Int) = 1 := by decide
  by_cases hs : c.s ≤ 0
  · have hn : ¬ (c.s > 0 ∧ (if sto then u else 1 - pEst) < p) := fun h => Int.not_le.mpr h.1 hs
    exact ⟨c, 0, 0, mech_disperserTo_nonpos mt c env sto pEst u hs,
      establishSpec_of_ok c env sto pEst u p 0 hp (if_neg hn).symm, mech_landingSpec_stay mt c,
      iff_of_false h01 hn⟩
  · have hs' : 0 < c.s := Int.not_le.mp hs
    have hd := mech_disperserTo_pos mt c env sto pEst u hs'
    rw [hp] at hd
    change _ = Except.ok (if canEstablish p sto pEst u then _ else _) at hd
    by_cases hc : (if sto then u else 1 - pEst) < p
    · rw [show canEstablish p sto pEst u = true from decide_eq_true hc, if_pos rfl] at hd
      exact ⟨_, 1, _, hd, establishSpec_of_ok c env sto pEst u p 1 hp (if_pos ⟨hs', hc⟩).symm,
        mech_landingSpec_landed mt c, iff_of_true rfl ⟨hs', hc⟩⟩
    · have hn : ¬ (c.s > 0 ∧ (if sto then u else 1 - pEst) < p) := fun h => hc h.2
      rw [show canEstablish p sto pEst u = false from decide_eq_false hc, if_neg Bool.false_ne_true] at hd
      exact ⟨_, 0, _, hd, establishSpec_of_ok c env sto pEst u p 0 hp (if_neg hn).symm,
        mech_landingSpec_stay mt c, iff_of_false h01 hn⟩

/-- Never when no susceptible host is present (and then no draw is consumed). -/
theorem C12_no_susceptible (mt : ModelType) (c : Cell) (env : EnvCell) (sto : Bool) (pEst u : Rat)
    (hs : c.s ≤ 0) : c.disperserTo mt env sto pEst u = .ok (c, 0, 0) := by
  exact mech_disperserTo_nonpos mt c env sto pEst u hs

/-- A suitability outside [0,1] is rejected with invalid_argument. -/
theorem C12_suitability_range_rejected (c : Cell) (env : EnvCell)
    (h : (c.s : Rat) / (env.n : Rat) * env.sus.getD 1 * env.w.getD 1 < 0 ∨
         (c.s : Rat) / (env.n : Rat) * env.sus.getD 1 * env.w.getD 1 > 1) :
    c.suitability env = .error .invalid_argument := by
  unfold Cell.suitability
  simp only [h, if_true]

/-- Lethal temperature at a cold cell: every infected host returns to susceptible, the mortality
    cohorts are emptied consistently, exposed hosts are untouched. (The derived totals need not be
    consistent: `totalsOK` is not a hypothesis.) -/
theorem C12_lethal (c : Cell) (d : List Int) (hn : c.nonNeg = true)
    (hm : c.mortOK = true) (hd : ValidDraw c.mort c.i d) :
    lethalSpec true c (c.removeAllInfected d) = true ∧ (c.removeAllInfected d).mortOK = true ∧
    (∀ x ∈ (c.removeAllInfected d).mort, x = 0) := by
  have hN := (nonNeg_iff c).mp hn
  have hm' := (mortOK_iff c).mp hm
  have hdom := hd.dom
  have hsum : sumL d = c.i := by rw [hd.sum, ← hm']; exact Int.min_self _
  by_cases hpos : c.i > 0
  · have hmort : (c.removeAllInfected d).mort = subL c.mort d := if_pos hpos
    -- the draw takes every infected host, so nothing is left in the cohorts
    have hs0 : sumL (subL c.mort d) = 0 := by rw [sumL_subL hdom.length_eq]; omega
    refine ⟨?_, ?_, ?_⟩
    · simp only [lethalSpec, if_true, hmort, hdom.subL_subL,
        validDrawB_of_valid c.mort d c.i hd, Bool.or_true, Bool.and_true, Bool.and_eq_true,
        decide_eq_true_eq]
      exact ⟨⟨⟨⟨⟨⟨Int.sub_self _, rfl⟩, rfl⟩, rfl⟩, rfl⟩, rfl⟩, rfl⟩
    · rw [mortOK_iff, hmort, hs0]; exact Int.sub_self _
    · rw [hmort]; exact eq_zero_of_sumL_eq_zero _ hdom.allNN_sub hs0
  · have hi0 : c.i = 0 := Int.le_antisymm (Int.not_lt.mp hpos) hN.i
    have hmort : (c.removeAllInfected d).mort = c.mort := if_neg hpos
    refine ⟨?_, ?_, ?_⟩
    · simp only [lethalSpec, if_true, hmort, beq_self_eq_true, Bool.and_true, Bool.and_eq_true,
        decide_eq_true_eq, Bool.or_eq_true]
      exact ⟨⟨⟨⟨⟨⟨⟨Int.sub_self _, rfl⟩, rfl⟩, rfl⟩, rfl⟩, rfl⟩, rfl⟩, Or.inl (Int.not_lt.mp hpos)⟩
    · rw [mortOK_iff, hmort, ← hm', hi0]; exact Int.sub_self _
    · rw [hmort]; exact eq_zero_of_sumL_eq_zero _ hN.mort (hm' ▸ hi0)

/-- Survival rate r < 1 keeps round(r x count) of the infected and of the exposed hosts and
    returns the rest to susceptible; r >= 1 changes nothing. No consistency of the cell
    (`nonNeg`, `totalsOK`, `mortOK`) is needed.
    `hd` (ratio in [0,1], valid cohort draws) is not used by the proof but is kept on purpose: it
    is what makes the cohorts the code draws from non-negative (`ValidDraw` bounds each draw by
    its cohort); on a negative cohort `draw_n_from_cohorts` calls `vector::insert` with a negative
    count (throws `std::length_error`), while the model is total. -/
theorem C12_survival (c : Cell) (ratio : Rat) (dI dE : List Int)
    (hd : (CellOp.survival ratio dI dE).inDomain c) (c' : Cell)
    (h : (CellOp.survival ratio dI dE).apply c = .ok c') :
    survivalSpec ratio c c' = true := by
  have _ := hd  -- domain of the C++ (see the doc comment), not needed by the model
  exact mech_C12_survival c ratio dI dE c' h

example : ∃ (c : Cell) (env : EnvCell) (p : Rat), c.s > 0 ∧ c.suitability env = .ok p :=
  ⟨⟨1, [], 0, 0, 0, [0], 0, 1⟩, ⟨1, none, none⟩, 1, by decide, by
    exact mech_C12_example⟩

end Pops
