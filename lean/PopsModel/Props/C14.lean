/-
  C14  The deterministic kernel allots dispersers in proportion to the kernel density.
  Lemmas used: Lemmas/Det.lean (core), Analysis/DetQuota.lean (ℚ, allotment), Analysis/DetLaws.lean
  (ℝ, quantiles). Props/C14Approx.lean is imported because the allotment theorems are proved there
  for a window summing to `1 + ε`; `C14_quota`, `C14_picks_in_window`, `C14_equal_share` are its
  theorems at `ε = 0`. The objects are the executable model definitions of Model/DetPick.lean,
  Model/Det.lean and Model/KernLaws.lean - the ones the driver runs at `TF.float` and compares with
  the C++ - instantiated at ℚ (allotment) and at `TF.real` (densities).

  Open findings recorded here:
   F21  the power-law quantile is not the inverse of the cdf of its density (`C14_quantile_powerlaw_fails`);
        exponential power and gamma with non-integer shape: numeric evidence only (driver);
   F23  two-sided laws with percentage < 1/2 have a negative quantile: the window does not exist
        (`C14_window` needs `0 ≤ dmax` for the centre; `C14_no_window_example`);
   F25  densities unbounded at the centre (driver, `Normalised`).
  Normal, log-normal and gamma quantiles are approximations by design: no theorem, numeric check only.
-/
import PopsModel.Lemmas.Det
import PopsModel.Model.DetPred
import PopsModel.Model.DetCtor
import PopsModel.Props.C14Approx
import PopsModel.Analysis.DetLaws
namespace Pops
open Pops.Det

/-- **Quota.** For every probability vector `p` (the normalised window, any size), every disperser
    count `N ≥ 1` and the scan-order arg-max of the model (initial value `init ≤ -1`; the code uses
    `-(2^31 - 1)`): after the `N` calls for one source cell `|k_c - N p_c| ≤ 1` for every window cell
    (`QuotaBound`), and at every moment `t ≤ N` no cell is a whole disperser ahead (`QuotaUpper`). -/
theorem C14_quota (p : List ℚ) (hp0 : ∀ x ∈ p, 0 ≤ x) (hp : p.sum = 1) (N : ℕ) (hN : 1 ≤ N)
    (init : ℚ) (hinit : init ≤ -1) :
    QuotaBound N p (runPicks ltQ subQ init (1 / N) N (Allot.fresh p)).counts 0 = true ∧
    ∀ t, t ≤ N → QuotaUpper N p (runPicks ltQ subQ init (1 / N) t (Allot.fresh p)).counts 0 = true :=
  C14_quota_approx p hp0 0 (exact_window hp N).1 N hN (exact_window hp N).2
    (by rw [mul_zero]; exact zero_le_one) init hinit

/-- Every one of the `N` calls lands in a window cell (the scan finds a maximum). -/
theorem C14_picks_in_window (p : List ℚ) (hp0 : ∀ x ∈ p, 0 ≤ x) (hp : p.sum = 1) (N : ℕ) (hN : 1 ≤ N)
    (init : ℚ) (hinit : init ≤ -1) (t : ℕ) (ht : t < N) :
    (pickStep ltQ subQ init (1 / N) (runPicks ltQ subQ init (1 / N) t (Allot.fresh p))).2.isSome = true :=
  C14_picks_in_window_approx p hp0 0 (exact_window hp N).1 N hN (exact_window hp N).2 init hinit t ht

/-- **Equal shares.** At every moment cells of equal normalised weight differ by at most one pick. -/
theorem C14_equal_share (p : List ℚ) (hp0 : ∀ x ∈ p, 0 ≤ x) (hp : p.sum = 1) (N : ℕ) (hN : 1 ≤ N)
    (init : ℚ) (hinit : init ≤ -1) (t : ℕ) (ht : t ≤ N) :
    EqualShareBound p (runPicks ltQ subQ init (1 / N) t (Allot.fresh p)).counts = true :=
  C14_equal_share_approx p hp0 0 (exact_window hp N).1 N hN (exact_window hp N).2 init hinit t ht

/-- **Mirror.** In a `rows × cols` window whose weights are mirror symmetric (as `C14_mirror_weight`
    shows for the model's window), mirror-image cells have received the same number of dispersers
    up to one, at every moment of the allotment. -/
theorem C14_mirror (rows cols : ℕ) (p : List ℚ) (hlen : p.length = rows * cols)
    (hsym : ∀ c, c < rows * cols → ∀ d ∈ mirrorCells rows cols c, p.getD c 0 = p.getD d 0)
    (hp0 : ∀ x ∈ p, 0 ≤ x) (hp : p.sum = 1) (N : ℕ) (hN : 1 ≤ N)
    (init : ℚ) (hinit : init ≤ -1) (t : ℕ) (ht : t ≤ N) :
    MirrorBound rows cols (runPicks ltQ subQ init (1 / N) t (Allot.fresh p)).counts = true :=
  mirror_of_equal_share rows cols p _ hlen hsym (C14_equal_share p hp0 hp N hN init hinit t ht)

/-- Mirror-image cells of the model's window have the same raw weight `abs (pdf (distance))`:
    the distance depends on `|mid - i|` only and `mid - (2 h - i) = -(mid - i)`. For every number type. -/
theorem C14_mirror_weight {α : Type} (T : TF α) (law : Law) (scale shape ns ew : α) (h w i j : ℕ)
    (hi : i ≤ 2 * h) (hj : j ≤ 2 * w) :
    rawWeight T law scale shape ns ew h w (2 * h - i) j = rawWeight T law scale shape ns ew h w i j ∧
    rawWeight T law scale shape ns ew h w i (2 * w - j) = rawWeight T law scale shape ns ew h w i j ∧
    rawWeight T law scale shape ns ew h w (2 * h - i) (2 * w - j) = rawWeight T law scale shape ns ew h w i j := by
  have e1 : ((h : Int) - ((2 * h - i : ℕ) : Int)) = -((h : Int) - (i : Int)) := by omega
  have e2 : ((w : Int) - ((2 * w - j : ℕ) : Int)) = -((w : Int) - (j : Int)) := by omega
  simp only [rawWeight, e1, e2, cellDist_neg_row, cellDist_neg_col, and_self]

/-- **Reset.** A call works on the restored window, with `1 / dispersers(row, col)`, iff the source
    cell differs from that of the previous call; otherwise it continues on the working copy. -/
theorem C14_reset {α : Type} (T : TF α) (K : Kernel α) (s : KState α) (row col n : Int)
    (hK : K.law.isSome = true) :
    ∃ s' cell, call T K s row col n = .ok (s', cell) ∧ s'.prevRow = row ∧ s'.prevCol = col ∧
      ((row, col) ≠ (s.prevRow, s.prevCol) →
        s'.delta = T.div (T.ofNat 1) (ofInt T n) ∧
        s'.copy = (pickStep T.ltb T.sub (detInit T) s'.delta { copy := K.prob, counts := [] }).1.copy) ∧
      ((row, col) = (s.prevRow, s.prevCol) →
        s'.delta = s.delta ∧
        s'.copy = (pickStep T.ltb T.sub (detInit T) s.delta { copy := s.copy, counts := [] }).1.copy) := by
  cases hl : K.law with
  | none => rw [hl] at hK; cases hK
  | some lw =>
    simp only [call, hl]
    refine ⟨_, _, rfl, rfl, rfl, fun hne => ?_, fun heq => ?_⟩
    · simp only [(sourceChanged_iff s row col).mpr hne, if_true, and_self]
    · have : sourceChanged s row col = false :=
        Bool.eq_false_iff.mpr fun hc => (sourceChanged_iff s row col).mp hc heq
      simp only [this, Bool.false_eq_true, if_false, and_self]

/-- **Afresh for every new source cell.** Whatever the earlier calls did, the working copy after
    `m + 1` calls for a new source cell is the one `runPicks` computes from the untouched window:
    `C14_quota`, `C14_equal_share` and `C14_mirror` (theorems about `runPicks`) apply to each run.
    The link is the shared definition `runPicks` only: this theorem is about `.copy` of
    `runPicks T.ltb T.sub` over any `TF α`, those are about `.counts` of `runPicks ltQ subQ` over ℚ,
    and no theorem instantiates the one at the other (`nv_C14_quota_built` in
    Props/NonVacuous/KernelsReal.lean does so for one built window). -/
theorem C14_fresh_run {α : Type} (T : TF α) (K : Kernel α) (s : KState α) (row col n : Int)
    (hK : K.law.isSome = true) (hne : (row, col) ≠ (s.prevRow, s.prevCol)) (cnt : List ℕ) (m : ℕ) :
    (callN T K row col n (m + 1) s).prevRow = row ∧ (callN T K row col n (m + 1) s).prevCol = col ∧
    (callN T K row col n (m + 1) s).delta = T.div (T.ofNat 1) (ofInt T n) ∧
    (callN T K row col n (m + 1) s).copy =
      (runPicks T.ltb T.sub (detInit T) (T.div (T.ofNat 1) (ofInt T n)) (m + 1)
        { copy := K.prob, counts := cnt }).copy := by
  induction m with
  | zero =>
    obtain ⟨s', cell, hc, h1, h2, hch, _⟩ := C14_reset T K s row col n hK
    obtain ⟨hd, hcopy⟩ := hch hne
    rw [callN_succ (m := 0) hc]
    exact ⟨h1, h2, hd, by rw [hcopy, hd]; exact pickStep_copy ..⟩
  | succ m ih =>
    obtain ⟨ih1, ih2, ih3, ih4⟩ := ih
    obtain ⟨s', cell, hc, h1, h2, _, hsame⟩ :=
      C14_reset T K (callN T K row col n (m + 1) s) row col n hK
    obtain ⟨hd, hcopy⟩ := hsame (by rw [ih1, ih2])
    rw [callN_succ hc]
    exact ⟨h1, h2, hd.trans ih3, by rw [hcopy, ih3, ih4]; exact pickStep_copy ..⟩

/-- **Window.** Over ℝ the window has `2 h + 1` cells per axis with `h = ⌈icdf pct / res⌉`, the least
    number of whole cells that reaches the quantile (`dmax ≤ h res`, `(h - 1) res < dmax`); rows use
    the north-south and columns the east-west resolution; for `dmax ≥ 0` the centre is cell `h`. -/
theorem C14_window (dmax ns ew : ℝ) (hns : 0 < ns) (hew : 0 < ew) :
    (windowDims TF.real dmax ns ew).1 = 2 * halfWidth TF.real dmax ns + 1 ∧
    (windowDims TF.real dmax ns ew).2 = 2 * halfWidth TF.real dmax ew + 1 ∧
    dmax ≤ (halfWidth TF.real dmax ns : ℝ) * ns ∧ ((halfWidth TF.real dmax ns : ℝ) - 1) * ns < dmax ∧
    dmax ≤ (halfWidth TF.real dmax ew : ℝ) * ew ∧ ((halfWidth TF.real dmax ew : ℝ) - 1) * ew < dmax ∧
    (0 ≤ dmax → Int.tdiv (windowDims TF.real dmax ns ew).1 2 = halfWidth TF.real dmax ns ∧
               Int.tdiv (windowDims TF.real dmax ns ew).2 2 = halfWidth TF.real dmax ew) :=
  ⟨Int.mul_comm _ 2 ▸ rfl, Int.mul_comm _ 2 ▸ rfl, (ceil_cells dmax ns hns).1, (ceil_cells dmax ns hns).2,
    (ceil_cells dmax ew hew).1, (ceil_cells dmax ew hew).2, fun h0 =>
    ⟨tdiv_centre _ (Int.ceil_nonneg (div_nonneg h0 hns.le)),
      tdiv_centre _ (Int.ceil_nonneg (div_nonneg h0 hew.le))⟩⟩

/-- **Distance.** A built kernel has `max_distance = icdf (percentage)` of its law, the dimensions of
    `C14_window`, and cell `(i, j)` carries `abs (pdf (sqrt ((|mid_row - i| ns)^2 + (|mid_col - j| ew)^2)))`
    divided by the sum over the window. For every number type. -/
theorem C14_distance {α : Type} (T : TF α) (lw : Law) (pct ew ns scale shape : α) (K : Kernel α)
    (h : build T (some lw) pct ew ns scale shape = .ok K) :
    lawIcdf T lw scale shape pct = .ok K.dmax ∧ (K.rows, K.cols) = windowDims T K.dmax ns ew ∧
    K.midRow = Int.tdiv K.rows 2 ∧ K.midCol = Int.tdiv K.cols 2 ∧
    ∀ i j : ℕ, i < K.rows.toNat → j < K.cols.toNat →
      ∃ raw v, rawWeights T lw scale shape ns ew K.rows.toNat K.cols.toNat K.midRow K.midCol = .ok raw ∧
        lawPdf T lw scale shape (cellDist T ns ew (K.midRow - i) (K.midCol - j)) = .ok v ∧
        K.prob[i * K.cols.toNat + j]? = some (T.div (T.abs v) (sumScan T raw)) := by
  obtain ⟨_, h2, h3, _, h5, h6, _⟩ := build_ok T lw pct ew ns scale shape K h
  exact ⟨h2, h3, h5, h6, fun i j hi hj => build_weight T lw pct ew ns scale shape K h i j hi hj⟩

/-! ### The quantile is the inverse of the cdf of the same density (closed-form laws) -/

theorem C14_quantile_cauchy (s : ℝ) (hs : 0 < s) :
    (∀ x, cauchyIcdf TF.real s (cauchyCdf TF.real s x) = x) ∧
    (∀ p, 0 < p → p < 1 → cauchyCdf TF.real s (cauchyIcdf TF.real s p) = p) ∧
    (∀ x, HasDerivAt (cauchyCdf TF.real s) (cauchyPdf TF.real s x) x) :=
  ⟨cauchy_icdf_cdf s hs.ne', cauchy_cdf_icdf s hs.ne', cauchy_hasDerivAt s⟩

theorem C14_quantile_exponential (b : ℝ) (hb : 0 < b) :
    (∀ x, exponentialIcdf TF.real b (exponentialCdf TF.real b x) = x) ∧
    (∀ p, 0 < p → p < 1 → exponentialCdf TF.real b (exponentialIcdf TF.real b p) = p) ∧
    (∀ x, HasDerivAt (exponentialCdf TF.real b) (exponentialPdf TF.real b x) x) :=
  ⟨exponential_icdf_cdf b hb.ne', fun p _ h1 => exponential_cdf_icdf b hb.ne' p h1, exponential_hasDerivAt b⟩

/-- Weibull with shape `a` and scale `b`, arguments in the class's order (after the repair F14 the
    quantile uses them consistently with the density). -/
theorem C14_quantile_weibull (a b : ℝ) (ha : 0 < a) (hb : 0 < b) :
    (∀ x, 0 ≤ x → weibullIcdf TF.real a b (weibullCdf TF.real a b x) = x) ∧
    (∀ p, 0 < p → p < 1 → weibullCdf TF.real a b (weibullIcdf TF.real a b p) = p) ∧
    (∀ x, 0 < x → HasDerivAt (weibullCdf TF.real a b) (weibullPdf TF.real a b x) x) :=
  ⟨weibull_icdf_cdf a b ha.ne' hb, weibull_cdf_icdf a b ha.ne' hb, weibull_hasDerivAt a b hb⟩

theorem C14_quantile_logistic (s : ℝ) (hs : 0 < s) :
    (∀ x, logisticIcdf TF.real s (logisticCdf TF.real s x) = x) ∧
    (∀ p, 0 < p → p < 1 → logisticCdf TF.real s (logisticIcdf TF.real s p) = p) ∧
    (∀ x, HasDerivAt (logisticCdf TF.real s) (logisticPdf TF.real s x) x) :=
  ⟨logistic_icdf_cdf s hs.ne', logistic_cdf_icdf s hs.ne', logistic_hasDerivAt s⟩

theorem C14_quantile_hyperbolic_secant (σ : ℝ) (hσ : 0 < σ) :
    (∀ x, hypsecIcdf TF.real σ (hypsecCdf TF.real σ x) = x) ∧
    (∀ p, 0 < p → p < 1 → hypsecCdf TF.real σ (hypsecIcdf TF.real σ p) = p) ∧
    (∀ x, HasDerivAt (hypsecCdf TF.real σ) (hypsecPdf TF.real σ x) x) :=
  ⟨hypsec_icdf_cdf σ hσ.ne', hypsec_cdf_icdf σ hσ.ne', hypsec_hasDerivAt σ hσ.ne'⟩

/-! ### F21 (open): the power-law quantile -/

/-- The full statement for the power law: its quantile inverts the cdf of its coded density. -/
def C14_quantile_powerlaw_full : Prop :=
  ∀ α xm p : ℝ, 1 < α → 0 < xm → 0 < p → p < 1 →
    powerlawCdf TF.real α xm (powerlawIcdf TF.real α xm p) = p

/-- `powerlawCdf` is the cdf of the coded density (so the defect is in the quantile). -/
theorem C14_powerlaw_cdf_of_density (α xm : ℝ) (hxm : 0 < xm) (x : ℝ) (hx : 0 ≤ x) :
    HasDerivAt (powerlawCdf TF.real α xm) (powerlawPdf TF.real α xm x) x := by
  rw [funext (powerlawCdf_real α xm), powerlawPdf_real]
  have hb : (x + xm) / xm ≠ 0 := (div_pos (add_pos_of_nonneg_of_pos hx hxm) hxm).ne'
  have h := ((((hasDerivAt_id' x).add_const xm).div_const xm).rpow_const (p := 1 - α) (Or.inl hb)).const_sub 1
  rw [sub_sub_cancel_left] at h
  exact h.congr_deriv (by ring)

/-- Counter-example (replayed on the C++ by `h_det witness`): `alpha = 2, xmin = 1, p = 1/2` gives
    `icdf = 2` and `cdf 2 = 2/3`. -/
theorem C14_quantile_powerlaw_fails : ¬ C14_quantile_powerlaw_full := by
  intro h
  have := h 2 1 (1 / 2) (by norm_num) (by norm_num) (by norm_num) (by norm_num)
  exact powerlaw_counterexample.2.2 this

/-- Neither does it invert the cdf of the unshifted Pareto density (`p = 1/4`: `icdf = 4`, cdf `3/4`). -/
theorem C14_quantile_powerlaw_pareto_fails :
    paretoCdf TF.real 2 1 (powerlawIcdf TF.real 2 1 (1 / 4)) ≠ 1 / 4 := by
  rw [powerlaw_counterexample_pareto.2]; norm_num

/-! ### F23 (open): no window below one half for the two-sided laws -/

/-- Cauchy, scale 3, percentage 1/4: the quantile is `-3` and the window of the model over ℝ has
    `-1 × -5` "cells" for resolutions `ns = 2`, `ew = 1`. (`h_det witness` replays these inputs on the
    C++: in double arithmetic `tan (-π/4)` is `-0.9999999999999999`, which gives `-1 × -3`.) -/
theorem C14_no_window_example :
    cauchyIcdf TF.real 3 (1 / 4) = -3 ∧ windowDims TF.real (-3) 2 1 = (-1, -5) := by
  constructor
  · rw [cauchyIcdf_real, show Real.pi * ((1 : ℝ) / 4 - 1 / 2) = -(Real.pi / 4) by ring, Real.tan_neg,
      Real.tan_pi_div_four]
    norm_num
  · have h2 : ⌈(-3 : ℝ) / 2⌉ = -1 := by rw [Int.ceil_eq_iff]; norm_num
    have h1 : ⌈(-3 : ℝ) / 1⌉ = -3 := by rw [Int.ceil_eq_iff]; norm_num
    show ((⌈(-3 : ℝ) / 2⌉ * 2 + 1, ⌈(-3 : ℝ) / 1⌉ * 2 + 1) : ℤ × ℤ) = (-1, -5)
    rw [h2, h1]
    rfl

/-! ### Parameters outside the domain are rejected -/

/-- **Constructor validation.** For every law, the constructor of its class (`lawCtorCheck`, the
    `if (...) throw` of each `*_kernel.hpp`) returns `invalid_argument` iff one of the parameters it
    validates is rejected by its check (`Law.scaleCheck`, `Law.shapeCheck`: `≤ 0` for `positive`, `= 0`
    for `nonzero`), and never any other error. Consequences: for the seven classes that validate
    with `<= 0` (Cauchy, exponential, Weibull, log-normal, logistic, gamma, exponential power) the
    constructor is rejected iff the scale - or, where the class has one, the shape - is `≤ 0`; for
    every law, parameters in the property's domain are accepted and a zero scale (zero `xmin` for the
    power law) is rejected. The normal and hyperbolic-secant classes accept a negative scale and the
    power law any `alpha` and a negative `xmin`: these are not validated by the code. -/
theorem C14_parameters_rejected (law : Law) (scale shape : ℚ) :
    (lawCtorCheck law scale shape = .error .invalid_argument ↔
        law.scaleCheck.rejects scale ∨ law.shapeCheck.rejects shape) ∧
    (∀ e, lawCtorCheck law scale shape = .error e → e = .invalid_argument) ∧
    (law.validatesPositivity = true →
        (lawCtorCheck law scale shape = .error .invalid_argument ↔
          scale ≤ 0 ∨ (law.usesShape = true ∧ shape ≤ 0))) ∧
    (ParamsInDomain law scale shape → lawCtorCheck law scale shape = .ok ()) ∧
    (law ≠ .powerlaw → lawCtorCheck law 0 shape = .error .invalid_argument) ∧
    (lawCtorCheck .powerlaw scale 0 = .error .invalid_argument) := by
  refine ⟨lawCtorCheck_error_iff, fun _ => lawCtorCheck_error_kind,
    fun hv => lawCtorCheck_error_iff.trans (Law.rejects_iff_of_validatesPositivity hv scale shape), ?_,
    fun hl => lawCtorCheck_error_iff.mpr (.inl (ParamCheck.rejects_zero (Law.scaleCheck_ne_unchecked hl))),
    lawCtorCheck_error_iff.mpr (.inr rfl)⟩
  -- in the domain the scale passes any check, and the shape passes or is not looked at
  rintro ⟨hs, hh⟩
  refine lawCtorCheck_ok_iff.mpr (not_or.mpr ⟨ParamCheck.not_rejects_of_pos _ hs, ?_⟩)
  cases hu : law.usesShape
  · rw [Law.shapeCheck_of_not_usesShape hu]; exact id
  · exact ParamCheck.not_rejects_of_pos _ (hh hu)

/-- Non-trivial instances: a Weibull scale of 2 with a shape of 0 is rejected because of the shape
    alone (the `||` of the guard), an exponential-power shape of exactly 0 is rejected (`<=`, not `<`),
    in-domain parameters are accepted, and a negative normal sigma is NOT rejected. -/
example : lawCtorCheck .weibull 2 0 = .error .invalid_argument ∧
    lawCtorCheck .weibull 0 2 = .error .invalid_argument ∧
    lawCtorCheck .exppower (3 / 2) 0 = .error .invalid_argument ∧
    lawCtorCheck .gamma (-1 / 2) 3 = .error .invalid_argument ∧
    lawCtorCheck .weibull 2 (3 / 2) = .ok () ∧ ParamsInDomain .weibull 2 (3 / 2) ∧
    lawCtorCheck .normal (-1) 1 = .ok () := by
  decide +kernel

example : (lawCtorCheck .weibull 2 0 = .error .invalid_argument) :=
  ((C14_parameters_rejected .weibull 2 0).2.2.1 rfl).mpr (Or.inr ⟨rfl, Rat.le_refl⟩)

/-! ### The hypotheses are satisfiable -/

example : QuotaBound 4 [1 / 2, 1 / 4, 1 / 4]
    (runPicks ltQ subQ (-2147483647) (1 / (4 : ℕ)) 4 (Allot.fresh [1 / 2, 1 / 4, 1 / 4])).counts 0 = true :=
  (C14_quota [1 / 2, 1 / 4, 1 / 4] (by decide +kernel) (by decide +kernel) 4 (by decide)
    (-2147483647) (by decide +kernel)).1

/-- A 1 × 3 window with symmetric weights: the mirror hypotheses hold. -/
example : MirrorBound 1 3
    (runPicks ltQ subQ (-2147483647) (1 / (5 : ℕ)) 3 (Allot.fresh [1 / 4, 1 / 2, 1 / 4])).counts = true :=
  C14_mirror 1 3 [1 / 4, 1 / 2, 1 / 4] rfl (by decide +kernel) (by decide +kernel) (by decide +kernel)
    5 (by decide) (-2147483647) (by decide +kernel) 3 (by decide)

/-- A supported kernel and a state whose previous source cell differs: `C14_fresh_run` applies. -/
example (K : Kernel Float) (hK : K.law = some .cauchy) :
    (callN TF.float K 2 3 7 1 (initState TF.float K)).prevRow = 2 :=
  (C14_fresh_run TF.float K (initState TF.float K) 2 3 7 (by rw [hK]; rfl) (by simp [initState]) [] 0).1

example : cauchyCdf TF.real 3 (cauchyIcdf TF.real 3 (9 / 10)) = 9 / 10 :=
  (C14_quantile_cauchy 3 (by norm_num)).2.1 _ (by norm_num) (by norm_num)

example : weibullCdf TF.real (3 / 2) 2 (weibullIcdf TF.real (3 / 2) 2 (9 / 10)) = 9 / 10 :=
  (C14_quantile_weibull (3 / 2) 2 (by norm_num) (by norm_num)).2.1 _ (by norm_num) (by norm_num)

end Pops
