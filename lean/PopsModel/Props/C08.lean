/-
  C08  Scheduled actions fire in exactly the intended steps; input indices agree.
  Property theorems only; helper lemmas are in PopsModel/Lemmas/Schedule.lean.
-/
import PopsModel.Lemmas.Schedule
import PopsModel.Props.C07
namespace Pops
open Date

/-- A yearly action fires in step `st` exactly when the step contains its (month, day) of some
    year. `st` is any well-formed step shorter than a year (`e.y ≤ s.y + 1`), in particular
    multi-week / multi-month steps that straddle a year boundary. `da ≤ 28`: a day that every
    month of every year has. -/
theorem C08_yearly (st : Step) (hwf : stepWF st = true) (hshort : st.e.y ≤ st.s.y + 1)
    (mo da : Int) (h1 : 1 ≤ mo) (h2 : mo ≤ 12) (h3 : 1 ≤ da) (h4 : da ≤ 28) :
    yearlyFires mo da st = true ↔ ∃ y : Int, st.contains ⟨y, mo, da⟩ = true := by
  obtain ⟨vs, ve, -⟩ := (stepWF_iff st).mp hwf
  constructor
  · intro h
    rcases Bool.or_eq_true _ _ ▸ h with h | h
    · exact ⟨_, h⟩
    · exact ⟨_, h⟩
  · rintro ⟨y, hy⟩
    have := (contains_iff_lex st _ (bounded_of_md y mo da h1 h2 h3 (by omega)) vs.bounded ve.bounded).mp hy
    have hy' : y = st.s.y ∨ y = st.e.y := by dsimp only at this; omega
    rcases hy' with rfl | rfl
    · exact Bool.or_eq_true _ _ ▸ .inl hy
    · exact Bool.or_eq_true _ _ ▸ .inr hy

/-- Exactly one step of a tiled calendar fires for each covered occurrence of the date. -/
theorem C08_yearly_once (start end_ : Date) (steps : List Step)
    (ht : TilesCalendar start end_ steps = true) (hshort : ∀ st ∈ steps, st.e.y ≤ st.s.y + 1)
    (mo da : Int) (h1 : 1 ≤ mo) (h2 : mo ≤ 12) (h3 : 1 ≤ da) (h4 : da ≤ 28) (y : Int)
    (a b : Step) (ha : steps.head? = some a) (hb : steps.getLast? = some b)
    (hlo : a.s.ord ≤ (⟨y, mo, da⟩ : Date).ord) (hhi : (⟨y, mo, da⟩ : Date).ord ≤ b.e.ord) :
    ∃ k : Nat, (∃ st : Step, steps[k]? = some st ∧ st.contains ⟨y, mo, da⟩ = true ∧
        (scheduleYearly steps mo da)[k]? = some true) ∧
      ∀ (j : Nat) (st' : Step), steps[j]? = some st' → st'.contains ⟨y, mo, da⟩ = true → j = k := by
  have hv : (⟨y, mo, da⟩ : Date).Valid := by
    refine ⟨h1, h2, h3, ?_⟩
    have := dim_ge (isLeap y) mo h1 h2
    show da ≤ dim (isLeap y) mo; omega
  obtain ⟨hdisj, _, hcov, _⟩ := C07_partition start end_ steps ht _ hv
  obtain ⟨k, st, hk, hc⟩ := hcov a b ha hb hlo hhi
  refine ⟨k, ⟨st, hk, hc, ?_⟩, fun j st' hj hc' => hdisj j k st' st hj hk hc' hc⟩
  have hmem := List.mem_of_getElem? hk
  have hwf : stepWF st = true := List.all_eq_true.mp (tiles_chain ht).1 st hmem
  simp only [scheduleYearly, List.getElem?_map, hk, Option.map_some, Option.some.injEq]
  exact (C08_yearly st hwf (hshort st hmem) mo da h1 h2 h3 h4).mpr ⟨y, hc⟩

/-- End-of-year schedule: fires exactly in the steps that contain a 31 December. -/
theorem C08_end_of_year (st : Step) (hwf : stepWF st = true) :
    endOfYearFires st = true ↔ ∃ y : Int, st.contains ⟨y, 12, 31⟩ = true := by
  obtain ⟨vs, ve, hle⟩ := (stepWF_iff st).mp hwf
  have bs := vs.bounded; have be := ve.bounded
  have bt : ∀ y, (⟨y, 12, 31⟩ : Date).Bounded := fun y => bounded_of_md y 12 31 (by decide) (by decide) (by decide) (by decide)
  simp only [endOfYearFires, Bool.or_eq_true, bne_iff_ne, ne_eq, Date.isLastDayOfYear, Bool.and_eq_true, beq_iff_eq,
    contains_iff_lex st _ (bt _) bs be]
  rw [ord_le_iff_lex bs be] at hle
  obtain ⟨s1, s2, s3, s4⟩ := bs; obtain ⟨e1, e2, e3, e4⟩ := be
  constructor
  · -- within one year the end must be 31 December; else the start year's is inside
    intro h
    by_cases hy : st.s.y = st.e.y
    · exact ⟨st.e.y, by omega⟩
    · exact ⟨st.s.y, by omega⟩
  · -- a 31 December not after the end, in the end's year, is the end
    rintro ⟨y, hy⟩; omega

/-- Monthly schedule: fires exactly in the steps that contain the last day of a month. -/
theorem C08_monthly (st : Step) (hwf : stepWF st = true) :
    monthlyFires st = true ↔ ∃ t : Date, t.Valid ∧ t.isLastDayOfMonth = true ∧ st.contains t = true := by
  obtain ⟨vs, ve, hle⟩ := (stepWF_iff st).mp hwf
  have bs := vs.bounded; have be := ve.bounded
  have hlex := (ord_le_iff_lex bs be).mp hle
  simp only [monthlyFires, Bool.or_eq_true, bne_iff_ne, ne_eq, Date.isLastDayOfMonth, beq_iff_eq]
  obtain ⟨s1, s2, s3, s4⟩ := vs; obtain ⟨e1, e2, e3, e4⟩ := ve
  constructor
  · -- within one month the end must be its last day; else the start's month ends inside
    intro h
    by_cases hsame : st.s.m = st.e.m ∧ st.s.y = st.e.y
    · exact ⟨st.e, ⟨e1, e2, e3, e4⟩, h.resolve_left (·.elim (· hsame.1) (· hsame.2)),
        (contains_iff_ord_bounded st _ be bs be).mpr ⟨hle, Int.le_refl _⟩⟩
    · have hg := dim_ge (isLeap st.s.y) st.s.m s1 s2
      have vt : (⟨st.s.y, st.s.m, dim (isLeap st.s.y) st.s.m⟩ : Date).Valid :=
        ⟨s1, s2, by show 1 ≤ dim _ _; omega, Int.le_refl _⟩
      exact ⟨_, vt, rfl, (contains_iff_lex st _ vt.bounded bs be).mpr (by dsimp only; omega)⟩
  · -- a month end inside a step of one month is not after the step's end, so it is the end
    rintro ⟨t, vt, hl, hc⟩
    rw [contains_iff_lex st t vt.bounded bs be] at hc
    by_cases hsame : st.s.m = st.e.m ∧ st.s.y = st.e.y
    · have hty : t.y = st.e.y ∧ t.m = st.e.m := by omega
      rw [hty.1, hty.2] at hl
      omega
    · exact .inl (Decidable.not_and_iff_not_or_not.mp hsame)

/-- Every-n-steps, every-step and final-step schedules. -/
theorem C08_nsteps (steps : List Step) (n : Nat) (i : Nat) (hi : i < steps.length) :
    (scheduleNSteps steps n)[i]? = some (decide ((i + 1) % n = 0)) ∧
    (scheduleNSteps steps 1)[i]? = some true ∧
    (scheduleEndOfSimulation steps)[i]? = some (decide (i + 1 = steps.length)) ∧
    (scheduleNSteps steps n).length = steps.length := by
  simp [scheduleNSteps, scheduleEndOfSimulation, hi, Nat.mod_one]

/-- Spread is scheduled exactly for steps whose first or last day falls in a season month. -/
theorem C08_spread (steps : List Step) (s e : Int) (i : Nat) (st : Step) (hi : steps[i]? = some st) :
    (scheduleSpread steps s e)[i]? =
      some (decide ((s ≤ st.s.m ∧ st.s.m ≤ e) ∨ (s ≤ st.e.m ∧ st.e.m ≤ e))) := by
  simp only [scheduleSpread, List.getElem?_map, hi, Option.map_some, monthInSeason, Bool.decide_or,
    Bool.decide_and]

/-- Frequency names: which builder they select and which combinations are rejected. -/
theorem C08_frequency (sc : Scheduler) (n : Nat) :
    (∀ f, f = "week" ∨ f = "weekly" →
        (scheduleFromString sc f n =
          if sc.unit = .day ∧ sc.n = 1 then .ok (scheduleNSteps sc.steps 7)
          else if (sc.unit = .day ∧ sc.n = 7) ∨ (sc.unit = .week ∧ sc.n = 1) then .ok (scheduleNSteps sc.steps 1)
          else .error .invalid_argument)) ∧
    (∀ f, f = "day" ∨ f = "daily" →
        (scheduleFromString sc f n =
          if sc.unit = .day ∧ sc.n = 1 then .ok (scheduleNSteps sc.steps 1) else .error .invalid_argument)) ∧
    (∀ f, f = "year" ∨ f = "yearly" → scheduleFromString sc f n = .ok (scheduleEndOfYear sc.steps)) ∧
    (∀ f, f = "month" ∨ f = "monthly" → scheduleFromString sc f n = .ok (scheduleMonthly sc.steps)) ∧
    scheduleFromString sc "final_step" n = .ok (scheduleEndOfSimulation sc.steps) ∧
    (∀ f, f = "every_step" ∨ f = "time_step" → scheduleFromString sc f n = .ok (scheduleNSteps sc.steps 1)) ∧
    (0 < n → scheduleFromString sc "every_n_steps" n = .ok (scheduleNSteps sc.steps n)) ∧
    scheduleFromString sc "every_n_steps" 0 = .error .invalid_argument ∧
    scheduleFromString sc "" n = .ok (List.replicate sc.steps.length false) := by
  refine ⟨?_, ?_, ?_, ?_, ?_, ?_, ?_, ?_, ?_⟩
  · -- the `match` on the unit and the nested `if` agree for each unit and `n = 1`, `n = 7`, other
    intro f hf
    rcases hf with rfl | rfl <;> simp [scheduleFromString] <;> cases sc.unit <;> simp <;>
      (by_cases h1 : sc.n = 1 <;> by_cases h7 : sc.n = 7 <;> simp [h1, h7] <;> omega)
  · intro f hf
    rcases hf with rfl | rfl <;> simp [scheduleFromString]
  · intro f hf; rcases hf with rfl | rfl <;> simp [scheduleFromString]
  · intro f hf; rcases hf with rfl | rfl <;> simp [scheduleFromString]
  · simp [scheduleFromString]
  · intro f hf; rcases hf with rfl | rfl <;> simp [scheduleFromString]
  · intro hn; simp [scheduleFromString]; omega
  · simp [scheduleFromString]
  · simp [scheduleFromString]

/-- Action indices: step `i` maps to the number of firings strictly before it, hence the k-th
    firing step maps to k-1; the map from firing steps to `[0, count)` is a bijection, where
    `count = numberOfScheduledActions` is the number of input rasters the caller must supply. -/
theorem C08_index_bijection (sched : List Bool) :
    (∀ i, i < sched.length → simulationStepToActionStep sched i = .ok (countTrue (sched.take i))) ∧
    (∀ i, sched.length ≤ i → simulationStepToActionStep sched i = .error .out_of_range) ∧
    (∀ i (hi : i < sched.length), sched[i] = true →
        countTrue (sched.take i) < numberOfScheduledActions sched ∧
        countTrue (sched.take (i + 1)) = countTrue (sched.take i) + 1) ∧
    (∀ i j (hi : i < sched.length) (_ : j < sched.length), i < j → sched[i] = true →
        countTrue (sched.take i) < countTrue (sched.take j)) ∧
    (∀ k, k < numberOfScheduledActions sched →
        ∃ (i : Nat) (hi : i < sched.length), sched[i] = true ∧ countTrue (sched.take i) = k) := by
  refine ⟨?_, ?_, ?_, ?_, ?_⟩
  · intro i hi; simp [simulationStepToActionStep, hi]
  · intro i hi; simp [simulationStepToActionStep]; omega
  · intro i hi ht
    have h1 := countTrue_take_succ sched i hi
    have h2 := countTrue_take_le sched (i + 1)
    simp only [ht, if_true] at h1
    exact ⟨by unfold numberOfScheduledActions; omega, h1⟩
  · intro i j hi hj hij ht
    have h1 := countTrue_take_succ sched i hi
    simp only [ht, if_true] at h1
    have h2 := countTrue_take_mono sched (j := i + 1) (k := j) (by omega)
    omega
  · intro k hk; exact countTrue_surj sched k hk

/-- Weather index of step i is i modulo the series length; an empty series is rejected. -/
theorem C08_weather (numSteps size : Nat) :
    (size = 0 → scheduleWeather numSteps size = .error .invalid_argument) ∧
    (0 < size → ∃ l, scheduleWeather numSteps size = .ok l ∧ l.length = numSteps ∧
        ∀ i, i < numSteps → l[i]? = some (i % size)) := by
  constructor
  · intro h; simp [scheduleWeather, h]
  · intro h
    have : size ≠ 0 := by omega
    refine ⟨_, by simp [scheduleWeather, this]; rfl, by simp, ?_⟩
    intro i hi; simp [hi]

/-- `Config::create_schedules`: which schedule every feature gets. Lethal temperature fires in the
    steps containing day 1 of its month, the survival rate in the steps containing its month/day
    (of some year; steps shorter than a year), mortality / spread rate / quarantine / output follow
    their frequency names, disabled features get no schedule, and the weather table is `i mod size`. -/
theorem C08_config_wiring (c : CalCfg) (s : Schedules) (h : createSchedules c = .ok s) :
    ∃ sc : Scheduler, Scheduler.make c.start c.end_ c.unit c.n = .ok sc ∧ s.steps = sc.steps ∧
      s.spread = scheduleSpread sc.steps c.seasonStart c.seasonEnd ∧
      scheduleFromString sc c.outFreq c.outN = .ok s.output ∧
      s.lethal = (if c.useLethal then some (scheduleYearly sc.steps c.lethalMonth 1) else none) ∧
      s.survival = (if c.useSurvival then some (scheduleYearly sc.steps c.survMonth c.survDay) else none) ∧
      (c.useMortality = true → ∃ m, scheduleFromString sc c.mortFreq c.mortN = .ok m ∧ s.mortality = some m) ∧
      (c.useMortality = false → s.mortality = none) ∧
      (c.useRates = true → ∃ m, scheduleFromString sc c.ratesFreq c.ratesN = .ok m ∧ s.rates = some m) ∧
      (c.useRates = false → s.rates = none) ∧
      (c.useQuarantine = true → ∃ m, scheduleFromString sc c.quarFreq c.quarN = .ok m ∧ s.quarantine = some m) ∧
      (c.useQuarantine = false → s.quarantine = none) ∧
      (c.weatherSize = 0 → s.weather = none) := by
  obtain ⟨sc, hsc, e1, e2, ho, hm, e3, e4, hr, hq, hw⟩ := createSchedules_ok h
  exact ⟨sc, hsc, e1, e2, ho, e3, e4, (optSched_ok hm).1, (optSched_ok hm).2, (optSched_ok hr).1,
    (optSched_ok hr).2, (optSched_ok hq).1, (optSched_ok hq).2, hw⟩

/-- Non-vacuity: a two-week step straddling the year boundary is well-formed, shorter than a
    year, and both the yearly (1 January) and the end-of-year schedule fire in it. -/
example : let st : Step := ⟨⟨2019, 12, 24⟩, ⟨2020, 1, 7⟩⟩
    stepWF st = true ∧ st.e.y ≤ st.s.y + 1 ∧ yearlyFires 1 1 st = true ∧ endOfYearFires st = true ∧
    monthlyFires st = true := by decide

/-- Each name-built schedule depends on its *own* frequency string and `n` only: two configurations
    with the same calendar that agree on the quarantine switch, frequency and `n` get the same
    quarantine schedule, whatever frequencies and `n` the output, mortality and spread-rate
    schedules use (seeded change C09k: a cache keyed by the frequency string alone); likewise for
    mortality and the spread rate. -/
theorem C08_config_own_n (c c' : CalCfg) (s s' : Schedules)
    (h : createSchedules c = .ok s) (h' : createSchedules c' = .ok s')
    (hcal : c'.start = c.start ∧ c'.end_ = c.end_ ∧ c'.unit = c.unit ∧ c'.n = c.n) :
    (c'.useQuarantine = c.useQuarantine → c'.quarFreq = c.quarFreq → c'.quarN = c.quarN → s'.quarantine = s.quarantine) ∧
    (c'.useMortality = c.useMortality → c'.mortFreq = c.mortFreq → c'.mortN = c.mortN → s'.mortality = s.mortality) ∧
    (c'.useRates = c.useRates → c'.ratesFreq = c.ratesFreq → c'.ratesN = c.ratesN → s'.rates = s.rates) := by
  obtain ⟨sc, hsc, -, -, -, hm, -, -, hr, hq, -⟩ := createSchedules_ok h
  obtain ⟨sc', hsc', -, -, -, hm', -, -, hr', hq', -⟩ := createSchedules_ok h'
  obtain ⟨e1, e2, e3, e4⟩ := hcal
  rw [e1, e2, e3, e4, hsc] at hsc'
  cases hsc'
  refine ⟨fun hu hf hn => ?_, fun hu hf hn => ?_, fun hu hf hn => ?_⟩
  · rw [hu, hf, hn, hq] at hq'; exact (Except.ok.inj hq').symm
  · rw [hu, hf, hn, hm] at hm'; exact (Except.ok.inj hm').symm
  · rw [hu, hf, hn, hr] at hr'; exact (Except.ok.inj hr').symm

end Pops
