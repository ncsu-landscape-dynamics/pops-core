/-
  C17, several groups of pests arriving at the same destination: definitions and lemmas (`agg_`) for
  Props/C17Aggregate.lean. The cell after all arrivals is read off the loop lemma `updFold_getElem!`
  and the fold of the groups at one cell (`agg_pestsTo_fold`).
-/
import PopsModel.Model.OverpopSpec
import PopsModel.Lemmas.Actions
import PopsModel.Lemmas.C17General
namespace Pops

/-- Total number of pests heading for the cell with flat index `k`: the sum of the counts of the
    pending moves whose target has that flat index. -/
def arrivingAt (g : Grid) (ms : List (Int × Int × Int)) (k : Nat) : Int :=
  sumL ((ms.filter fun m => g.idx m.1 m.2.1 == k).map (·.2.2))

/-- Total number of pests heading for the cell (r, c): the sum of the counts of the pending moves
    whose target is exactly that cell. -/
def arrivingAtRC (ms : List (Int × Int × Int)) (r c : Int) : Int :=
  sumL ((ms.filter fun m => m.1 == r && m.2.1 == c).map (·.2.2))

/-- One arrival, the step function of `arriveAll`. -/
def arriveOne (g : Grid) (cs : List Cell) (m : Int × Int × Int) : List Cell :=
  cs.set (g.idx m.1 m.2.1) ((cs[g.idx m.1 m.2.1]!).pestsTo m.2.2).1

theorem agg_arriveAll_eq (g : Grid) (ms : List (Int × Int × Int)) (cells : List Cell) :
    arriveAll g ms cells = ms.foldl (arriveOne g) cells := rfl

/-- A WRONG second phase, for the refutation `C17_dropping_second_group_differs`: the moves are first
    put into a table keyed by the destination, an entry for an already present key being dropped
    (`std::map::emplace`); `seen` holds the keys already present. -/
def firstPerDestination : List (Int × Int × Int) → List (Int × Int) → List (Int × Int × Int)
  | [], _ => []
  | m :: rest, seen =>
    if (m.1, m.2.1) ∈ seen then firstPerDestination rest seen
    else m :: firstPerDestination rest ((m.1, m.2.1) :: seen)

/-- Arrivals with only the first move per destination applied. -/
def arriveFirstOnly (g : Grid) (moves : List (Int × Int × Int)) (cells : List Cell) : List Cell :=
  arriveAll g (firstPerDestination moves []) cells

theorem agg_pestsTo_eq (c : Cell) (k : Int) :
    (c.pestsTo k).1 = { c with s := c.s - min k c.s, i := c.i + min k c.s } ∧ (c.pestsTo k).2 = min k c.s := by
  -- the cell is the old one with the accepted number moved from susceptible to infected
  have m := (act_pestsTo_min c k).1
  refine ⟨?_, m⟩
  rw [← m]
  unfold Cell.pestsTo
  split <;> rfl

theorem agg_pestsTo_frame (c : Cell) (k : Int) :
    (c.pestsTo k).1.e = c.e ∧ (c.pestsTo k).1.r = c.r ∧ (c.pestsTo k).1.te = c.te ∧
    (c.pestsTo k).1.mort = c.mort ∧ (c.pestsTo k).1.died = c.died ∧ (c.pestsTo k).1.th = c.th := by
  rw [(agg_pestsTo_eq c k).1]
  exact ⟨rfl, rfl, rfl, rfl, rfl, rfl⟩

/-- What establishes of two groups, the second finding what the first left, is what establishes of
    one group of the total size (cases: the first fits and the second too, the first fits and the
    second not, the first does not fit). -/
theorem agg_min_two_groups (s k1 k2 : Int) (h : k1 ≤ s ∨ 0 ≤ k2) :
    min k1 s + min k2 (s - min k1 s) = min (k1 + k2) s := by
  by_cases h1 : k1 ≤ s
  · rw [Int.min_eq_left h1]
    by_cases h2 : k2 ≤ s - k1
    · rw [Int.min_eq_left h2, Int.min_eq_left (by omega)]
    · rw [Int.min_eq_right (by omega), Int.min_eq_right (by omega)]; omega
  · rw [Int.min_eq_right (Int.le_of_lt (Int.not_le.mp h1)), Int.sub_self, Int.min_eq_right (h.resolve_left h1),
      Int.min_eq_right (by omega), Int.add_zero]

theorem agg_pestsTo_pestsTo (c : Cell) (k1 k2 : Int) (h : k1 ≤ c.s ∨ 0 ≤ k2) :
    ((c.pestsTo k1).1.pestsTo k2).1 = (c.pestsTo (k1 + k2)).1 ∧
    (c.pestsTo k1).2 + ((c.pestsTo k1).1.pestsTo k2).2 = (c.pestsTo (k1 + k2)).2 := by
  rw [(agg_pestsTo_eq (c.pestsTo k1).1 k2).1, (agg_pestsTo_eq (c.pestsTo k1).1 k2).2,
    (agg_pestsTo_eq c (k1 + k2)).1, (agg_pestsTo_eq c (k1 + k2)).2,
    (agg_pestsTo_eq c k1).1, (agg_pestsTo_eq c k1).2]
  have e := agg_min_two_groups c.s k1 k2 h
  refine ⟨?_, e⟩
  show ({ c with s := c.s - min k1 c.s - min k2 (c.s - min k1 c.s),
                 i := c.i + min k1 c.s + min k2 (c.s - min k1 c.s) } : Cell) = _
  rw [← e, Int.sub_sub, Int.add_assoc]

theorem agg_pestsTo_zero (c : Cell) (h : 0 ≤ c.s) : (c.pestsTo 0).1 = c := by
  rw [(agg_pestsTo_eq c 0).1]
  have e : min 0 c.s = 0 := by omega
  rw [e]
  cases c
  simp only [Int.sub_zero, Int.add_zero]

theorem agg_pestsTo_fold (ks : List Int) (hk : ∀ x ∈ ks, 0 ≤ x) :
    ∀ (c : Cell) (k0 : Int),
      ks.foldl (fun (d : Cell) x => (d.pestsTo x).1) (c.pestsTo k0).1 = (c.pestsTo (k0 + sumL ks)).1 := by
  induction ks with
  | nil => intro c k0; simp only [List.foldl_nil, sumL_nil, Int.add_zero]
  | cons x rest ih =>
    intro c k0
    rw [List.foldl_cons, (agg_pestsTo_pestsTo c k0 x (Or.inr (hk x List.mem_cons_self))).1,
      ih (fun y hy => hk y (List.mem_cons_of_mem _ hy)) c (k0 + x), sumL_cons, Int.add_assoc]

theorem agg_arriveAll_length (g : Grid) (ms : List (Int × Int × Int)) (cells : List Cell) :
    (arriveAll g ms cells).length = cells.length :=
  updFold_length (fun m : Int × Int × Int => g.idx m.1 m.2.1) (fun m (c : Cell) => (c.pestsTo m.2.2).1) ms cells

theorem agg_counts_nonneg (g : Grid) (ms : List (Int × Int × Int)) (k : Nat) (hc : ∀ m ∈ ms, 0 ≤ m.2.2) :
    ∀ x ∈ (ms.filter fun m => g.idx m.1 m.2.1 == k).map (·.2.2), 0 ≤ x := by
  intro x hx
  obtain ⟨m, hm, rfl⟩ := List.mem_map.mp hx
  exact hc m (List.mem_filter.mp hm).1

theorem agg_arrivingAt_nil (g : Grid) (k : Nat) : arrivingAt g [] k = 0 := rfl

theorem agg_arrivingAt_cons_self (g : Grid) (m : Int × Int × Int) (ms : List (Int × Int × Int)) (k : Nat)
    (he : g.idx m.1 m.2.1 = k) : arrivingAt g (m :: ms) k = m.2.2 + arrivingAt g ms k := by
  unfold arrivingAt
  rw [List.filter_cons_of_pos (by rw [he]; exact beq_self_eq_true k), List.map_cons, sumL_cons]

theorem agg_arrivingAt_cons_ne (g : Grid) (m : Int × Int × Int) (ms : List (Int × Int × Int)) (k : Nat)
    (he : g.idx m.1 m.2.1 ≠ k) : arrivingAt g (m :: ms) k = arrivingAt g ms k := by
  unfold arrivingAt
  rw [List.filter_cons_of_neg (by simpa using he)]

theorem agg_arrivingAt_nonneg (g : Grid) (ms : List (Int × Int × Int)) (k : Nat) (hc : ∀ m ∈ ms, 0 ≤ m.2.2) :
    0 ≤ arrivingAt g ms k :=
  sumL_nonneg (agg_counts_nonneg g ms k hc)

/-- The cell with flat index `k` after all arrivals: it has received the groups aimed at it one
    after the other, which is one arrival of their total. -/
theorem agg_arriveAll_get (g : Grid) (ms : List (Int × Int × Int)) (cells : List Cell) (k : Nat)
    (hc : ∀ m ∈ ms, 0 ≤ m.2.2) (hk : k < cells.length) (hs : 0 ≤ (cells[k]!).s) :
    (arriveAll g ms cells)[k]! = ((cells[k]!).pestsTo (arrivingAt g ms k)).1 := by
  have h := agg_pestsTo_fold _ (agg_counts_nonneg g ms k hc) (cells[k]!) 0
  rw [agg_pestsTo_zero _ hs, Int.zero_add, List.foldl_map] at h
  exact (updFold_getElem! (fun m : Int × Int × Int => g.idx m.1 m.2.1) (fun m (c : Cell) => (c.pestsTo m.2.2).1) ms cells k hk).trans h

theorem agg_arrivingAt_rc (g : Grid) (ms : List (Int × Int × Int)) (r c : Int)
    (hin : ∀ m ∈ ms, g.isOutside m.1 m.2.1 = false) (hrc : g.isOutside r c = false) :
    arrivingAt g ms (g.idx r c) = arrivingAtRC ms r c := by
  unfold arrivingAt arrivingAtRC
  congr 2
  apply List.filter_congr
  intro m hm
  rw [Bool.eq_iff_iff, beq_iff_eq, Bool.and_eq_true, beq_iff_eq, beq_iff_eq]
  constructor
  · intro he
    have := act_idx_inj g m.1 m.2.1 r c (hin m hm) hrc he
    exact ⟨congrArg Prod.fst this, congrArg Prod.snd this⟩
  · rintro ⟨a, b⟩
    rw [a, b]

theorem agg_arriveOne_comm (g : Grid) (cs : List Cell) (x y : Int × Int × Int) (hx : 0 ≤ x.2.2) (hy : 0 ≤ y.2.2) :
    arriveOne g (arriveOne g cs x) y = arriveOne g (arriveOne g cs y) x := by
  by_cases he : g.idx x.1 x.2.1 = g.idx y.1 y.2.1
  · by_cases hk : g.idx x.1 x.2.1 < cs.length
    · unfold arriveOne
      rw [← he, act_getElem!_set_self _ _ hk, act_getElem!_set_self _ _ hk, List.set_set, List.set_set,
        (agg_pestsTo_pestsTo _ x.2.2 y.2.2 (Or.inr hy)).1, (agg_pestsTo_pestsTo _ y.2.2 x.2.2 (Or.inr hx)).1,
        Int.add_comm]
    · have n1 : ∀ a : Cell, cs.set (g.idx x.1 x.2.1) a = cs := fun a => List.set_eq_of_length_le (by omega)
      unfold arriveOne
      rw [← he, List.set_set, List.set_set, n1, n1]
  · unfold arriveOne
    rw [act_getElem!_set_ne cs _ (Ne.symm he), act_getElem!_set_ne cs _ he, List.set_comm _ _ he]

theorem agg_arriveAll_perm (g : Grid) (ms ms' : List (Int × Int × Int)) (cells : List Cell)
    (hp : ms'.Perm ms) (hc : ∀ m ∈ ms, 0 ≤ m.2.2) :
    arriveAll g ms' cells = arriveAll g ms cells := by
  rw [agg_arriveAll_eq, agg_arriveAll_eq]
  exact (hp.symm.foldl_eq' (fun x hx y hy z => agg_arriveOne_comm g z x y (hc x hx) (hc y hy)) cells).symm

theorem agg_leavingCount_nonneg (thr leaving : Rat) (c : Cell) (h0 : 0 ≤ leaving) (hd : departs thr c = true) :
    0 ≤ leavingCount leaving c := by
  have hi := ((act_departs_iff thr c).mp hd).1
  unfold leavingCount
  apply lround_nonneg
  have : (0 : Rat) ≤ (c.i : Rat) := by
    have : (0 : Int) ≤ c.i := by omega
    exact_mod_cast this
  exact Rat.mul_nonneg this h0

theorem agg_pending_nonneg (g : Grid) (thr leaving : Rat) (suit : List (Int × Int)) (cells : List Cell)
    (ts : List (Int × Int)) (h0 : 0 ≤ leaving) :
    ∀ m ∈ overPending g leaving cells (overPairs g thr suit cells ts), 0 ≤ m.2.2 := by
  intro m hm
  unfold overPending at hm
  obtain ⟨pr, hpr, he⟩ := List.mem_filterMap.mp hm
  by_cases ho : g.isOutside pr.2.1 pr.2.2 = true
  · simp only [ho, if_true, reduceCtorEq] at he
  · simp only [ho, if_false, Option.some.injEq, Bool.false_eq_true] at he
    rw [← he]
    exact agg_leavingCount_nonneg thr leaving _ h0 (over_mem_pairs g thr suit cells ts pr hpr).2.1

theorem agg_departed_cell (g : Grid) (thr leaving : Rat) (suit : List (Int × Int)) (cells : List Cell)
    (ts : List (Int × Int)) (hnd : (suit.map fun rc => g.idx rc.1 rc.2).Nodup) (h0 : 0 ≤ leaving) (k : Nat) :
    let d := (overDeparted g leaving cells (overPairs g thr suit cells ts))[k]!
    (cells[k]!).s ≤ d.s ∧ d.e = (cells[k]!).e ∧ d.r = (cells[k]!).r ∧ d.te = (cells[k]!).te ∧
    d.mort = (cells[k]!).mort ∧ d.died = (cells[k]!).died ∧ d.th = (cells[k]!).th := by
  intro d
  rcases over_departed_cell g thr leaving suit cells ts hnd k with h | ⟨hd, h⟩
  · rw [show d = cells[k]! from h]
    exact ⟨Int.le_refl _, rfl, rfl, rfl, rfl, rfl, rfl⟩
  · rw [show d = _ from h]
    have := agg_leavingCount_nonneg thr leaving (cells[k]!) h0 hd
    exact ⟨Int.le_add_of_nonneg_right this, rfl, rfl, rfl, rfl, rfl, rfl⟩

end Pops
