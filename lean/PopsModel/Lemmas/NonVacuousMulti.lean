/-
  Helpers for the non-vacuity audit Props/NonVacuous/Multi.lean (C16, C18, C18List, C19):
  decision procedures that let concrete instances be checked by `decide +kernel`.
-/
import PopsModel.Props.C16
import PopsModel.Props.C18
import PopsModel.Props.C18List
import PopsModel.Props.C19
namespace Pops

/-- `ValidDraw` is a bounded statement, hence decidable. -/
@[instance_reducible] def nvmDecValidDraw (cohorts : List Int) (n : Int) (d : List Int) : Decidable (ValidDraw cohorts n d) := by
  unfold ValidDraw; exact inferInstance

@[instance_reducible] def nvmDecValidSplit (avail : List Int) (count : Int) (d : List Int) : Decidable (ValidSplit avail count d) :=
  nvmDecValidDraw avail (toUnsigned count) d

/-- `InRange` is a conjunction of integer comparisons. -/
@[instance_reducible] def nvmDecInRange (rows cols : Int) (c : Metric.Cell) : Decidable (Metric.InRange rows cols c) := by
  unfold Metric.InRange; exact inferInstance

/-- A cover hypothesis over all index pairs follows from the bounded one over `allCells`. -/
theorem nvm_cover_of_allCells (rows cols : Int) (inf : Metric.IRaster) (cells : List Metric.Cell)
    (h : ∀ c ∈ Metric.allCells rows cols, inf.at c.1 c.2 > 0 → c ∈ cells) :
    ∀ i j, Metric.InRange rows cols (i, j) → inf.at i j > 0 → (i, j) ∈ cells :=
  fun i j hr hi => h (i, j) (Metric.mem_allCells.mpr hr) hi

end Pops
