/-
  Lemmas for the quarantine metrics of C18. The constructor's id -> box table holds the definitional
  bounding box of each area; `closest_direction` and the loop of `action` are a strict-`<` scan
  (`firstMin`) over the (exact distance, side) candidates, so the report is their first minimum.
-/
import PopsModel.Lemmas.Metric
namespace Pops.Metric


/-- `boundaries.at(boundary_id_idx_map.find(v))` for a present id. -/
def findBox (tbl : List (Int × Box)) (v : Int) : Option Box :=
  (tbl.find? (fun en => en.1 == v)).map (·.2)

theorem lookupBox_of_findBox {tbl : List (Int × Box)} {v : Int} {b : Box}
    (h : findBox tbl v = some b) : lookupBox tbl v = some b := by
  unfold findBox at h
  unfold lookupBox
  cases hf : tbl.find? (fun en => en.1 == v) with
  | none => simp [hf] at h
  | some en => simp [hf] at h; simp [h]

theorem find_map_keep (f : Int × Box → Int × Box) (hf : ∀ en, (f en).1 = en.1) (v : Int)
    (tbl : List (Int × Box)) :
    (tbl.map f).find? (fun en => en.1 == v) = (tbl.find? (fun en => en.1 == v)).map f := by
  induction tbl with
  | nil => rfl
  | cons en rest ih =>
    simp only [List.map_cons, List.find?_cons, hf]
    cases en.1 == v <;> simp [ih]

theorem any_eq_find?_isSome {α : Type} (p : α → Bool) (l : List α) : l.any p = (l.find? p).isSome := by
  rw [Bool.eq_iff_iff, List.any_eq_true, List.find?_isSome]

theorem findBox_update_self (h w : Int) (tbl : List (Int × Box)) (v i j : Int) :
    findBox (tableUpdate h w tbl v i j) v =
      some (((findBox tbl v).getD (initBox h w)).extend i j) := by
  unfold tableUpdate findBox
  rw [any_eq_find?_isSome]
  cases hf : tbl.find? (fun en => en.1 == v) with
  | none => simp [List.find?_append, hf]
  | some en =>
    have hk : en.1 = v := by simpa using List.find?_some hf
    rw [Option.isSome_some, if_pos rfl, find_map_keep _ (by intro en; split <;> rfl), hf]
    simp [hk]

theorem findBox_update_ne (h w : Int) (tbl : List (Int × Box)) (v v' i j : Int) (hne : v' ≠ v) :
    findBox (tableUpdate h w tbl v i j) v' = findBox tbl v' := by
  unfold tableUpdate findBox
  rw [any_eq_find?_isSome]
  cases tbl.find? (fun en => en.1 == v) with
  | none =>
    have : ((v == v') = false) := by simp; exact fun h => hne h.symm
    simp [List.find?_append, this]
  | some _ =>
    rw [Option.isSome_some, if_pos rfl, find_map_keep _ (by intro en; split <;> rfl)]
    cases hf : tbl.find? (fun en => en.1 == v') with
    | none => rfl
    | some en =>
      have hk : en.1 = v' := by simpa using List.find?_some hf
      have hne' : ¬ en.1 = v := by rw [hk]; exact hne
      simp [hne']

theorem findBox_fold (h w : Int) (areas : IRaster) (v : Int) (hv : 0 < v) :
    ∀ (cs : List Cell) (tbl : List (Int × Box)),
      findBox (cs.foldl (boundaryTableStep h w areas) tbl) v =
        if (cs.filter fun c => areas.at c.1 c.2 = v).isEmpty then findBox tbl v
        else some (foldBox ((findBox tbl v).getD (initBox h w)) (cs.filter fun c => areas.at c.1 c.2 = v)) := by
  intro cs
  induction cs with
  | nil => intro tbl; rfl
  | cons c cs ih =>
    intro tbl
    rw [List.foldl_cons, ih]
    by_cases hc : areas.at c.1 c.2 = v
    · have hpos : areas.at c.1 c.2 > 0 := by omega
      have hstep : boundaryTableStep h w areas tbl c = tableUpdate h w tbl v c.1 c.2 := by
        simp only [boundaryTableStep, hc]
        exact if_pos hv
      rw [hstep, findBox_update_self]
      simp only [List.filter_cons, hc, decide_true, if_true, List.isEmpty_cons, Option.getD_some,
        foldBox_cons]
      split
      · rename_i he
        rw [List.isEmpty_iff.mp he]; rfl
      · rfl
    · have hstep : findBox (boundaryTableStep h w areas tbl c) v = findBox tbl v := by
        unfold boundaryTableStep
        split
        · exact findBox_update_ne h w tbl _ v _ _ (fun e => hc e.symm)
        · rfl
      simp only [List.filter_cons, hc, decide_false, hstep]
      rfl

theorem mem_areaCells {areas : IRaster} {v : Int} {c : Cell} :
    c ∈ areaCells areas v ↔ InRange areas.rows areas.cols c ∧ areas.at c.1 c.2 = v := by
  simp [areaCells, mem_allCells]

/-- The constructor's table holds, for every positive id, the definitional box of that area. -/
theorem findBox_quarantineBoundary (areas : IRaster) (v : Int) (hv : 0 < v) :
    findBox (quarantineBoundary areas) v = specAreaBox areas v := by
  unfold quarantineBoundary
  rw [findBox_fold _ _ _ _ hv]
  have hL : ((allCells areas.rows areas.cols).filter fun c => areas.at c.1 c.2 = v) = areaCells areas v := rfl
  rw [hL]
  unfold specAreaBox
  cases hA : areaCells areas v with
  | nil => rfl
  | cons c cs =>
    have hr := (mem_areaCells.mp (hA ▸ List.mem_cons_self : c ∈ areaCells areas v)).1
    simp only [List.isEmpty_cons, Bool.false_eq_true, if_false]
    have : findBox ([] : List (Int × Box)) v = none := rfl
    rw [this, Option.getD_none]
    exact foldBox_init _ _ c cs hr


/-- The earlier pair `a` stays unless the later pair `b` is strictly nearer. -/
def better (a b : Rat × Dir) : Rat × Dir := if b.1 < a.1 then b else a

theorem better_assoc (a b c : Rat × Dir) : better (better a b) c = better a (better b c) := by
  by_cases hab : b.1 < a.1
  · by_cases hbc : c.1 < b.1
    · simp only [better, if_pos hab, if_pos hbc, if_pos (Std.lt_trans hbc hab)]
    · simp only [better, if_pos hab, if_neg hbc]
  · by_cases hbc : c.1 < b.1
    · simp only [better, if_neg hab, if_pos hbc]
    · have : ¬ c.1 < a.1 := fun h => hbc (Std.lt_of_lt_of_le h (Rat.not_lt.mp hab))
      simp only [better, if_neg hab, if_neg hbc, if_neg this]

theorem foldl_better_assoc (a : Rat × Dir) : ∀ (ys : List (Rat × Dir)) (x : Rat × Dir),
    ys.foldl better (better a x) = better a (ys.foldl better x) := by
  intro ys
  induction ys with
  | nil => intro x; rfl
  | cons y ys ih =>
    intro x
    rw [List.foldl_cons, List.foldl_cons, better_assoc, ih]

/-- Running choice with `none` = nothing met yet. -/
def betterOpt (acc : Option (Rat × Dir)) (x : Rat × Dir) : Option (Rat × Dir) :=
  match acc with
  | none => some x
  | some a => some (better a x)

/-- Strict-`<` scan of a list from the start value `acc`. -/
def firstMin (acc : Option (Rat × Dir)) (l : List (Rat × Dir)) : Option (Rat × Dir) :=
  l.foldl betterOpt acc

theorem firstMin_some (a : Rat × Dir) : ∀ (l : List (Rat × Dir)),
    firstMin (some a) l = some (l.foldl better a) := by
  intro l
  induction l generalizing a with
  | nil => rfl
  | cons x xs ih => exact ih (better a x)

theorem firstMin_none_cons (x : Rat × Dir) (xs : List (Rat × Dir)) :
    firstMin none (x :: xs) = some (xs.foldl better x) := firstMin_some x xs

theorem firstMin_append (acc : Option (Rat × Dir)) (l1 l2 : List (Rat × Dir)) :
    firstMin acc (l1 ++ l2) = firstMin (firstMin acc l1) l2 := by
  unfold firstMin; rw [List.foldl_append]

/-- Scanning a non-empty block from `acc` is one comparison of `acc` with the block's own first
    minimum (left-biased minimum is associative). -/
theorem firstMin_block (acc : Option (Rat × Dir)) (l : List (Rat × Dir)) (m : Rat × Dir)
    (h : firstMin none l = some m) : firstMin acc l = betterOpt acc m := by
  cases l with
  | nil => cases h
  | cons x xs =>
    rw [firstMin_none_cons] at h
    cases h
    cases acc with
    | none => exact firstMin_none_cons x xs
    | some a =>
      rw [firstMin_some, List.foldl_cons, foldl_better_assoc]
      rfl

/-- Invariant of the scan: its current choice `m` sits among the pairs met so far with strictly
    farther ones before it and ones at least as far after it. -/
theorem foldl_better_inv : ∀ (l pre post : List (Rat × Dir)) (m : Rat × Dir),
    (∀ x ∈ pre, m.1 < x.1) → (∀ y ∈ post, m.1 ≤ y.1) →
    ∃ pre' post', pre ++ m :: post ++ l = pre' ++ (l.foldl better m) :: post' ∧
      (∀ x ∈ pre', (l.foldl better m).1 < x.1) ∧ (∀ y ∈ post', (l.foldl better m).1 ≤ y.1) := by
  intro l
  induction l with
  | nil => intro pre post m h1 h2; exact ⟨pre, post, by simp, h1, h2⟩
  | cons x xs ih =>
    intro pre post m h1 h2
    rw [List.foldl_cons]
    by_cases hlt : x.1 < m.1
    · -- `x` is the new choice; all met so far, `m` included, are strictly farther
      have hx : ∀ y ∈ pre ++ m :: post, x.1 < y.1 := by
        intro y hy
        rcases List.mem_append.mp hy with h | h
        · exact Std.lt_trans hlt (h1 y h)
        · rcases List.mem_cons.mp h with rfl | h
          · exact hlt
          · exact Std.lt_of_lt_of_le hlt (h2 y h)
      obtain ⟨pre', post', e, k⟩ := ih (pre ++ m :: post) [] x hx (by simp)
      rw [show better m x = x by simp [better, hlt]]
      exact ⟨pre', post', by rw [← e]; simp, k⟩
    · -- `m` stays; `x` is at least as far
      have hx : ∀ y ∈ post ++ [x], m.1 ≤ y.1 := by
        intro y hy
        rcases List.mem_append.mp hy with h | h
        · exact h2 y h
        · rw [List.mem_singleton.mp h]; exact Rat.not_lt.mp hlt
      obtain ⟨pre', post', e, k⟩ := ih pre (post ++ [x]) m h1 hx
      rw [show better m x = m by simp [better, hlt]]
      exact ⟨pre', post', by rw [← e]; simp, k⟩

theorem firstMin_none_split {l : List (Rat × Dir)} (hne : l ≠ []) :
    ∃ m pre post, firstMin none l = some m ∧ l = pre ++ m :: post ∧
      (∀ x ∈ pre, m.1 < x.1) ∧ (∀ y ∈ post, m.1 ≤ y.1) := by
  cases l with
  | nil => exact absurd rfl hne
  | cons x xs =>
    obtain ⟨pre, post, h1, h2, h3⟩ := foldl_better_inv xs [] [] x
      (fun _ h => absurd h List.not_mem_nil) (fun _ h => absurd h List.not_mem_nil)
    exact ⟨_, pre, post, firstMin_none_cons x xs, h1, h2, h3⟩


theorem dblMax_pos : (0 : Rat) < (dblMax : Rat) := by
  have h : (0 : Int) < dblMax := by decide +kernel
  exact_mod_cast h

theorem sideDist_lt_dblMax {rows cols : Int} {ns ew : Rat} (hns : 0 ≤ ns) (hew : 0 ≤ ew)
    (hbn : (rows : Rat) * ns < (dblMax : Rat)) (hbe : (cols : Rat) * ew < (dblMax : Rat)) {b : Box} {c : Cell}
    (g : 0 ≤ b.n ∧ b.n ≤ c.1 ∧ c.1 ≤ b.s ∧ b.s < rows ∧ 0 ≤ b.w ∧ b.w ≤ c.2 ∧ c.2 ≤ b.e ∧ b.e < cols)
    (d : Dir) : sideDist b ns ew c d < (dblMax : Rat) := by
  have bound : ∀ (k r : Int) (res : Rat), 0 ≤ res → k ≤ r → (r : Rat) * res < (dblMax : Rat) →
      (k : Rat) * res < (dblMax : Rat) := fun k r res h0 hk hr =>
    Std.lt_of_le_of_lt (Rat.mul_le_mul_of_nonneg_right (by exact_mod_cast hk) h0) hr
  cases d with
  | N => exact bound _ _ _ hns (by omega) hbn
  | S => exact bound _ _ _ hns (by omega) hbn
  | E => exact bound _ _ _ hew (by omega) hbe
  | W => exact bound _ _ _ hew (by omega) hbe
  | none => exact dblMax_pos

/-- The (exact distance, side) pairs of one cell: enabled sides of box `b`, order N, S, E, W. -/
def cellCands (dirs : Dirs) (ns ew : Rat) (c : Cell) (b : Box) : List (Rat × Dir) :=
  (fourDirs.filter dirs.enabled).map fun d => (sideDist b ns ew c d, d)

theorem mem_enabledDirs {dirs : Dirs} {d : Dir} (h : dirs.enabled d = true) :
    d ∈ fourDirs.filter dirs.enabled :=
  List.mem_filter.mpr ⟨by cases d <;> simp [fourDirs, Dirs.enabled] at h ⊢, h⟩

/-- The state of `closest_direction` after some of its four `if`s, related to a strict-`<` scan. -/
def CD.Rel (c : CD) (acc : Option (Rat × Dir)) : Prop :=
  (acc = none ∧ c = CD.init) ∨ (∃ a, acc = some a ∧ c = ⟨a.1, a.1, a.2⟩ ∧ a.1 < (dblMax : Rat))

/-- One `if` of `closest_direction` as a step of the scan: an enabled side is compared, a disabled
    one is skipped. -/
def scanIf (en : Bool) (acc : Option (Rat × Dir)) (x : Rat × Dir) : Option (Rat × Dir) :=
  if en = true then betterOpt acc x else acc

theorem cd_step_rel (c : CD) (acc : Option (Rat × Dir)) (en : Bool) (x : Rat) (d : Dir)
    (h : c.Rel acc) (hx : x < (dblMax : Rat)) : (c.step en x d).Rel (scanIf en acc (x, d)) := by
  cases en with
  | false => simpa [CD.step, scanIf] using h
  | true =>
    simp only [CD.step, true_and, scanIf, if_true]
    rcases h with ⟨rfl, rfl⟩ | ⟨a, rfl, rfl, ha⟩
    · have : x < CD.init.mind := hx
      rw [if_pos this]
      exact Or.inr ⟨(x, d), rfl, rfl, hx⟩
    · simp only [betterOpt, better]
      by_cases hlt : x < a.1
      · rw [if_pos hlt, if_pos hlt]
        exact Or.inr ⟨(x, d), rfl, rfl, hx⟩
      · rw [if_neg hlt, if_neg hlt]
        exact Or.inr ⟨a, rfl, rfl, ha⟩

theorem firstMin_filter_cons (p : Dir → Bool) (f : Dir → Rat × Dir) (acc : Option (Rat × Dir)) (d : Dir)
    (ds : List Dir) :
    firstMin acc (((d :: ds).filter p).map f) = firstMin (scanIf (p d) acc (f d)) ((ds.filter p).map f) := by
  cases h : p d <;> simp [h, firstMin, scanIf]

theorem firstMin_cellCands (dirs : Dirs) (f : Dir → Rat × Dir) (acc : Option (Rat × Dir)) :
    firstMin acc ((fourDirs.filter dirs.enabled).map f) =
      scanIf dirs.w (scanIf dirs.e (scanIf dirs.s (scanIf dirs.n acc (f .N)) (f .S)) (f .E)) (f .W) := by
  simp only [fourDirs, firstMin_filter_cons]
  rfl

/-- `closest_direction` returns the first minimum of the cell's candidates (all of which are
    below the start value `DBL_MAX`), with the exact distance. -/
theorem closestDirection_firstMin (dirs : Dirs) (ns ew : Rat) (c : Cell) (b : Box)
    (hen : ∃ d, dirs.enabled d = true)
    (hb : ∀ d, sideDist b ns ew c d < (dblMax : Rat)) :
    firstMin none (cellCands dirs ns ew c b) = some (closestDirection dirs ns ew c.1 c.2 b) ∧
    (closestDirection dirs ns ew c.1 c.2 b).1 < (dblMax : Rat) := by
  have r0 : CD.init.Rel none := Or.inl ⟨rfl, rfl⟩
  have r1 := cd_step_rel _ _ dirs.n _ .N r0 (hb .N)
  have r2 := cd_step_rel _ _ dirs.s _ .S r1 (hb .S)
  have r3 := cd_step_rel _ _ dirs.e _ .E r2 (hb .E)
  have r4 := cd_step_rel _ _ dirs.w _ .W r3 (hb .W)
  have hfm := firstMin_cellCands dirs (fun d => (sideDist b ns ew c d, d)) none
  unfold cellCands
  rw [hfm]
  rcases r4 with ⟨hnone, _⟩ | ⟨a, hsome, hc4, ha⟩
  · -- some side is enabled, so the scan has met a pair
    obtain ⟨d, hd⟩ := hen
    obtain ⟨m, _, _, hm, _⟩ := firstMin_none_split
      (l := (fourDirs.filter dirs.enabled).map fun d => (sideDist b ns ew c d, d))
      (List.ne_nil_of_mem (List.mem_map.mpr ⟨d, mem_enabledDirs hd, rfl⟩))
    rw [← hfm, hm] at hnone; cases hnone
  · have hcd : closestDirection dirs ns ew c.1 c.2 b = a := by
      simp only [sideDist] at hc4
      simp only [closestDirection, hc4]
    rw [hcd]
    exact ⟨hsome, ha⟩


/-- Every needed table lookup succeeds: the loop returns, and it returns early (`none`) exactly
    when an infected listed cell has area value 0. -/
theorem escapeLoop_none_iff (q : Quarantine) (inf areas : IRaster) :
    ∀ (cells : List Cell) (acc : Option (Rat × Dir)),
      (∀ c ∈ cells, inf.at c.1 c.2 ≠ 0 → areas.at c.1 c.2 ≠ 0 → lookupBox q.table (areas.at c.1 c.2) ≠ none) →
      ∃ r, escapeLoop q inf areas cells acc = .ok r ∧
        (r = none ↔ ∃ c ∈ cells, inf.at c.1 c.2 ≠ 0 ∧ areas.at c.1 c.2 = 0) := by
  intro cells
  induction cells with
  | nil => intro acc _; exact ⟨some acc, rfl, by simp⟩
  | cons c cs ih =>
    intro acc hlk
    have ih' := fun acc => ih acc (fun x hx => hlk x (List.mem_cons_of_mem _ hx))
    -- a head cell that is not infected, or lies in an area, is not the one looked for
    have skip : (inf.at c.1 c.2 = 0 ∨ areas.at c.1 c.2 ≠ 0) →
        ((∃ x ∈ c :: cs, inf.at x.1 x.2 ≠ 0 ∧ areas.at x.1 x.2 = 0) ↔
          ∃ x ∈ cs, inf.at x.1 x.2 ≠ 0 ∧ areas.at x.1 x.2 = 0) := by
      intro h
      constructor
      · rintro ⟨x, hx, h1, h2⟩
        rcases List.mem_cons.mp hx with rfl | hx
        · exact absurd h (by simp [h1, h2])
        · exact ⟨x, hx, h1, h2⟩
      · rintro ⟨x, hx, h12⟩; exact ⟨x, List.mem_cons_of_mem _ hx, h12⟩
    unfold escapeLoop
    by_cases h0 : inf.at c.1 c.2 = 0
    · rw [if_pos h0, skip (.inl h0)]; exact ih' acc
    · rw [if_neg h0]
      by_cases ha : areas.at c.1 c.2 = 0
      · rw [if_pos ha]; exact ⟨none, rfl, iff_of_true rfl ⟨c, List.mem_cons_self, h0, ha⟩⟩
      · rw [if_neg ha, skip (.inr ha)]
        cases hb : lookupBox q.table (areas.at c.1 c.2) with
        | none => exact absurd hb (hlk c List.mem_cons_self h0 ha)
        | some b => exact ih' _

/-- What the infected listed cells need for the distance search: a positive id whose table entry
    is the definitional box `b` of the cell's own area, every side of which is nearer than the start
    value `DBL_MAX`. -/
def CellOK (q : Quarantine) (areas : IRaster) (c : Cell) : Prop :=
  areas.at c.1 c.2 ≠ 0 ∧ ∃ b, lookupBox q.table (areas.at c.1 c.2) = some b ∧
    specAreaBox areas (areas.at c.1 c.2) = some b ∧ ∀ d, sideDist b q.ns q.ew c d < (dblMax : Rat)

/-- No infected cell with area 0: the loop ends with the strict-`<` scan, from its start value,
    of all candidates (infected cell, enabled side) in list order. -/
theorem escapeLoop_contained (q : Quarantine) (inf areas : IRaster) (hen : ∃ d, q.dirs.enabled d = true) :
    ∀ (cells : List Cell) (acc : Option (Rat × Dir)),
      (∀ c ∈ cells, inf.at c.1 c.2 ≠ 0 → CellOK q areas c) →
      escapeLoop q inf areas cells acc =
        .ok (some (firstMin acc (nearestCandidates inf areas cells q.dirs q.ns q.ew))) := by
  intro cells
  induction cells with
  | nil => intro acc _; rfl
  | cons c cs ih =>
    intro acc hok
    have hok' : ∀ x ∈ cs, inf.at x.1 x.2 ≠ 0 → CellOK q areas x := fun x hx => hok x (by simp [hx])
    unfold escapeLoop
    by_cases h0 : inf.at c.1 c.2 = 0
    · rw [if_pos h0, ih acc hok']
      have : presentCells inf (c :: cs) = presentCells inf cs := by
        simp [presentCells, h0]
      unfold nearestCandidates
      rw [this]
    · rw [if_neg h0]
      obtain ⟨ha, b, hl, hsb, hbd⟩ := hok c (by simp) h0
      rw [if_neg ha, hl]
      simp only
      have hp : presentCells inf (c :: cs) = c :: presentCells inf cs := by
        simp [presentCells, h0]
      have hc : nearestCandidates inf areas (c :: cs) q.dirs q.ns q.ew =
          cellCands q.dirs q.ns q.ew c b ++ nearestCandidates inf areas cs q.dirs q.ns q.ew := by
        unfold nearestCandidates
        rw [hp, List.flatMap_cons, hsb]
        rfl
      obtain ⟨hfm, hlt⟩ := closestDirection_firstMin q.dirs q.ns q.ew c b hen hbd
      rw [hc, firstMin_append, firstMin_block acc _ _ hfm, ih _ hok']
      -- what is left: the loop's `if closer dd.1 acc then some dd else acc` is `betterOpt acc dd`
      congr 3
      generalize closestDirection q.dirs q.ns q.ew c.1 c.2 b = dd at hlt
      cases acc with
      | none => simp [closer, betterOpt, hlt]
      | some m =>
        by_cases h : dd.1 < m.1
        · simp [closer, betterOpt, better, h]
        · simp [closer, betterOpt, better, h]

theorem action_eq_firstMin (q : Quarantine) (inf areas : IRaster) (hen : ∃ d, q.dirs.enabled d = true)
    (cells : List Cell) (hok : ∀ c ∈ cells, inf.at c.1 c.2 ≠ 0 → CellOK q areas c) {step : Nat}
    (hlen : step < q.infos.length) :
    q.action cells inf areas step = .ok { q with
      infos := q.infos.set step (infoOf (some (firstMin none (nearestCandidates inf areas cells q.dirs q.ns q.ew)))) } := by
  simp only [Quarantine.action, escapeLoop_contained q inf areas hen cells none hok, hlen, if_true]

theorem action_escaped_iff (q : Quarantine) (inf areas : IRaster) (cells : List Cell)
    (hlook : ∀ c ∈ cells, inf.at c.1 c.2 ≠ 0 → areas.at c.1 c.2 ≠ 0 → lookupBox q.table (areas.at c.1 c.2) ≠ none)
    {step : Nat} (hlen : step < q.infos.length) :
    ∃ info, q.action cells inf areas step = .ok { q with infos := q.infos.set step info } ∧
      (info.escaped = true ↔ ∃ c ∈ cells, inf.at c.1 c.2 ≠ 0 ∧ areas.at c.1 c.2 = 0) ∧
      (info.escaped = true → info.dist = .nan ∧ info.dir = .none) := by
  obtain ⟨r, hloop, hr⟩ := escapeLoop_none_iff q inf areas cells none hlook
  refine ⟨infoOf r, by simp only [Quarantine.action, hloop, hlen, if_true], ?_, ?_⟩
  · rw [← hr]; rcases r with _ | _ | _ <;> simp [infoOf]
  · cases r with
    | none => exact fun _ => ⟨rfl, rfl⟩
    | some a => intro h; cases a <;> cases h


theorem mem_presentCells {inf : IRaster} {cells : List Cell} {c : Cell} :
    c ∈ presentCells inf cells ↔ c ∈ cells ∧ inf.at c.1 c.2 ≠ 0 := by
  simp [presentCells]

theorem specEscaped_iff (inf areas : IRaster) (cells : List Cell) :
    specEscaped inf areas cells = true ↔ ∃ c ∈ cells, inf.at c.1 c.2 ≠ 0 ∧ areas.at c.1 c.2 = 0 := by
  simp only [specEscaped, List.any_eq_true, mem_presentCells, beq_iff_eq, and_assoc]

theorem mem_nearestCandidates {inf areas : IRaster} {cells : List Cell} {dirs : Dirs} {ns ew : Rat}
    {m : Rat × Dir} :
    m ∈ nearestCandidates inf areas cells dirs ns ew ↔
      ∃ c ∈ cells, inf.at c.1 c.2 ≠ 0 ∧ ∃ b, specAreaBox areas (areas.at c.1 c.2) = some b ∧
        dirs.enabled m.2 = true ∧ m = (sideDist b ns ew c m.2, m.2) := by
  unfold nearestCandidates
  simp only [List.mem_flatMap, mem_presentCells]
  constructor
  · rintro ⟨c, ⟨hc, hi⟩, hm⟩
    cases hb : specAreaBox areas (areas.at c.1 c.2) with
    | none => simp [hb] at hm
    | some b =>
      rw [hb] at hm
      obtain ⟨d, hd, rfl⟩ := List.mem_map.mp hm
      exact ⟨c, hc, hi, b, hb, (List.mem_filter.mp hd).2, rfl⟩
  · rintro ⟨c, hc, hi, b, hb, hd, hm⟩
    refine ⟨c, ⟨hc, hi⟩, ?_⟩
    rw [hb]
    exact List.mem_map.mpr ⟨m.2, mem_enabledDirs hd, hm.symm⟩

theorem nearestOK_of_minimal {inf areas : IRaster} {cells : List Cell} {dirs : Dirs} {ns ew : Rat}
    {c : Cell} {b : Box} {dir : Dir} (hdir : dirs.enabled dir = true) (hc : c ∈ cells)
    (hi : inf.at c.1 c.2 ≠ 0) (hsb : specAreaBox areas (areas.at c.1 c.2) = some b)
    (hmin : ∀ c' ∈ cells, inf.at c'.1 c'.2 ≠ 0 → ∃ b', specAreaBox areas (areas.at c'.1 c'.2) = some b' ∧
      ∀ d', dirs.enabled d' = true → sideDist b ns ew c dir ≤ sideDist b' ns ew c' d') :
    nearestOK inf areas cells dirs ns ew (lround (sideDist b ns ew c dir)) dir = true := by
  simp only [nearestOK, Bool.and_eq_true, List.any_eq_true, mem_presentCells]
  refine ⟨hdir, c, ⟨hc, hi⟩, ?_⟩
  rw [hsb]
  simp only [beq_self_eq_true, Bool.true_and, List.all_eq_true, mem_presentCells]
  rintro c' ⟨hc', hi'⟩
  obtain ⟨b', hsb', hle⟩ := hmin c' hc' hi'
  rw [hsb']
  simp only [List.all_eq_true, Bool.or_eq_true, Bool.not_eq_true', decide_eq_true_eq]
  intro d' _
  cases hd' : dirs.enabled d' with
  | false => exact .inl rfl
  | true => exact .inr (hle d' hd')

theorem collectInfos_ok (step : Nat) :
    ∀ (runs : List Quarantine), (∀ q ∈ runs, step < q.infos.length) →
      collectInfos step runs = .ok (runs.map fun q => q.infos.getD step default) := by
  intro runs
  induction runs with
  | nil => intro _; rfl
  | cons q qs ih =>
    intro h
    have hq := h q (by simp)
    have hinfo : q.escapeInfo step = .ok (q.infos.getD step default) := by
      unfold Quarantine.escapeInfo
      rw [List.getElem?_eq_getElem hq]
      simp [List.getD, List.getElem?_eq_getElem hq]
    simp only [collectInfos, hinfo, ih (fun x hx => h x (by simp [hx])), List.map_cons]

end Pops.Metric

namespace Pops
open Metric

theorem presentCells_idem (inf : IRaster) (cells : List Cell) :
    presentCells inf (presentCells inf cells) = presentCells inf cells := by
  simp [presentCells, List.filter_filter]

/-- The loop of `action` skips the cells without infection: it depends on the infected listed
    cells only. -/
theorem escapeLoop_presentCells (q : Quarantine) (inf areas : IRaster) :
    ∀ (cells : List Cell) (acc : Option (Rat × Dir)),
      escapeLoop q inf areas (presentCells inf cells) acc = escapeLoop q inf areas cells acc := by
  intro cells
  induction cells with
  | nil => intro acc; rfl
  | cons c cs ih =>
    intro acc
    by_cases h0 : inf.at c.1 c.2 = 0
    · have hp : presentCells inf (c :: cs) = presentCells inf cs := by simp [presentCells, h0]
      rw [hp, ih]
      simp only [escapeLoop, h0, if_true]
    · have hp : presentCells inf (c :: cs) = c :: presentCells inf cs := by simp [presentCells, h0]
      rw [hp]
      simp only [escapeLoop, h0, if_false]
      split
      · rfl
      · split
        · rfl
        · exact ih _

theorem action_presentCells (q : Quarantine) (cells : List Cell) (inf areas : IRaster) (step : Nat) :
    q.action (presentCells inf cells) inf areas step = q.action cells inf areas step := by
  simp only [Quarantine.action, escapeLoop_presentCells]

/-- A listed cell with a positive area id: the table lookup yields the definitional box of its
    own area, which contains the cell and lies inside the raster. -/
theorem own_area_box (areas : IRaster) (c : Cell) (hr : InRange areas.rows areas.cols c)
    (hpos : 0 < areas.at c.1 c.2) :
    ∃ b, lookupBox (quarantineBoundary areas) (areas.at c.1 c.2) = some b ∧
      specAreaBox areas (areas.at c.1 c.2) = some b ∧
      0 ≤ b.n ∧ b.n ≤ c.1 ∧ c.1 ≤ b.s ∧ b.s < areas.rows ∧ 0 ≤ b.w ∧ b.w ≤ c.2 ∧ c.2 ≤ b.e ∧ b.e < areas.cols := by
  have hm : c ∈ areaCells areas (areas.at c.1 c.2) := mem_areaCells.mpr ⟨hr, rfl⟩
  obtain ⟨b, hb⟩ := specBox_ne_none (List.ne_nil_of_mem hm)
  have hf := findBox_quarantineBoundary areas _ hpos
  have hbb := specBox_isBBox _ _ hb
  obtain ⟨g1, g4, g5, g8⟩ := hbb.inRange (rows := areas.rows) (cols := areas.cols) fun x hx => (mem_areaCells.mp hx).1
  exact ⟨b, lookupBox_of_findBox (by rw [hf]; exact hb), hb, g1, hbb.n_le c hm, hbb.s_ge c hm, g4, g5,
    hbb.w_le c hm, hbb.e_ge c hm, g8⟩

theorem specEscapedFull_iff (inf areas : IRaster) (cells : List Cell) :
    specEscapedFull inf areas cells = true ↔
      ∃ c ∈ cells, inf.at c.1 c.2 ≠ 0 ∧
        (areas.at c.1 c.2 ≤ 0 ∨ specAreaBox areas (areas.at c.1 c.2) = none) := by
  simp only [specEscapedFull, outsideEveryArea, List.any_eq_true, mem_presentCells, Bool.or_eq_true,
    decide_eq_true_eq, Option.isNone_iff_eq_none, and_assoc]

/-- Where no infected listed cell has a negative id, "outside every quarantine area" is "area
    value 0". -/
theorem specEscapedFull_eq_of_infected_nonneg (areas inf : IRaster) (cells : List Cell)
    (hin : ∀ c ∈ cells, InRange areas.rows areas.cols c)
    (hnn : ∀ c ∈ cells, inf.at c.1 c.2 ≠ 0 → 0 ≤ areas.at c.1 c.2) :
    specEscapedFull inf areas cells = specEscaped inf areas cells := by
  rw [Bool.eq_iff_iff, specEscapedFull_iff, specEscaped_iff]
  constructor
  · rintro ⟨c, hc, hi, h⟩
    refine ⟨c, hc, hi, ?_⟩
    have h0 := hnn c hc hi
    rcases h with h | h
    · omega
    · by_cases hz : areas.at c.1 c.2 = 0
      · exact hz
      · obtain ⟨b, _, hb, _⟩ := own_area_box areas c (hin c hc) (by omega)
        rw [hb] at h; cases h
  · rintro ⟨c, hc, hi, hz⟩
    exact ⟨c, hc, hi, Or.inl (by omega)⟩

end Pops
