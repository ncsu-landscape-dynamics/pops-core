/-
  C15 lemmas about `load`: the segment map (`emplace`, first record of a key wins), merging of
  repeated cells, what a successfully parsed record looks like, the whole input.
-/
import PopsModel.Model.NetPred
import PopsModel.Lemmas.ListFacts
namespace Pops.Net

variable {g : Grid}

/-- `segments_by_nodes_.find`: `Net.findSeg` on the bare list (`storeRecords` yields a list, not a `Net`). -/
def lookup (k : Key) (l : List (Key × Segment)) : Option Segment :=
  (l.find? (fun e => e.1 = k)).map (·.2)

theorem findSeg_eq_lookup (n : Net) (k : Key) : n.findSeg k = lookup k n.segs := rfl

theorem lookup_cons (k : Key) (e : Key × Segment) (l : List (Key × Segment)) :
    lookup k (e :: l) = if e.1 = k then some e.2 else lookup k l := by
  unfold lookup
  by_cases h : e.1 = k <;> simp [h]

theorem lookup_none_iff {k : Key} {l : List (Key × Segment)} :
    lookup k l = none ↔ ∀ e ∈ l, e.1 ≠ k := by
  rw [lookup, Option.map_eq_none_iff, List.find?_eq_none]
  simp only [decide_eq_true_eq, ne_eq]

/-- `orderedInsert` keeps the list in the key order in which `std::map` iterates. Nothing below
    depends on that order: the theorems need only which key finds which segment (`lookup`) and
    which entries are present (`mem_orderedInsert`). -/
theorem lookup_orderedInsert (k k' : Key) (s : Segment) (l : List (Key × Segment))
    (hk : lookup k l = none) :
    lookup k' (orderedInsert k s l) = if k = k' then some s else lookup k' l := by
  induction l with
  | nil => rw [orderedInsert, lookup_cons]
  | cons e t ih =>
    rw [lookup_cons] at hk
    by_cases hek : e.1 = k
    · rw [if_pos hek] at hk; cases hk
    · rw [if_neg hek] at hk
      rw [orderedInsert]
      by_cases hlt : keyLt k e.1 = true
      · rw [if_pos hlt, lookup_cons]
      · rw [if_neg hlt, lookup_cons, lookup_cons, ih hk]
        by_cases h1 : e.1 = k'
        · rw [if_pos h1, if_pos h1, if_neg fun h : k = k' => hek (h ▸ h1)]
        · rw [if_neg h1, if_neg h1]

/-- `emplace` keeps an existing entry and otherwise adds the new one. -/
theorem lookup_insertSeg (k k' : Key) (s : Segment) (l : List (Key × Segment)) :
    lookup k' (insertSeg k s l) = (lookup k' l).or (if k = k' then some s else none) := by
  unfold insertSeg
  by_cases hany : l.any (fun e => decide (e.1 = k)) = true
  · rw [if_pos hany]
    by_cases hk : k = k'
    · subst hk
      obtain ⟨e, he, hek⟩ := List.any_eq_true.mp hany
      cases h : lookup k l with
      | none => exact absurd (of_decide_eq_true hek) (lookup_none_iff.mp h e he)
      | some x => rfl
    · rw [if_neg hk, Option.or_none]
  · have hnone : lookup k l = none :=
      lookup_none_iff.mpr fun e he hek => hany (List.any_eq_true.mpr ⟨e, he, decide_eq_true hek⟩)
    rw [if_neg hany, lookup_orderedInsert k k' s l hnone]
    by_cases hk : k = k'
    · subst hk; rw [if_pos rfl, if_pos rfl, hnone]; rfl
    · rw [if_neg hk, if_neg hk, Option.or_none]

theorem mem_orderedInsert {k : Key} {s : Segment} {l : List (Key × Segment)} {e : Key × Segment} :
    e ∈ orderedInsert k s l ↔ e = (k, s) ∨ e ∈ l := by
  induction l with
  | nil => simp [orderedInsert]
  | cons x t ih =>
    unfold orderedInsert
    split
    · simp
    · simp only [List.mem_cons, ih]
      exact or_left_comm

theorem mem_insertSeg {k : Key} {s : Segment} {l : List (Key × Segment)} {e : Key × Segment}
    (h : e ∈ insertSeg k s l) : e = (k, s) ∨ e ∈ l := by
  unfold insertSeg at h
  split at h
  · exact Or.inr h
  · exact mem_orderedInsert.mp h

/-- The segment stored for a key is that of the first kept record with the key. -/
def firstKept (g : Grid) (k : Key) : List Rec → Option Segment
  | [] => none
  | r :: rs => if r.kept g = true ∧ r.key = k then some r.seg else firstKept g k rs

theorem lookup_foldl_store (g : Grid) (k : Key) (rs : List Rec) (acc : List (Key × Segment)) :
    lookup k (rs.foldl (fun acc r => if r.kept g then insertSeg r.key r.seg acc else acc) acc) =
      (lookup k acc).or (firstKept g k rs) := by
  induction rs generalizing acc with
  | nil => rw [List.foldl_nil, firstKept, Option.or_none]
  | cons r t ih =>
    rw [List.foldl_cons, ih, firstKept]
    by_cases hk : r.kept g = true
    · rw [if_pos hk, lookup_insertSeg, Option.or_assoc]
      by_cases hkk : r.key = k
      · rw [if_pos hkk, if_pos ⟨hk, hkk⟩]; rfl
      · rw [if_neg hkk, if_neg fun h => hkk h.2]; rfl
    · rw [if_neg hk, if_neg fun h => hk h.1]

theorem lookup_storeRecords (g : Grid) (k : Key) (rs : List Rec) :
    lookup k (storeRecords g rs) = firstKept g k rs :=
  lookup_foldl_store g k rs []

theorem firstKept_some {k : Key} {rs : List Rec} {s : Segment}
    (h : firstKept g k rs = some s) : ∃ r ∈ rs, r.kept g = true ∧ r.key = k ∧ r.seg = s := by
  induction rs with
  | nil => simp [firstKept] at h
  | cons r t ih =>
    unfold firstKept at h
    split at h
    · next hc => exact ⟨r, by simp, hc.1, hc.2, by simpa using h⟩
    · obtain ⟨r', hr', h'⟩ := ih h
      exact ⟨r', by simp [hr'], h'⟩

theorem firstKept_isSome {k : Key} {rs : List Rec} {r : Rec} (hr : r ∈ rs)
    (hk : r.kept g = true) (hkey : r.key = k) : ∃ s, firstKept g k rs = some s := by
  induction rs with
  | nil => simp at hr
  | cons x t ih =>
    unfold firstKept
    split
    · exact ⟨_, rfl⟩
    · next hc =>
      rcases List.mem_cons.mp hr with h | h
      · subst h; exact absurd ⟨hk, hkey⟩ hc
      · exact ih h

theorem mem_storeRecords {rs : List Rec} {e : Key × Segment}
    (h : e ∈ storeRecords g rs) : ∃ r ∈ rs, r.kept g = true ∧ e = (r.key, r.seg) := by
  unfold storeRecords at h
  have key : ∀ (rs : List Rec) (acc : List (Key × Segment)),
      e ∈ rs.foldl (fun acc r => if r.kept g then insertSeg r.key r.seg acc else acc) acc →
      e ∈ acc ∨ ∃ r ∈ rs, r.kept g = true ∧ e = (r.key, r.seg) := by
    intro rs
    induction rs with
    | nil => intro acc h; exact Or.inl h
    | cons r t ih =>
      intro acc h
      simp only [List.foldl_cons] at h
      rcases ih _ h with h1 | ⟨r', hr', h'⟩
      · split at h1
        · next hk =>
          rcases mem_insertSeg h1 with h2 | h2
          · exact Or.inr ⟨r, by simp, hk, h2⟩
          · exact Or.inl h2
        · exact Or.inl h1
      · exact Or.inr ⟨r', by simp [hr'], h'⟩
  rcases key rs [] h with h1 | h1
  · simp at h1
  · exact h1

theorem mergeCells_spec (a : Cell) (t : List Cell) :
    (mergeCells (a :: t)).head? = some a ∧ (mergeCells (a :: t)).getLast? = (a :: t).getLast? ∧
    noAdjacentDup (mergeCells (a :: t)) = true ∧ ∀ x, x ∈ mergeCells (a :: t) ↔ x ∈ a :: t := by
  induction t generalizing a with
  | nil => simp [mergeCells, noAdjacentDup]
  | cons b rest ih =>
    obtain ⟨h1, h2, h3, h4⟩ := ih b
    unfold mergeCells
    split
    · next hab =>
      subst hab
      exact ⟨h1, by rw [h2, List.getLast?_cons_cons], h3, fun x => by rw [h4]; simp⟩
    · next hab =>
      obtain ⟨xs, hm⟩ : ∃ xs, mergeCells (b :: rest) = b :: xs := by
        cases hm : mergeCells (b :: rest) with
        | nil => rw [hm] at h1; cases h1
        | cons y ys => rw [hm] at h1; cases h1; exact ⟨ys, rfl⟩
      rw [hm] at h2 h3 h4 ⊢
      refine ⟨rfl, by rw [List.getLast?_cons_cons, h2, List.getLast?_cons_cons], ?_,
        fun x => by rw [List.mem_cons, h4, List.mem_cons (a := x) (b := a)]⟩
      simp only [noAdjacentDup, h3, Bool.and_true, bne_iff_ne, ne_eq]
      exact hab

theorem mergeCells_eq_nil {l : List Cell} : mergeCells l = [] ↔ l = [] := by
  cases l with
  | nil => simp [mergeCells]
  | cons a t =>
    have := (mergeCells_spec a t).1
    constructor
    · intro h; rw [h] at this; simp at this
    · intro h; simp at h

def Grid.cellOf (g : Grid) (p : Rat × Rat) : Cell := g.xyToRowCol p.1 p.2

theorem buildRec_ok {id1 id2 : Int} {prob total cpc : Rat} {pts : List (Rat × Rat)}
    {r : Rec} (h : buildRec g id1 id2 prob total cpc pts = .ok r) :
    2 ≤ pts.length ∧ r.key = (id1, id2) ∧ r.seg.cpc = cpc ∧ r.seg.total = total ∧
    r.seg.prob = prob ∧ r.first = pts.headD (0, 0) ∧ r.last = pts.getLastD (0, 0) ∧
    r.seg.cells =
      (let m := mergeCells (pts.map g.cellOf); if m.length = 1 then m ++ m else m) := by
  by_cases h1 : mergeCells (pts.map fun p => g.xyToRowCol p.1 p.2) = []
  · rw [buildRec, if_pos h1] at h; cases h
  · by_cases h2 : pts.length < 2
    · rw [buildRec, if_neg h1, if_pos h2] at h; cases h
    · rw [buildRec, if_neg h1, if_neg h2] at h
      cases Except.ok.inj h
      exact ⟨Nat.not_lt.mp h2, rfl, rfl, rfl, rfl, rfl, rfl, rfl⟩

theorem getLast?_map_getLastD {α β : Type} (f : α → β) (l : List α) (d : α) (h : l ≠ []) :
    (l.map f).getLast? = some (f (l.getLastD d)) := by
  rw [List.getLast?_map, List.getLastD_eq_getLast?, List.getLast?_eq_some_getLast h]
  rfl

theorem completed_spec {m c : List Cell} (hc : c = if m.length = 1 then m ++ m else m) (hne : m ≠ [])
    (hnd : noAdjacentDup m = true) :
    2 ≤ c.length ∧ mergedOK c = true ∧ c.head? = m.head? ∧ c.getLast? = m.getLast? := by
  subst hc
  match m, hne with
  | [a], _ => simp [mergedOK]
  | a :: b :: t, _ => simp [mergedOK, hnd]

theorem buildRec_cells {id1 id2 : Int} {prob total cpc : Rat} {pts : List (Rat × Rat)}
    {r : Rec} (h : buildRec g id1 id2 prob total cpc pts = .ok r) :
    2 ≤ r.seg.cells.length ∧ mergedOK r.seg.cells = true ∧
    r.seg.front = g.cellOf r.first ∧ r.seg.back = g.cellOf r.last := by
  obtain ⟨hlen, _, _, _, _, hf, hl, hc⟩ := buildRec_ok h
  cases pts with
  | nil => exact absurd hlen (by decide)
  | cons p ps =>
    obtain ⟨s1, s2, s3, _⟩ := mergeCells_spec (g.cellOf p) (ps.map g.cellOf)
    have hm : mergeCells ((p :: ps).map g.cellOf) ≠ [] := fun h0 =>
      List.cons_ne_nil _ _ (List.map_eq_nil_iff.mp (mergeCells_eq_nil.mp h0))
    obtain ⟨c1, c2, c3, c4⟩ := completed_spec hc hm s3
    refine ⟨c1, c2, ?_, ?_⟩
    · rw [Segment.front, List.headD_eq_head?_getD, c3, hf, List.map_cons, s1]; rfl
    · rw [Segment.back, List.getLastD_eq_getLast?, c4, List.map_cons, s2, hl, ← List.map_cons,
        getLast?_map_getLastD g.cellOf (p :: ps) (0, 0) (List.cons_ne_nil _ _)]; rfl

theorem parseRecord_ok {hasCost hasProb : Bool} {line : List Char} {r : Rec}
    (h : parseRecord g hasCost hasProb line = .ok r) :
    ∃ id1 id2 prob total pts, 1 ≤ id1 ∧ 1 ≤ id2 ∧ 0 ≤ prob ∧
      (hasCost = false → total = 0) ∧
      buildRec g id1 id2 prob total (if hasCost then 0 else g.distancePerCell) pts = .ok r := by
  unfold parseRecord at h
  obtain ⟨id1, _, h⟩ := except_bind_ok h
  obtain ⟨id2, _, h⟩ := except_bind_ok h
  by_cases hids : id1 < 1 ∨ id2 < 1
  · rw [if_pos hids] at h; cases h
  · rw [if_neg hids] at h
    obtain ⟨prob, hprob, h⟩ := except_bind_ok h
    obtain ⟨total, htotal, h⟩ := except_bind_ok h
    obtain ⟨pts, _, h⟩ := except_bind_ok h
    refine ⟨id1, id2, prob, total, pts, Int.not_lt.mp fun h => hids (.inl h),
      Int.not_lt.mp fun h => hids (.inr h), ?_, ?_, h⟩
    · cases hasProb with
      | false =>
        have : prob = 0 := by simpa [optProbability] using hprob.symm
        rw [this]; exact Rat.le_refl
      | true =>
        simp only [optProbability, if_true, probabilityFromText] at hprob
        obtain ⟨v, _, hv⟩ := except_bind_ok hprob
        by_cases hneg : v < 0
        · rw [if_pos hneg] at hv; cases hv
        · rw [if_neg hneg] at hv
          cases Except.ok.inj hv
          exact Rat.not_lt.mp hneg
    · intro hc; subst hc
      have : total = 0 := by simpa [optCost] using htotal.symm
      exact this

theorem parseRecords_ok {hc hp : Bool} {lines : List (List Char)} {rs : List Rec}
    (h : parseRecords g hc hp lines = .ok rs) :
    rs.length = lines.length ∧ ∀ r ∈ rs, ∃ l ∈ lines, parseRecord g hc hp l = .ok r := by
  induction lines generalizing rs with
  | nil => simp [parseRecords] at h; subst h; simp
  | cons l t ih =>
    unfold parseRecords at h
    obtain ⟨r, hr, h⟩ := except_bind_ok h
    obtain ⟨rs', hrs, h⟩ := except_bind_ok h
    have : rs = r :: rs' := by simpa using h.symm
    subst this
    obtain ⟨hlen, hmem⟩ := ih hrs
    refine ⟨by simp [hlen], ?_⟩
    intro x hx
    rcases List.mem_cons.mp hx with hx | hx
    · subst hx; exact ⟨l, by simp, hr⟩
    · obtain ⟨l', hl', h'⟩ := hmem x hx
      exact ⟨l', by simp [hl'], h'⟩

theorem parseRecords_error {hc hp : Bool} (pre : List (List Char)) (l : List Char)
    (post : List (List Char)) (e : ErrKind)
    (hpre : ∀ l' ∈ pre, ∃ r, parseRecord g hc hp l' = .ok r) (hl : parseRecord g hc hp l = .error e) :
    parseRecords g hc hp (pre ++ l :: post) = .error e := by
  induction pre with
  | nil => simp [parseRecords, hl, bind, Except.bind]
  | cons x t ih =>
    obtain ⟨r, hr⟩ := hpre x (by simp)
    have := ih (fun l' hl' => hpre l' (by simp [hl']))
    simp [parseRecords, hr, this, bind, Except.bind]

theorem loadSegments_ok {text : List Char} {net : Net} (h : loadSegments g text = .ok net) :
    ∃ hd data rs, splitHeader (getlines '\n' text) = .ok (hd, data) ∧
      parseRecords g hd.hasCost hd.hasProb data = .ok rs ∧
      net.grid = g ∧ net.hasProb = hd.hasProb ∧ net.segs = storeRecords g rs := by
  unfold loadSegments at h
  obtain ⟨⟨hd, data⟩, h1, h⟩ := except_bind_ok h
  obtain ⟨rs, h2, h⟩ := except_bind_ok h
  have : net = _ := (Except.ok.inj h).symm
  subst this
  exact ⟨hd, data, rs, h1, h2, rfl, rfl, rfl⟩

theorem load_ok {text : List Char} {allow : Bool} {net : Net}
    (h : load g text allow = .ok net) :
    loadSegments g text = .ok net ∧ (net.segs = [] → allow = true) := by
  unfold load at h
  obtain ⟨net', h1, h⟩ := except_bind_ok h
  split at h
  · exact absurd h (by simp)
  · next hcond =>
    have : net' = net := by simpa using h
    subst this
    refine ⟨h1, ?_⟩
    intro hs
    apply Classical.byContradiction
    intro ha
    exact hcond ⟨by simp [hs], ha⟩

end Pops.Net
