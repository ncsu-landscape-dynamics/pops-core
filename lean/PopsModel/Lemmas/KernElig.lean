/-
  Helper lemmas for `C13_supports_kernel` / `C15_network_movement_wiring`: what the radial and the
  switch class support, and the class of the kernel a factory builds, as a function of the kernel
  type its configuration name maps to. Core Lean only.
-/
import PopsModel.Model.KernElig
import PopsModel.Lemmas.Kern
namespace Pops

theorem radialSupports_iff (t : DispersalKernelType) : radialSupports t = true ↔ ∃ l, t.law? = some l :=
  Option.isSome_iff_exists

theorem switchSupports_iff (t : DispersalKernelType) :
    switchSupports t = true ↔ t = .uniform ∨ t = .deterministicNeighbor ∨ ∃ l, t.law? = some l := by
  unfold switchSupports
  by_cases h1 : t = .uniform
  · simp only [h1, if_true, true_or]
  · by_cases h2 : t = .deterministicNeighbor
    · simp only [h2, if_true, true_or, or_true, if_false, reduceCtorEq]
    · simp only [h1, h2, if_false, false_or, radialSupports_iff]

/-- The class either factory builds for a name of type `t`: uniform, neighbour, network (anthropogenic
    factory only), else radial (stochastic) or deterministic. -/
def builtClass (anthro stoch : Bool) (t : DispersalKernelType) : KernelClass :=
  if t = .uniform then .uniform else if t = .deterministicNeighbor then .neighbor
  else if anthro = true ∧ t = .network then .network
  else if stoch then .radial else .deterministic

theorem builtClass_supports (anthro stoch : Bool) (t : DispersalKernelType)
    (hm : builtMustSupport anthro t = true) : classSupports (builtClass anthro stoch t) t = true := by
  simp only [builtMustSupport, Bool.and_eq_true, Bool.or_eq_true, bne_iff_ne, ne_eq] at hm
  unfold builtClass
  by_cases h1 : t = .uniform
  · rw [if_pos h1, h1]; rfl
  by_cases h2 : t = .deterministicNeighbor
  · rw [if_neg h1, if_pos h2, h2]; rfl
  by_cases h3 : anthro = true ∧ t = .network
  · rw [if_neg h1, if_neg h2, if_pos h3, h3.2]; rfl
  have hn : t ≠ .network := fun h => h3 ⟨hm.2.resolve_right (not_not_intro h), h⟩
  have hr : radialSupports t = true := (law_isSome_iff t).mpr ⟨h1, h2, hn, hm.1⟩
  rw [if_neg h1, if_neg h2, if_neg h3]
  cases stoch <;> exact hr

theorem createNatural_cls (c : KernelConfig) (t : DispersalKernelType) (d : KernelDesc)
    (ht : kernelTypeFromString c.naturalKernelType = .ok t) (hd : createNaturalKernel c = .ok d) :
    d.cls = builtClass false c.dispersalStochasticity t := by
  simp only [createNaturalKernel, ht, bind, Except.bind, pure, Except.pure] at hd
  simp only [builtClass, Bool.false_eq_true, false_and, if_false]
  by_cases h1 : t = .uniform
  · rw [if_pos h1] at hd ⊢; cases hd; rfl
  rw [if_neg h1] at hd ⊢
  by_cases h2 : t = .deterministicNeighbor
  · rw [if_pos h2] at hd ⊢; split at hd <;> cases hd; rfl
  rw [if_neg h2] at hd ⊢
  cases hs : c.dispersalStochasticity <;> rw [hs] at hd
  · rw [if_pos (by decide : (!false) = true)] at hd; cases hd; rfl
  · rw [if_neg (by decide : ¬(!true) = true)] at hd
    split at hd
    · cases hd
    · split at hd <;> cases hd; rfl

theorem createAnthro_cls (c : KernelConfig) (t : DispersalKernelType) (d : KernelDesc)
    (ht : kernelTypeFromString c.anthroKernelType = .ok t) (hd : createAnthroKernel c = .ok d) :
    d.cls = builtClass true c.dispersalStochasticity t := by
  simp only [createAnthroKernel, ht, bind, Except.bind, pure, Except.pure] at hd
  simp only [builtClass, true_and]
  by_cases h1 : t = .uniform
  · rw [if_pos h1] at hd ⊢; cases hd; rfl
  rw [if_neg h1] at hd ⊢
  by_cases h2 : t = .deterministicNeighbor
  · rw [if_pos h2] at hd ⊢; split at hd <;> cases hd; rfl
  rw [if_neg h2] at hd ⊢
  by_cases h3 : t = .network
  · rw [if_pos h3] at hd ⊢; split at hd <;> cases hd <;> rfl
  rw [if_neg h3] at hd ⊢
  cases hs : c.dispersalStochasticity <;> rw [hs] at hd
  · rw [if_pos (by decide : (!false) = true)] at hd; cases hd; rfl
  · rw [if_neg (by decide : ¬(!true) = true)] at hd
    split at hd
    · cases hd
    · split at hd <;> cases hd; rfl

/-- `create_anthro_kernel` with a name of the network kernel: the teleporting constructor iff
    `network_movement == "teleport"`, else the walking constructor with the configured bounds and
    `jump = (network_movement == "jump")`. -/
theorem createAnthro_network (c : KernelConfig)
    (ht : kernelTypeFromString c.anthroKernelType = .ok .network) :
    createAnthroKernel c = .ok (if c.networkMovement = "teleport" then .networkTeleport
      else .networkWalk c.networkMinDistance c.networkMaxDistance (decide (c.networkMovement = "jump"))) := by
  simp only [createAnthroKernel, ht, bind, Except.bind, pure, Except.pure, reduceCtorEq, if_false, if_true]
  split <;> rfl

end Pops
