/-
  Helpers for the non-vacuity instances of the host-pool properties (Props/NonVacuous/Host.lean):
  the domain predicates of Model/HostOps.lean and Model/RunStep.lean are decidable on concrete
  data, so that a concrete instance of `DomainAlong` / `GensDomainAlong` can be checked by
  evaluation (`decide +kernel`).
-/
import PopsModel.Model.RunStep
namespace Pops

instance instDecidableValidDraw (a : List Int) (n : Int) (d : List Int) : Decidable (ValidDraw a n d) :=
  inferInstanceAs (Decidable (d.length = a.length ∧ (∀ k : Nat, k < d.length → 0 ≤ d[k]! ∧ d[k]! ≤ a[k]!) ∧
    sumL d = min n (sumL a)))

instance instDecidableCellOpInDomain : (op : CellOp) → (c : Cell) → Decidable (op.inDomain c)
  | .add mt, c => inferInstanceAs (Decidable ((mt = .si → c.mort ≠ []) ∧ (mt = .sei → c.e ≠ [])))
  | .dispTo mt _ _ _ _, c => inferInstanceAs (Decidable ((mt = .si → c.mort ≠ []) ∧ (mt = .sei → c.e ≠ [])))
  | .pestsFrom k, c => inferInstanceAs (Decidable (0 ≤ k ∧ k ≤ c.i))
  | .pestsTo k, _ => inferInstanceAs (Decidable (0 ≤ k))
  | .simpleTreat coef _, _ => inferInstanceAs (Decidable (0 ≤ coef ∧ coef ≤ 1))
  | .pesticideTreat coef _, _ => inferInstanceAs (Decidable (0 ≤ coef ∧ coef ≤ 1))
  | .pesticideEnd _, _ => inferInstanceAs (Decidable True)
  | .survival ratio dI dE, c => inferInstanceAs (Decidable (0 ≤ ratio ∧ ratio ≤ 1 ∧
      (ratio < 1 → ValidDraw c.mort (c.ratioRemovedInfected ratio) dI ∧
        ValidDraw c.e ((c.removeInfected (c.ratioRemovedInfected ratio) dI).ratioRemovedExposed ratio) dE)))
  | .lethal d, c => inferInstanceAs (Decidable (ValidDraw c.mort c.i d))
  | .mortality rate lag, _ => inferInstanceAs (Decidable (0 ≤ rate ∧ rate ≤ 1 ∧ 0 ≤ lag))
  | .stepForward mt _ _, c => inferInstanceAs (Decidable (mt = .sei → (c.e ≠ [] ∧ c.mort ≠ [])))

/-- Executable form of `LandOp.inDomain`. -/
def LandOp.inDomainB : LandOp → Land → Bool
  | .at k op, l => match l[k]? with
    | none => true
    | some c => decide (op.inDomain c)
  | .move a _ count d dE dM, l => match l[a]? with
    | none => true
    | some src => decide (0 ≤ count ∧ validClassDrawB src count d = true ∧
        (d.e > 0 → ValidDraw src.e d.e dE) ∧ (d.i > 0 → ValidDraw src.mort d.i dM))

theorem LandOp.inDomain_of_B (op : LandOp) (l : Land) (h : op.inDomainB l = true) : op.inDomain l := by
  cases op with
  | «at» k op =>
    intro c hc
    simp only [LandOp.inDomainB, hc, decide_eq_true_eq] at h
    exact h
  | move a b count d dE dM =>
    intro src hs
    simp only [LandOp.inDomainB, hs, decide_eq_true_eq] at h
    exact h

/-- Executable form of `DomainAlong`. -/
def domainAlongB : List LandOp → Land → Bool
  | [], _ => true
  | op :: rest, l => op.inDomainB l &&
      match op.apply l with
      | .ok l' => domainAlongB rest l'
      | .error _ => true

theorem domainAlong_of_B (ops : List LandOp) (l : Land) (h : domainAlongB ops l = true) :
    DomainAlong ops l := by
  induction ops generalizing l with
  | nil => trivial
  | cons op rest ih =>
    simp only [domainAlongB, Bool.and_eq_true] at h
    refine ⟨LandOp.inDomain_of_B op l h.1, fun l' hl' => ih l' ?_⟩
    have h2 := h.2
    rwa [hl'] at h2

/-- Executable form of `GensDomainAlong`. -/
def gensDomainAlongB : List OpGen → Land → Bool
  | [], _ => true
  | gen :: rest, l => domainAlongB (gen l) l &&
      match runOps (gen l) l with
      | .ok l' => gensDomainAlongB rest l'
      | .error _ => true

theorem gensDomainAlong_of_B (gens : List OpGen) (l : Land) (h : gensDomainAlongB gens l = true) :
    GensDomainAlong gens l := by
  induction gens generalizing l with
  | nil => trivial
  | cons gen rest ih =>
    simp only [gensDomainAlongB, Bool.and_eq_true] at h
    refine ⟨domainAlong_of_B (gen l) l h.1, fun l' hl' => ih l' ?_⟩
    have h2 := h.2
    rwa [hl'] at h2

/-- Executable comparison of a result with an expected value. -/
def yields {α : Type} [DecidableEq α] (r : Except ErrKind α) (x : α) : Bool :=
  match r with
  | .ok a => decide (a = x)
  | .error _ => false

theorem eq_ok_of_yields {α : Type} [DecidableEq α] {r : Except ErrKind α} {x : α}
    (h : yields r x = true) : r = .ok x := by
  cases r with
  | error e => cases h
  | ok a => simp only [yields, decide_eq_true_eq] at h; rw [h]

/-- Executable comparison of a result with an expected error. -/
def failsWith {α : Type} (r : Except ErrKind α) (e : ErrKind) : Bool :=
  match r with
  | .error e' => decide (e' = e)
  | .ok _ => false

theorem eq_error_of_failsWith {α : Type} {r : Except ErrKind α} {e : ErrKind}
    (h : failsWith r e = true) : r = .error e := by
  cases r with
  | ok a => cases h
  | error e' => simp only [failsWith, decide_eq_true_eq] at h; rw [h]

/-- `Land.inv` and `Land.uniform` in executable form. -/
def Land.invB (l : Land) : Bool := l.all fun c => c.nonNeg && c.totalsOK

theorem Land.inv_of_B (l : Land) (h : l.invB = true) : l.inv := by
  intro c hc
  simp only [Land.invB, List.all_eq_true, Bool.and_eq_true] at h
  exact h c hc

def Land.uniformB (l : Land) : Bool :=
  l.all fun a => l.all fun b => decide (a.e.length = b.e.length) && decide (a.mort.length = b.mort.length)

theorem Land.uniform_of_B (l : Land) (h : l.uniformB = true) : l.uniform := by
  intro a ha b hb
  simp only [Land.uniformB, List.all_eq_true, Bool.and_eq_true, decide_eq_true_eq] at h
  exact h a ha b hb

end Pops
