/-
  Whole runs of `Model::run_step` (Model/RunModel.lean): the run of `a ++ b` is the run of `a` followed
  by the run of `b` from the step after (also for the removed count and the domain), the per-step
  facts of C01/C02/C03/C05 are carried along a run, a run depends on its inputs only through
  `stepGens`, and `RunDomainAlong` has an executable form for concrete instances.
-/
import PopsModel.Model.RunModel
import PopsModel.Props.C01Step
import PopsModel.Lemmas.OffSeason
import PopsModel.Lemmas.NonVacuousHost
namespace Pops

theorem runModel_nil (cfg : StepCfg) (first : Nat) (l : Land) : runModel cfg [] first l = .ok l := rfl

theorem runModel_cons_ok (cfg : StepCfg) (inp : StepInputs) (rest : List StepInputs) (first : Nat)
    (l m : Land) (h : runStepHosts cfg inp first l = .ok m) :
    runModel cfg (inp :: rest) first l = runModel cfg rest (first + 1) m := by
  simp only [runModel, bind, Except.bind, h]

theorem runModel_cons_error (cfg : StepCfg) (inp : StepInputs) (rest : List StepInputs) (first : Nat)
    (l : Land) (e : ErrKind) (h : runStepHosts cfg inp first l = .error e) :
    runModel cfg (inp :: rest) first l = .error e := by
  simp only [runModel, bind, Except.bind, h]

theorem runModel_single (cfg : StepCfg) (inp : StepInputs) (first : Nat) (l : Land) :
    runModel cfg [inp] first l = runStepHosts cfg inp first l := by
  cases h1 : runStepHosts cfg inp first l with
  | error e => rw [runModel_cons_error cfg inp [] first l e h1]
  | ok m => rw [runModel_cons_ok cfg inp [] first l m h1]; rfl

theorem runModel_cons_inv (cfg : StepCfg) (inp : StepInputs) (rest : List StepInputs) (first : Nat)
    (l l' : Land) (h : runModel cfg (inp :: rest) first l = .ok l') :
    ∃ m, runStepHosts cfg inp first l = .ok m ∧ runModel cfg rest (first + 1) m = .ok l' :=
  except_bind_ok h

theorem removedByRun_cons_ok (cfg : StepCfg) (inp : StepInputs) (rest : List StepInputs) (first : Nat)
    (l m : Land) (h : runStepHosts cfg inp first l = .ok m) :
    removedByRun cfg (inp :: rest) first l =
      removedByGens (stepGens cfg inp first) l + removedByRun cfg rest (first + 1) m := by
  simp only [removedByRun, h]

theorem step_shift (first n : Nat) : first + (n + 1) = first + 1 + n := by omega

/-- Running `a ++ b` is running `a` and then `b` from the step after the last step of `a`. -/
theorem runModel_append (cfg : StepCfg) (a b : List StepInputs) (first : Nat) (l : Land) :
    runModel cfg (a ++ b) first l =
      (runModel cfg a first l >>= fun m => runModel cfg b (first + a.length) m) := by
  induction a generalizing first l with
  | nil => rfl
  | cons inp rest ih =>
    rw [List.length_cons, step_shift first rest.length, List.cons_append]
    cases h1 : runStepHosts cfg inp first l with
    | error e =>
      rw [runModel_cons_error cfg inp _ first l e h1, runModel_cons_error cfg inp _ first l e h1]
      rfl
    | ok m =>
      rw [runModel_cons_ok cfg inp _ first l m h1, runModel_cons_ok cfg inp _ first l m h1]
      exact ih (first + 1) m

theorem runModel_append_ok (cfg : StepCfg) {a : List StepInputs} (b : List StepInputs) {first : Nat}
    {l m : Land} (h : runModel cfg a first l = .ok m) :
    runModel cfg (a ++ b) first l = runModel cfg b (first + a.length) m := by
  rw [runModel_append, h]; rfl

theorem runModel_append_inv (cfg : StepCfg) (a b : List StepInputs) (first : Nat) (l l' : Land)
    (h : runModel cfg (a ++ b) first l = .ok l') :
    ∃ m, runModel cfg a first l = .ok m ∧ runModel cfg b (first + a.length) m = .ok l' := by
  rw [runModel_append] at h
  exact except_bind_ok h

theorem removedByRun_append (cfg : StepCfg) (a b : List StepInputs) (first : Nat) (l m : Land)
    (h : runModel cfg a first l = .ok m) :
    removedByRun cfg (a ++ b) first l =
      removedByRun cfg a first l + removedByRun cfg b (first + a.length) m := by
  induction a generalizing first l with
  | nil => cases h; exact (Int.zero_add _).symm
  | cons inp rest ih =>
    obtain ⟨x, hx, hr⟩ := runModel_cons_inv cfg inp rest first l m h
    rw [List.cons_append, removedByRun_cons_ok cfg inp _ first l x hx,
      removedByRun_cons_ok cfg inp _ first l x hx, ih (first + 1) x hr, List.length_cons, step_shift first rest.length,
      Int.add_assoc]

/-- The domain along a run of `a ++ b` is the domain along `a` together with the domain along `b`
    at the landscape `a` leaves. -/
theorem runDomainAlong_append_iff (cfg : StepCfg) (a b : List StepInputs) (first : Nat) (l : Land) :
    RunDomainAlong cfg (a ++ b) first l ↔
      (RunDomainAlong cfg a first l ∧
        ∀ m, runModel cfg a first l = .ok m → RunDomainAlong cfg b (first + a.length) m) := by
  induction a generalizing first l with
  | nil => exact ⟨fun hd => ⟨trivial, fun m hm => by cases hm; exact hd⟩, fun hd => hd.2 l rfl⟩
  | cons inp rest ih =>
    rw [List.length_cons, step_shift first rest.length]
    constructor
    · intro hd
      refine ⟨⟨hd.1, fun x hx => ((ih (first + 1) x).mp (hd.2 x hx)).1⟩, fun m hm => ?_⟩
      obtain ⟨x, hx, hr⟩ := runModel_cons_inv cfg inp rest first l m hm
      exact ((ih (first + 1) x).mp (hd.2 x hx)).2 m hr
    · intro hd
      refine ⟨hd.1.1, fun x hx => (ih (first + 1) x).mpr ⟨hd.1.2 x hx, fun m hm => hd.2 m ?_⟩⟩
      rw [runModel_cons_ok cfg inp rest first l x hx]
      exact hm

theorem runDomainAlong_append_ok (cfg : StepCfg) {a b : List StepInputs} {first : Nat} {l m : Land}
    (ha : RunDomainAlong cfg a first l) (h : runModel cfg a first l = .ok m)
    (hb : RunDomainAlong cfg b (first + a.length) m) : RunDomainAlong cfg (a ++ b) first l :=
  (runDomainAlong_append_iff cfg a b first l).mpr
    ⟨ha, fun m' hm' => by rw [h] at hm'; cases hm'; exact hb⟩

theorem runDomainAlong_append_left (cfg : StepCfg) (a b : List StepInputs) (first : Nat) (l : Land)
    (hd : RunDomainAlong cfg (a ++ b) first l) : RunDomainAlong cfg a first l :=
  ((runDomainAlong_append_iff cfg a b first l).mp hd).1

theorem runDomainAlong_append_right (cfg : StepCfg) (a b : List StepInputs) (first : Nat) (l m : Land)
    (hd : RunDomainAlong cfg (a ++ b) first l) (h : runModel cfg a first l = .ok m) :
    RunDomainAlong cfg b (first + a.length) m :=
  ((runDomainAlong_append_iff cfg a b first l).mp hd).2 m h

/-- C01 + C02/C03 along a run, by induction on the list of step inputs over `C01_generators`. -/
theorem run_facts (cfg : StepCfg) (inps : List StepInputs) (first : Nat) (l l' : Land)
    (hinv : l.inv) (hu : l.uniform) (hd : RunDomainAlong cfg inps first l)
    (h : runModel cfg inps first l = .ok l') :
    l'.hosts = l.hosts - (l'.died - l.died) - removedByRun cfg inps first l ∧
    0 ≤ removedByRun cfg inps first l ∧ l.died ≤ l'.died ∧ l'.hosts ≤ l.hosts ∧ l'.inv ∧ l'.uniform := by
  induction inps generalizing first l with
  | nil =>
    cases h
    exact ⟨by rw [Int.sub_self, removedByRun, Int.sub_zero, Int.sub_zero], Int.le_refl 0,
      Int.le_refl _, Int.le_refl _, hinv, hu⟩
  | cons inp rest ih =>
    obtain ⟨m, hm, hr⟩ := runModel_cons_inv cfg inp rest first l l' h
    obtain ⟨a1, a2, a3, a4, a5, a6⟩ := C01_generators (stepGens cfg inp first) l m hinv hu hd.1 hm
    obtain ⟨b1, b2, b3, b4, b5, b6⟩ := ih (first + 1) m a5 a6 (hd.2 m hm) hr
    rw [removedByRun_cons_ok cfg inp rest first l m hm]
    exact ⟨ledger_add a1 b1, Int.add_nonneg a2 b2, Int.le_trans a3 b3, Int.le_trans b4 a4, b5, b6⟩

/-- C05 along a run none of whose steps is a spread step. -/
theorem run_frozen (cfg : StepCfg) (inps : List StepInputs) (first : Nat) (l l' : Land)
    (hns : ∀ k, k < inps.length → schedAt cfg.spreadSched (first + k) = false)
    (hinv : l.inv) (hd : RunDomainAlong cfg inps first l)
    (h : runModel cfg inps first l = .ok l') : FrozenL l l' ∧ l'.inv := by
  induction inps generalizing first l with
  | nil =>
    simp only [runModel, Except.ok.injEq] at h; subst h
    exact ⟨FrozenL.refl l, hinv⟩
  | cons inp rest ih =>
    obtain ⟨m, hm, hr⟩ := runModel_cons_inv cfg inp rest first l l' h
    have h0 : schedAt cfg.spreadSched first = false := hns 0 (Nat.zero_lt_succ _)
    obtain ⟨f1, i1⟩ := gens_frozen (stepGens cfg inp first) l m
      (stepGens_offSeason cfg inp first h0) hinv hd.1 hm
    obtain ⟨f2, i2⟩ := ih (first + 1) m (fun k hk => by
      rw [← step_shift first k]; exact hns (k + 1) (Nat.succ_lt_succ hk)) i1 (hd.2 m hm) hr
    exact ⟨f1.trans f2, i2⟩

/-- Two input records that agree on the generators of the actions that run have the same step
    generators. -/
theorem stepGens_congr (cfg : StepCfg) (inp inp' : StepInputs) (step : Nat)
    (h : ∀ a, cfg.runs step a = true → actionGen inp step a = actionGen inp' step a) :
    stepGens cfg inp step = stepGens cfg inp' step := by
  simp only [stepGens]
  apply List.map_congr_left
  intro a ha
  exact h a.1 ((act_plan_iff cfg step a.1).mp (List.mem_map.mpr ⟨a, ha, rfl⟩))

/-- Two lists of step inputs of the same length that agree, step by step, on the generators of the
    actions that run give the same run, the same removed count and the same domain: all three
    depend on the inputs only through `stepGens`. -/
theorem run_frame (cfg : StepCfg) (inps inps' : List StepInputs) (first : Nat) (l : Land)
    (hlen : inps.length = inps'.length)
    (h : ∀ k inp inp', inps[k]? = some inp → inps'[k]? = some inp' →
      ∀ a, cfg.runs (first + k) a = true →
        actionGen inp (first + k) a = actionGen inp' (first + k) a) :
    runModel cfg inps first l = runModel cfg inps' first l ∧
    removedByRun cfg inps first l = removedByRun cfg inps' first l ∧
    (RunDomainAlong cfg inps first l ↔ RunDomainAlong cfg inps' first l) := by
  induction inps generalizing inps' first l with
  | nil =>
    cases inps' with
    | nil => exact ⟨rfl, rfl, Iff.rfl⟩
    | cons x xs => cases hlen
  | cons inp rest ih =>
    cases inps' with
    | nil => cases hlen
    | cons inp' rest' =>
      have hg : stepGens cfg inp first = stepGens cfg inp' first :=
        stepGens_congr cfg inp inp' first (h 0 inp inp' rfl rfl)
      have ih' := fun m => ih rest' (first + 1) m (Nat.succ.inj hlen) fun k x x' hx hx' a ha => by
        rw [← step_shift first k] at ha ⊢
        exact h (k + 1) x x' hx hx' a ha
      simp only [runModel, removedByRun, RunDomainAlong, runStepHosts, hg]
      refine ⟨?_, ?_, and_congr Iff.rfl (forall_congr' fun m => imp_congr Iff.rfl (ih' m).2.2)⟩
      · exact congrArg _ (funext fun m => (ih' m).1)
      · cases runGens (stepGens cfg inp' first) l with
        | error e => rfl
        | ok m => exact congrArg (_ + ·) (ih' m).2.1

def runDomainAlongB (cfg : StepCfg) : List StepInputs → Nat → Land → Bool
  | [], _, _ => true
  | inp :: rest, step, l => gensDomainAlongB (stepGens cfg inp step) l &&
      match runStepHosts cfg inp step l with
      | .ok l' => runDomainAlongB cfg rest (step + 1) l'
      | .error _ => true

theorem runDomainAlong_of_B (cfg : StepCfg) (inps : List StepInputs) (first : Nat) (l : Land)
    (h : runDomainAlongB cfg inps first l = true) : RunDomainAlong cfg inps first l := by
  induction inps generalizing first l with
  | nil => trivial
  | cons inp rest ih =>
    simp only [runDomainAlongB, Bool.and_eq_true] at h
    refine ⟨gensDomainAlong_of_B _ l h.1, fun l' hl' => ih (first + 1) l' ?_⟩
    have h2 := h.2
    rwa [hl'] at h2

end Pops
