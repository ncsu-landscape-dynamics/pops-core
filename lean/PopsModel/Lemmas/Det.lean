/-
  C14: structural lemmas about the model of `DeterministicDispersalKernel` (Model/Det.lean), for any
  number type `TF α` (in particular `TF.float`, the instance the driver runs, and `TF.real`), and the
  constructor checks of the law classes (Model/DetCtor.lean) against their specification table.
  Core Lean only.
-/
import PopsModel.Model.Det
import PopsModel.Model.DetCtor
import PopsModel.Model.DetPred
namespace Pops.Det

variable {α : Type}

theorem mapM_except_ok {β γ : Type} (f : β → Except ErrKind γ) :
    ∀ (l : List β) (r : List γ), l.mapM f = .ok r →
      r.length = l.length ∧ ∀ k (hk : k < l.length), ∃ v, f l[k] = .ok v ∧ r[k]? = some v
  | [], r, h => by
    cases h
    exact ⟨rfl, fun k hk => absurd hk (Nat.not_lt_zero k)⟩
  | x :: xs, r, h => by
    rw [List.mapM_cons] at h
    cases hx : f x with
    | error e => rw [hx] at h; cases h
    | ok v =>
      cases hxs : xs.mapM f with
      | error e => rw [hx, hxs] at h; cases h
      | ok vs =>
        rw [hx, hxs] at h
        cases h
        obtain ⟨hl, hall⟩ := mapM_except_ok f xs vs hxs
        exact ⟨congrArg (· + 1) hl, fun k hk => match k with
          | 0 => ⟨v, hx, rfl⟩
          | k + 1 => hall k (Nat.lt_of_succ_lt_succ hk)⟩

theorem cell_lt {rows cols i j : Nat} (hi : i < rows) (hj : j < cols) : i * cols + j < rows * cols :=
  calc i * cols + j < (i + 1) * cols := by rw [Nat.add_mul, Nat.one_mul]; omega
    _ ≤ rows * cols := Nat.mul_le_mul_right _ hi

theorem mirrorCells_lt {rows cols c d : Nat} (hc : c < rows * cols) (hd : d ∈ mirrorCells rows cols c) :
    d < rows * cols := by
  have hcols : 0 < cols := Nat.pos_of_ne_zero fun h0 => by rw [h0, Nat.mul_zero] at hc; omega
  have hi : c / cols < rows := (Nat.div_lt_iff_lt_mul hcols).mpr hc
  have hj : c % cols < cols := Nat.mod_lt _ hcols
  simp only [mirrorCells, List.mem_cons, List.not_mem_nil, or_false] at hd
  generalize c / cols = i at hd hi
  generalize c % cols = j at hd hj
  rcases hd with rfl | rfl | rfl
  · exact cell_lt (by omega) hj
  · exact cell_lt hi (by omega)
  · exact cell_lt (by omega) (by omega)

theorem cellDist_neg_row (T : TF α) (ns ew : α) (di dj : Int) :
    cellDist T ns ew (-di) dj = cellDist T ns ew di dj := by
  simp [cellDist, Int.natAbs_neg]

theorem cellDist_neg_col (T : TF α) (ns ew : α) (di dj : Int) :
    cellDist T ns ew di (-dj) = cellDist T ns ew di dj := by
  simp [cellDist, Int.natAbs_neg]

/-- What a successfully built kernel consists of: the quantile, the window dimensions, the centre,
    and per cell `abs (pdf (distance))` divided by the scan-order sum. -/
theorem build_ok (T : TF α) (lw : Law) (pct ew ns scale shape : α) (K : Kernel α)
    (h : build T (some lw) pct ew ns scale shape = .ok K) :
    K.law = some lw ∧ lawIcdf T lw scale shape pct = .ok K.dmax ∧
    (K.rows, K.cols) = windowDims T K.dmax ns ew ∧ 0 ≤ K.rows * K.cols ∧
    K.midRow = Int.tdiv K.rows 2 ∧ K.midCol = Int.tdiv K.cols 2 ∧
    ∃ raw, rawWeights T lw scale shape ns ew K.rows.toNat K.cols.toNat K.midRow K.midCol = .ok raw ∧
      K.prob = raw.map (T.div · (sumScan T raw)) := by
  simp only [build] at h
  split at h
  · cases h
  unfold buildLaw at h
  split at h
  · cases h
  next dmax hd =>
  simp only at h
  split at h
  · cases h
  split at h
  · cases h
  next raw hraw =>
  cases h
  exact ⟨rfl, hd, rfl, by simp only; omega, rfl, rfl, raw, hraw, rfl⟩

/-- **Distance / proportionality.** Cell `(i, j)` of the window carries
    `abs (pdf (sqrt ((|mid_row - i| * ns)^2 + (|mid_col - j| * ew)^2))) / sum`. -/
theorem build_weight (T : TF α) (lw : Law) (pct ew ns scale shape : α) (K : Kernel α)
    (h : build T (some lw) pct ew ns scale shape = .ok K) (i j : Nat)
    (hi : i < K.rows.toNat) (hj : j < K.cols.toNat) :
    ∃ raw v, rawWeights T lw scale shape ns ew K.rows.toNat K.cols.toNat K.midRow K.midCol = .ok raw ∧
      lawPdf T lw scale shape (cellDist T ns ew (K.midRow - i) (K.midCol - j)) = .ok v ∧
      K.prob[i * K.cols.toNat + j]? = some (T.div (T.abs v) (sumScan T raw)) := by
  obtain ⟨_, _, _, _, _, _, raw, hraw, hprob⟩ := build_ok T lw pct ew ns scale shape K h
  obtain ⟨hlen, hall⟩ := mapM_except_ok _ _ _ hraw
  obtain ⟨w, hw, hr⟩ := hall (i * K.cols.toNat + j) (List.length_range ▸ cell_lt hi hj)
  have hdiv : (i * K.cols.toNat + j) / K.cols.toNat = i := by
    rw [Nat.mul_comm, Nat.mul_add_div (by omega), Nat.div_eq_of_lt hj, Nat.add_zero]
  have hmod : (i * K.cols.toNat + j) % K.cols.toNat = j := by
    rw [Nat.mul_comm, Nat.mul_add_mod, Nat.mod_eq_of_lt hj]
  simp only [List.getElem_range, hdiv, hmod, rawWeight] at hw
  cases hv : lawPdf T lw scale shape (cellDist T ns ew (K.midRow - i) (K.midCol - j)) with
  | error e => rw [hv] at hw; simp [Except.map] at hw
  | ok v =>
    rw [hv] at hw
    simp only [Except.map, Except.ok.injEq] at hw
    refine ⟨raw, v, hraw, rfl, ?_⟩
    rw [hprob, List.getElem?_map, hr, ← hw]; rfl

/-! ### Constructor validation: the classes' checks against the specification table -/

theorem ParamCheck.not_rejects_of_pos (c : ParamCheck) {x : Rat} (hx : 0 < x) : ¬ c.rejects x := by
  cases c
  · exact Rat.not_le.mpr hx
  · exact fun h => Rat.lt_irrefl (h ▸ hx)
  · exact id

theorem ParamCheck.rejects_zero {c : ParamCheck} (hc : c ≠ .unchecked) : c.rejects 0 := by
  cases c
  · exact Rat.le_refl
  · rfl
  · exact absurd rfl hc

/-- Each class throws exactly when the table rejects one of its two arguments (the Weibull class
    tests the shape first, which is immaterial). -/
theorem lawCtorCheck_eq (law : Law) (scale shape : Rat) :
    lawCtorCheck law scale shape =
      if law.scaleCheck.rejects scale ∨ law.shapeCheck.rejects shape then .error .invalid_argument
      else .ok () := by
  cases law <;> exact ite_congr
    (by simp only [Law.scaleCheck, Law.shapeCheck, ParamCheck.rejects, false_or, or_comm])
    (fun _ => rfl) (fun _ => rfl)

section
variable {law : Law} {scale shape : Rat}

theorem lawCtorCheck_error_iff : lawCtorCheck law scale shape = .error .invalid_argument ↔
    law.scaleCheck.rejects scale ∨ law.shapeCheck.rejects shape := by
  rw [lawCtorCheck_eq]
  split
  · next h => exact iff_of_true rfl h
  · next h => exact iff_of_false (fun e => by cases e) h

theorem lawCtorCheck_ok_iff : lawCtorCheck law scale shape = .ok () ↔
    ¬(law.scaleCheck.rejects scale ∨ law.shapeCheck.rejects shape) := by
  rw [lawCtorCheck_eq]
  split
  · next h => exact iff_of_false (fun e => by cases e) (not_not_intro h)
  · next h => exact iff_of_true rfl h

theorem lawCtorCheck_error_kind {e : ErrKind} (h : lawCtorCheck law scale shape = .error e) :
    e = .invalid_argument := by
  rw [lawCtorCheck_eq] at h
  split at h <;> cases h
  rfl

end

theorem Law.shapeCheck_of_not_usesShape {law : Law} (h : law.usesShape = false) :
    law.shapeCheck = .unchecked := by
  cases law <;> first | rfl | cases h

theorem Law.scaleCheck_ne_unchecked {law : Law} (h : law ≠ .powerlaw) : law.scaleCheck ≠ .unchecked := by
  cases law <;> first | exact absurd rfl h | exact fun e => by cases e

theorem Law.rejects_iff_of_validatesPositivity {law : Law} (h : law.validatesPositivity = true)
    (scale shape : Rat) :
    law.scaleCheck.rejects scale ∨ law.shapeCheck.rejects shape ↔
      scale ≤ 0 ∨ (law.usesShape = true ∧ shape ≤ 0) :=
  match law, h with
  | .cauchy, _ | .exponential, _ | .lognormal, _ | .logistic, _ =>
    or_congr_right ⟨False.elim, fun h => nomatch h.1⟩
  | .weibull, _ | .gamma, _ | .exppower, _ => or_congr_right ⟨fun h => ⟨rfl, h⟩, fun h => h.2⟩

/-! ### `operator()`: reset exactly when the source cell changes -/

theorem sourceChanged_iff (s : KState α) (row col : Int) :
    sourceChanged s row col = true ↔ (row, col) ≠ (s.prevRow, s.prevCol) := by
  simp only [sourceChanged, Bool.or_eq_true, bne_iff_ne, ne_eq, Prod.mk.injEq, not_and]
  constructor
  · rintro (h | h) h1
    · exact absurd h1 h
    · exact h
  · intro h
    by_cases h1 : row = s.prevRow
    · exact Or.inr (h h1)
    · exact Or.inl h1

theorem pickStep_copy (lt : α → α → Bool) (sub : α → α → α) (init δ : α) (c : List α)
    (k1 k2 : List Nat) :
    (pickStep lt sub init δ { copy := c, counts := k1 }).1.copy =
      (pickStep lt sub init δ { copy := c, counts := k2 }).1.copy := by
  simp only [pickStep]
  cases argmaxScan lt init c <;> rfl

/-- `m` further calls for the same source cell. -/
def callN (T : TF α) (K : Kernel α) (row col n : Int) : Nat → KState α → KState α
  | 0, s => s
  | m + 1, s =>
    match call T K (callN T K row col n m s) row col n with
    | .ok (s', _) => s'
    | .error _ => callN T K row col n m s

theorem callN_succ {T : TF α} {K : Kernel α} {row col n : Int} {m : Nat} {s s' : KState α} {cell : Int × Int}
    (h : call T K (callN T K row col n m s) row col n = .ok (s', cell)) :
    callN T K row col n (m + 1) s = s' := by
  rw [callN, h]

end Pops.Det
