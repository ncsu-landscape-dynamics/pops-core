/-
  Lemmas for C13 (core Lean only): rational radial geometry, von Mises algebra, samplers,
  the radial kernel's call, and the factories.
-/
import PopsModel.Lemmas.Kern
import PopsModel.Model.KernRadial
namespace Pops

theorem radialTargetQ_north (row col : Int) (d ns ew : Rat) :
    radialTargetQ row col d 1 0 ns ew = (row - lround (d / ns), col) := by
  simp only [radialTargetQ, radialStep, Rat.mul_one, Rat.mul_zero, Rat.div_def, Rat.zero_mul, lround_zero]
  simp

theorem radialTargetQ_east (row col : Int) (d ns ew : Rat) :
    radialTargetQ row col d 0 1 ns ew = (row, col + lround (d / ew)) := by
  simp only [radialTargetQ, radialStep, Rat.mul_one, Rat.mul_zero, Rat.div_def, Rat.zero_mul, lround_zero]
  simp

theorem radialTargetQ_south (row col : Int) (d ns ew : Rat) :
    radialTargetQ row col d (-1) 0 ns ew = (row + lround (d / ns), col) := by
  have h : d * (-1) / ns = -(d / ns) := by
    rw [Rat.mul_neg, Rat.mul_one, Rat.div_def, Rat.div_def, Rat.neg_mul]
  simp only [radialTargetQ, radialStep, Rat.mul_zero, h, lround_neg, Rat.div_def 0, Rat.zero_mul, lround_zero]
  simp

theorem radialTargetQ_west (row col : Int) (d ns ew : Rat) :
    radialTargetQ row col d 0 (-1) ns ew = (row, col - lround (d / ew)) := by
  have h : d * (-1) / ew = -(d / ew) := by
    rw [Rat.mul_neg, Rat.mul_one, Rat.div_def, Rat.div_def, Rat.neg_mul]
  simp only [radialTargetQ, radialStep, Rat.mul_zero, h, lround_neg, Rat.div_def 0, Rat.zero_mul, lround_zero]
  refine Prod.ext (by simp) (by simp only []; omega)

/-- A whole number `m` of cells in map units of the axis' own resolution moves exactly `m` cells. -/
theorem radialTargetQ_cells_north (row col m : Int) (ns ew : Rat) (hns : ns ≠ 0) :
    radialTargetQ row col ((m : Rat) * ns) 1 0 ns ew = (row - m, col) := by
  rw [radialTargetQ_north, Rat.mul_div_cancel hns, lround_intCast]

theorem radialTargetQ_cells_east (row col m : Int) (ns ew : Rat) (hew : ew ≠ 0) :
    radialTargetQ row col ((m : Rat) * ew) 0 1 ns ew = (row, col + m) := by
  rw [radialTargetQ_east, Rat.mul_div_cancel hew, lround_intCast]

/-- The row offset is the north-south component divided by `ns`, the column offset the east-west
    component divided by `ew`, each to within half a cell. -/
theorem radialTargetQ_within_half_cell (row col : Int) (d c s ns ew : Rat) :
    let t := radialTargetQ row col d c s ns ew
    (((row - t.1 : Int) : Rat) - d * c / ns ≤ 1 / 2 ∧ d * c / ns - ((row - t.1 : Int) : Rat) ≤ 1 / 2) ∧
    (((t.2 - col : Int) : Rat) - d * s / ew ≤ 1 / 2 ∧ d * s / ew - ((t.2 - col : Int) : Rat) ≤ 1 / 2) := by
  simp only [radialTargetQ, radialStep]
  have e1 : row - (row - lround (d * c / ns)) = lround (d * c / ns) := by omega
  have e2 : col + lround (d * s / ew) - col = lround (d * s / ew) := by omega
  rw [e1, e2]
  exact ⟨lround_close _, lround_close _⟩

/-! ### Von Mises algebra and samplers (generic in the number type) -/

section Generic
variable {α : Type} (T : TF α)

/-- `kappa <= 1e-6`: the angle is `2 * PI * U`, one uniform value consumed. -/
theorem vonMises_small_kappa (mu kappa u : α) (rest : List α)
    (h : T.leb kappa (vonMisesEps T) = true) :
    vonMises T mu kappa (u :: rest) = some (T.mul (T.mul (T.ofNat 2) T.pi) u, rest) := by
  simp only [vonMises, h, if_true]

/-- Otherwise: with `f` the value accepted by the rejection loop and `u3` the next uniform value,
    the angle is `fmod(mu + acos f, 2 PI)` when `u3 > 0.5` and `fmod(mu - acos f, 2 PI)` when not. -/
theorem vonMises_mirror (mu kappa f u3 : α) (us rest : List α)
    (h : T.leb kappa (vonMisesEps T) = false)
    (hloop : vonMisesLoop T kappa (vonMisesR T kappa) us = some (f, u3 :: rest)) :
    vonMises T mu kappa us =
      some (if T.ltb (T.div (T.ofNat 1) (T.ofNat 2)) u3 then T.fmod (T.add mu (T.acos f)) (T.mul (T.ofNat 2) T.pi)
            else T.fmod (T.sub mu (T.acos f)) (T.mul (T.ofNat 2) T.pi), rest) := by
  unfold vonMises
  rw [h]
  simp only [Bool.false_eq_true, if_false, hloop]
  split <;> rfl

theorem vonMises_loop_of_some (mu kappa theta : α) (us rest : List α)
    (h : T.leb kappa (vonMisesEps T) = false) (hv : vonMises T mu kappa us = some (theta, rest)) :
    ∃ f u3, vonMisesLoop T kappa (vonMisesR T kappa) us = some (f, u3 :: rest) := by
  unfold vonMises at hv
  rw [h] at hv
  simp only [Bool.false_eq_true, if_false] at hv
  split at hv
  · next f u3 rest' hl =>
    refine ⟨f, u3, ?_⟩
    split at hv <;> cases hv <;> exact hl
  · cases hv

/-- No direction: concentration zero whatever `kappa` was configured. -/
theorem directionKappa_none (kappa : α) : directionKappa T .none kappa = T.ofNat 0 := rfl

theorem directionKappa_some (d : Direction) (hd : d ≠ .none) (kappa : α) : directionKappa T d kappa = kappa := by
  simp [directionKappa, hd]

/-- The four inverse-transform classes: a `uniform_real_distribution(0, 1)` value through `icdf`. -/
theorem lawRandom_inverse_transform (law : Law)
    (h : law = .logistic ∨ law = .hyperbolicSecant ∨ law = .powerLaw ∨ law = .exponentialPower)
    (scale shape u : α) :
    lawSampler T law scale shape = .icdfOfUniform (T.ofNat 0) (T.ofNat 1) ∧
    lawRandom T law scale shape u = lawIcdfE T law scale shape u := by
  rcases h with h | h | h | h <;> subst h <;> exact ⟨rfl, rfl⟩

/-- The six library samplers: the absolute value of the owned distribution's draw. -/
theorem lawRandom_std (law : Law)
    (h : law = .cauchy ∨ law = .exponential ∨ law = .weibull ∨ law = .normal ∨ law = .logNormal ∨ law = .gamma)
    (scale shape draw : α) :
    lawRandom T law scale shape draw = .ok (T.abs draw) ∧
    (Sampler.density T (lawSampler T law scale shape) draw).isSome = true := by
  rcases h with h | h | h | h | h | h <;> subst h <;> exact ⟨rfl, rfl⟩

/-- The call operator: distance `|random|`, angle from von Mises, then the two rounded quotients with
    the north-south resolution under the cosine and the east-west resolution under the sine. -/
theorem radial_call (k : RadialKernel α) (law : Law) (row col : Int) (draw r theta : α) (us rest : List α)
    (hl : k.type.law? = some law) (hr : lawRandom T law k.scale k.shape draw = .ok r)
    (hv : vonMises T k.mu k.kappa us = some (theta, rest)) :
    k.call T row col draw us =
      some (.ok (row - T.lround (T.div (T.mul (T.abs r) (T.cos theta)) k.ns),
                 col + T.lround (T.div (T.mul (T.abs r) (T.sin theta)) k.ew))) := by
  simp only [RadialKernel.call, RadialKernel.distance, hl, hr, Except.map, hv, Option.map, radialTarget]

theorem radial_call_unsupported (k : RadialKernel α) (row col : Int) (draw : α) (us : List α)
    (hl : k.type.law? = none) : k.call T row col draw us = some (.error .invalid_argument) := by
  simp only [RadialKernel.call, RadialKernel.distance, hl]

/-- The constructor stores the two resolutions in their own members and derives mu / kappa from the
    direction. -/
theorem radial_make_fields (ew ns : α) (t : DispersalKernelType) (scale : α) (dir : Direction) (kappa shape : α)
    (k : RadialKernel α) (h : RadialKernel.make T ew ns t scale dir kappa shape = .ok k) :
    k.ew = ew ∧ k.ns = ns ∧ k.type = t ∧ k.scale = scale ∧ k.shape = shape ∧
    k.mu = directionMu T dir ∧ k.kappa = directionKappa T dir kappa := by
  unfold RadialKernel.make at h
  split at h
  · injection h with h; subst h; exact ⟨rfl, rfl, rfl, rfl, rfl, rfl, rfl⟩
  · cases h

end Generic

theorem createNatural_radial (c : KernelConfig) (t : DispersalKernelType) (d : Direction)
    (ht : kernelTypeFromString c.naturalKernelType = .ok t) (hl : t.law?.isSome = true)
    (hs : c.dispersalStochasticity = true) (hd : directionFromString c.naturalDirection = .ok d)
    (hok : radialCtorOk c.naturalScale c.shape = true) :
    createNaturalKernel c = .ok (.radial c.ewRes c.nsRes t c.naturalScale d c.naturalKappa c.shape) := by
  obtain ⟨h1, h2, _, _⟩ := (law_isSome_iff t).mp hl
  simp [createNaturalKernel, ht, h1, h2, hs, hd, hok, bind, Except.bind, pure, Except.pure]

theorem createAnthro_radial (c : KernelConfig) (t : DispersalKernelType) (d : Direction)
    (ht : kernelTypeFromString c.anthroKernelType = .ok t) (hl : t.law?.isSome = true)
    (hs : c.dispersalStochasticity = true) (hd : directionFromString c.anthroDirection = .ok d)
    (hok : radialCtorOk c.anthroScale c.shape = true) :
    createAnthroKernel c = .ok (.radial c.ewRes c.nsRes t c.anthroScale d c.anthroKappa c.shape) := by
  obtain ⟨h1, h2, h3, _⟩ := (law_isSome_iff t).mp hl
  simp [createAnthroKernel, ht, h1, h2, h3, hs, hd, hok, bind, Except.bind, pure, Except.pure]

theorem createNatural_uniform (c : KernelConfig)
    (ht : kernelTypeFromString c.naturalKernelType = .ok .uniform) :
    createNaturalKernel c = .ok (.uniform c.rows c.cols) := by
  simp [createNaturalKernel, ht, bind, Except.bind, pure, Except.pure]

theorem createAnthro_uniform (c : KernelConfig)
    (ht : kernelTypeFromString c.anthroKernelType = .ok .uniform) :
    createAnthroKernel c = .ok (.uniform c.rows c.cols) := by
  simp [createAnthroKernel, ht, bind, Except.bind, pure, Except.pure]

theorem createNatural_neighbor (c : KernelConfig) (d : Direction)
    (ht : kernelTypeFromString c.naturalKernelType = .ok .deterministicNeighbor)
    (hd : directionFromString c.naturalDirection = .ok d) :
    createNaturalKernel c = .ok (.neighbor d) := by
  simp [createNaturalKernel, ht, hd, bind, Except.bind, pure, Except.pure]

theorem createNatural_unknown_name (c : KernelConfig)
    (ht : kernelTypeFromString c.naturalKernelType = .error .invalid_argument) :
    createNaturalKernel c = .error .invalid_argument := by
  simp [createNaturalKernel, ht, bind, Except.bind]

theorem createDynamic_fields (c : KernelConfig) (k : DynamicKernelDesc) (h : createDynamicKernel c = .ok k) :
    createNaturalKernel c = .ok k.natural ∧ createAnthroKernel c = .ok k.anthro ∧
    k.useAnthropogenic = c.useAnthropogenicKernel ∧ k.percentNatural = c.percentNaturalDispersal := by
  unfold createDynamicKernel at h
  cases hn : createNaturalKernel c with
  | error e => simp [hn, bind, Except.bind] at h
  | ok n =>
    cases ha : createAnthroKernel c with
    | error e => simp [hn, ha, bind, Except.bind] at h
    | ok a =>
      simp only [hn, ha, bind, Except.bind, pure, Except.pure] at h
      injection h with h; subst h; exact ⟨rfl, rfl, rfl, rfl⟩

theorem createOverpopulationKernel_eq (c : KernelConfig) (coef : Rat) :
    createOverpopulationKernel c coef =
      match kernelTypeFromString c.naturalKernelType, kernelTypeFromString c.anthroKernelType,
          directionFromString c.naturalDirection, directionFromString c.anthroDirection with
      | .ok t, .ok _, .ok d, .ok _ =>
        if radialCtorOk (c.naturalScale * coef) c.shape then
          .ok { type := t, stochastic := c.dispersalStochasticity,
                radial := .radial c.ewRes c.nsRes t (c.naturalScale * coef) d c.naturalKappa c.shape,
                deterministic := .deterministic t c.dispersalPercentage c.ewRes c.nsRes (c.naturalScale * coef) c.shape,
                uniform := .uniform c.rows c.cols,
                network := .networkWalk c.networkMinDistance c.networkMaxDistance false,
                neighbor := .neighbor d }
        else .error .invalid_argument
      | _, _, _, _ => .error .invalid_argument := by
  unfold createOverpopulationKernel modelKernelMembers
  cases h1 : kernelTypeFromString c.naturalKernelType with
  | error e => rw [kernelTypeFromString_err _ e h1]; rfl
  | ok t =>
    cases h2 : kernelTypeFromString c.anthroKernelType with
    | error e => rw [kernelTypeFromString_err _ e h2]; rfl
    | ok a =>
      cases h3 : directionFromString c.naturalDirection with
      | error e => rw [directionFromString_err _ e h3]; rfl
      | ok d =>
        cases h4 : directionFromString c.anthroDirection with
        | error e => rw [directionFromString_err _ e h4]; rfl
        | ok ad => rfl
end Pops
