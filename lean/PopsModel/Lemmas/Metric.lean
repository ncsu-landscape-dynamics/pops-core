/-
  Lemmas for the spread metrics of C18: the scan of `infection_boundary` (`foldBox`) yields the
  definitional bounding box; each stored rate compares a measurement with the one before;
  averages, sums and counts over the suitable-cell list.
-/
import PopsModel.Model.MetricSpec
namespace Pops.Metric

/-- A fold whose step keeps one of its two arguments, the one that is `le` both: the result is
    `le` the start value and every element, and is one of them. -/
theorem foldl_sel_spec {α : Type} {op : α → α → α} {le : α → α → Prop}
    (hsel : ∀ a b, op a b = a ∨ op a b = b) (hle : ∀ a b, le (op a b) a ∧ le (op a b) b)
    (htr : ∀ a b c, le a b → le b c → le a c) (l : List α) (a : α) :
    le (l.foldl op a) a ∧ (∀ x ∈ l, le (l.foldl op a) x) ∧ (l.foldl op a = a ∨ l.foldl op a ∈ l) := by
  induction l generalizing a with
  | nil =>
    have := (hle a a).1
    rcases hsel a a with e | e <;> rw [e] at this <;> exact ⟨this, by simp, .inl rfl⟩
  | cons y ys ih =>
    obtain ⟨h1, h2, h3⟩ := ih (op a y)
    refine ⟨htr _ _ _ h1 (hle a y).1, fun x hx => ?_, ?_⟩
    · rcases List.mem_cons.mp hx with rfl | hx
      · exact htr _ _ _ h1 (hle a x).2
      · exact h2 x hx
    · rcases h3 with h | h
      · rcases hsel a y with e | e
        · exact .inl (h.trans e)
        · exact .inr (by rw [List.foldl_cons, h, e]; exact List.mem_cons_self)
      · exact .inr (List.mem_cons_of_mem _ h)

theorem foldl_sel_cells {op : Int → Int → Int} {le : Int → Int → Prop}
    (hsel : ∀ a b, op a b = a ∨ op a b = b) (hle : ∀ a b, le (op a b) a ∧ le (op a b) b)
    (htr : ∀ a b c, le a b → le b c → le a c) (f : Cell → Int) (c : Cell) (cs : List Cell) :
    (∃ x ∈ c :: cs, f x = (cs.map f).foldl op (f c)) ∧
    ∀ x ∈ c :: cs, le ((cs.map f).foldl op (f c)) (f x) := by
  obtain ⟨h1, h2, h3⟩ := foldl_sel_spec hsel hle htr (cs.map f) (f c)
  constructor
  · rcases h3 with h | h
    · exact ⟨c, List.mem_cons_self, h.symm⟩
    · obtain ⟨x, hx, hxe⟩ := List.mem_map.mp h
      exact ⟨x, List.mem_cons_of_mem _ hx, hxe⟩
  · intro x hx
    rcases List.mem_cons.mp hx with rfl | hx
    · exact h1
    · exact h2 _ (List.mem_map.mpr ⟨x, hx, rfl⟩)

theorem min_cells (f : Cell → Int) (c : Cell) (cs : List Cell) :
    (∃ x ∈ c :: cs, f x = (cs.map f).foldl min (f c)) ∧ ∀ x ∈ c :: cs, (cs.map f).foldl min (f c) ≤ f x :=
  foldl_sel_cells (le := (· ≤ ·)) (by omega) (by omega) (fun _ _ _ => Int.le_trans) f c cs

theorem max_cells (f : Cell → Int) (c : Cell) (cs : List Cell) :
    (∃ x ∈ c :: cs, f x = (cs.map f).foldl max (f c)) ∧ ∀ x ∈ c :: cs, f x ≤ (cs.map f).foldl max (f c) :=
  foldl_sel_cells (le := fun a b => b ≤ a) (by omega) (by omega) (fun _ _ _ h1 h2 => Int.le_trans h2 h1) f c cs

/-! ### the shared scan -/

/-- The scan of both `infection_boundary` and `quarantine_boundary` over the selected cells. -/
def foldBox (b : Box) (L : List Cell) : Box := L.foldl (fun b c => b.extend c.1 c.2) b

@[simp] theorem foldBox_nil (b : Box) : foldBox b [] = b := rfl
@[simp] theorem foldBox_cons (b : Box) (c : Cell) (L : List Cell) :
    foldBox b (c :: L) = foldBox (b.extend c.1 c.2) L := rfl

theorem Box.extend_eq (b : Box) (i j : Int) : b.extend i j = ⟨min b.n i, max b.s i, max b.e j, min b.w j⟩ := by
  have hmin : ∀ a c : Int, (if a < c then a else c) = min c a := by intro a c; split <;> omega
  have hmax : ∀ a c : Int, (if a > c then a else c) = max c a := by intro a c; split <;> omega
  simp only [Box.extend, hmin, hmax]

theorem foldBox_eq (L : List Cell) (b : Box) :
    foldBox b L = ⟨(L.map (·.1)).foldl min b.n, (L.map (·.1)).foldl max b.s,
                   (L.map (·.2)).foldl max b.e, (L.map (·.2)).foldl min b.w⟩ := by
  induction L generalizing b with
  | nil => rfl
  | cons c cs ih => rw [foldBox_cons, ih, Box.extend_eq]; rfl

def InRange (rows cols : Int) (c : Cell) : Prop := 0 ≤ c.1 ∧ c.1 < rows ∧ 0 ≤ c.2 ∧ c.2 < cols

/-- Started from `(height-1, 0, 0, width-1)`, the scan of a non-empty list of in-range cells
    yields the definitional box. -/
theorem foldBox_init (rows cols : Int) (c : Cell) (cs : List Cell) (hc : InRange rows cols c) :
    some (foldBox (initBox rows cols) (c :: cs)) = specBox (c :: cs) := by
  obtain ⟨h1, h2, h3, h4⟩ := hc
  have e : (initBox rows cols).extend c.1 c.2 = ⟨c.1, c.1, c.2, c.2⟩ := by
    simp only [Box.extend_eq, initBox, Box.mk.injEq]
    omega
  rw [foldBox_cons, e, foldBox_eq]
  rfl

theorem boundary_fold (inf : IRaster) (cells : List Cell) (b0 : Box) (f0 : Bool) :
    cells.foldl (boundaryStep inf) (b0, f0) =
      (foldBox b0 (infectedCells inf cells), f0 || !(infectedCells inf cells).isEmpty) := by
  induction cells generalizing b0 f0 with
  | nil => simp [infectedCells]
  | cons c cs ih =>
    simp only [List.foldl_cons, infectedCells, List.filter_cons]
    by_cases h : inf.at c.1 c.2 > 0
    · simp only [boundaryStep, h, if_true, decide_true]
      rw [ih]; simp [infectedCells]
    · simp only [boundaryStep, h, if_false, decide_false]
      rw [ih]; simp [infectedCells]

theorem mem_infectedCells {inf : IRaster} {cells : List Cell} {c : Cell} :
    c ∈ infectedCells inf cells ↔ c ∈ cells ∧ inf.at c.1 c.2 > 0 := by
  simp [infectedCells]

/-- The model of `infection_boundary` computes the definitional box (or the sentinel). -/
theorem infectionBoundary_eq_spec (rows cols : Int) (inf : IRaster) (cells : List Cell)
    (hin : ∀ c ∈ cells, InRange rows cols c) :
    infectionBoundary rows cols inf cells = specBoxOr (infectedCells inf cells) := by
  unfold infectionBoundary
  rw [boundary_fold]
  cases hL : infectedCells inf cells with
  | nil => simp [specBoxOr, specBox]
  | cons c cs =>
    have hc : c ∈ infectedCells inf cells := by rw [hL]; simp
    have hr := hin c (mem_infectedCells.mp hc).1
    have := foldBox_init rows cols c cs hr
    simp only [Bool.false_or, List.isEmpty_cons, Bool.not_false, if_true, specBoxOr, ← this, Option.getD_some]

theorem specBox_isBBox (L : List Cell) (b : Box) (h : specBox L = some b) : IsBBox L b := by
  cases L with
  | nil => simp [specBox] at h
  | cons c cs =>
    simp only [specBox, Option.some.injEq] at h
    subst h
    obtain ⟨n1, n2⟩ := min_cells (·.1) c cs
    obtain ⟨s1, s2⟩ := max_cells (·.1) c cs
    obtain ⟨e1, e2⟩ := max_cells (·.2) c cs
    obtain ⟨w1, w2⟩ := min_cells (·.2) c cs
    exact ⟨n1, n2, s1, s2, e1, e2, w1, w2⟩

theorem IsBBox.inRange {L : List Cell} {b : Box} (hb : IsBBox L b) {rows cols : Int}
    (rng : ∀ x ∈ L, InRange rows cols x) : 0 ≤ b.n ∧ b.s < rows ∧ 0 ≤ b.w ∧ b.e < cols := by
  obtain ⟨x1, h1, e1⟩ := hb.n_att
  obtain ⟨x2, h2, e2⟩ := hb.s_att
  obtain ⟨x3, h3, e3⟩ := hb.e_att
  obtain ⟨x4, h4, e4⟩ := hb.w_att
  exact ⟨e1 ▸ (rng x1 h1).1, e2 ▸ (rng x2 h2).2.1, e4 ▸ (rng x4 h4).2.2.1, e3 ▸ (rng x3 h3).2.2.2⟩

theorem specBox_eq_none {L : List Cell} : specBox L = none ↔ L = [] := by
  cases L <;> simp [specBox]

theorem specBox_ne_none {L : List Cell} (h : L ≠ []) : ∃ b, specBox L = some b :=
  Option.ne_none_iff_exists'.mp (mt specBox_eq_none.mp h)

theorem attained_bound_unique {L : List Cell} {f : Cell → Int} {le : Int → Int → Prop}
    (anti : ∀ a b, le a b → le b a → a = b) {v v' : Int} (att : ∃ c ∈ L, f c = v)
    (bd : ∀ c ∈ L, le v (f c)) (att' : ∃ c ∈ L, f c = v') (bd' : ∀ c ∈ L, le v' (f c)) : v = v' := by
  obtain ⟨x, hx, rfl⟩ := att
  obtain ⟨y, hy, rfl⟩ := att'
  exact anti _ _ (bd y hy) (bd' x hx)

theorem isBBox_unique {L : List Cell} {b b' : Box} (h : IsBBox L b) (h' : IsBBox L b') : b = b' := by
  have lo : ∀ a b : Int, a ≤ b → b ≤ a → a = b := fun _ _ => Int.le_antisymm
  have hi : ∀ a b : Int, b ≤ a → a ≤ b → a = b := fun _ _ h1 h2 => Int.le_antisymm h2 h1
  have hn := attained_bound_unique lo h.n_att h.n_le h'.n_att h'.n_le
  have hs := attained_bound_unique hi h.s_att h.s_ge h'.s_att h'.s_ge
  have he := attained_bound_unique hi h.e_att h.e_ge h'.e_att h'.e_ge
  have hw := attained_bound_unique lo h.w_att h.w_le h'.w_att h'.w_le
  cases b; cases b'; simp only at hn hs he hw
  rw [hn, hs, he, hw]

theorem mem_allCells {rows cols : Int} {c : Cell} : c ∈ allCells rows cols ↔ InRange rows cols c := by
  obtain ⟨i, j⟩ := c
  simp only [allCells, List.mem_flatMap, List.mem_range, List.mem_map, Prod.mk.injEq, InRange]
  constructor
  · rintro ⟨a, ha, b, hb, rfl, rfl⟩; omega
  · rintro ⟨h1, h2, h3, h4⟩
    exact ⟨i.toNat, by omega, j.toNat, by omega, by omega, by omega⟩

theorem intCast_mul_eq_zero {d : Int} {r : Rat} (hr : r ≠ 0) : (d : Rat) * r = 0 ↔ d = 0 := by
  rw [Rat.mul_eq_zero]
  constructor
  · rintro (h | h)
    · exact Rat.intCast_eq_zero_iff.mp h
    · exact absurd h hr
  · intro h; left; exact Rat.intCast_eq_zero_iff.mpr h

theorem edgeRate_eq_spec (d : Int) (r : Rat) (hr : r ≠ 0) (t : Bool) : edgeRate d r t = specRate d r t := by
  unfold edgeRate specRate
  simp only [intCast_mul_eq_zero hr]
  by_cases h1 : d = 0 <;> by_cases h2 : t = true <;> simp [h1, h2]

theorem ratesOf_eq_spec (rows cols : Int) (ns ew : Rat) (hns : ns ≠ 0) (hew : ew ≠ 0) (b1 b2 : Box) :
    ratesOf rows cols ns ew b1 b2 = specRates rows cols ns ew b1 b2 := by
  simp only [ratesOf, specRates, edgeRate_eq_spec _ _ hns, edgeRate_eq_spec _ _ hew]

theorem specRate_none_iff (d : Int) (r : Rat) (t : Bool) : specRate d r t = none ↔ t = true ∧ d = 0 := by
  unfold specRate; split <;> simp_all

/-- Well-formed state with the given configuration. -/
structure SrWF (sr : SpreadRate) (rows cols : Int) (ew ns : Rat) (N : Nat) : Prop where
  h : sr.height = rows
  w : sr.width = cols
  ew : sr.ew = ew
  ns : sr.ns = ns
  bl : sr.boundaries.length = N + 1
  rl : sr.rates.length = N

theorem new_wf (inf : IRaster) (cells : List Cell) (rows cols : Int) (ew ns : Rat) (N : Nat) :
    SrWF (SpreadRate.new inf cells rows cols ew ns N) rows cols ew ns N :=
  ⟨rfl, rfl, rfl, rfl, by simp [SpreadRate.new], by simp [SpreadRate.new]⟩

theorem action_ok {sr : SpreadRate} {rows cols : Int} {ew ns : Rat} {N : Nat}
    (wf : SrWF sr rows cols ew ns N) (cells : List Cell) (m : IRaster) (k : Nat) (hk : k < N)
    (prev : Box) (hp : sr.boundaries[k]? = some prev) :
    ∃ sr', sr.action m cells k = .ok sr' ∧ SrWF sr' rows cols ew ns N ∧
      sr'.boundaries = sr.boundaries.set (k + 1) (infectionBoundary rows cols m cells) ∧
      sr'.rates = sr.rates.set k (measuredRates rows cols ns ew prev (infectionBoundary rows cols m cells)) := by
  have hlt : k + 1 < sr.boundaries.length := by rw [wf.bl]; omega
  refine ⟨_, by simp only [SpreadRate.action, hlt, if_true]; rfl, ?_, ?_, ?_⟩
  · exact ⟨wf.h, wf.w, wf.ew, wf.ns, by simp [wf.bl], by simp [wf.rl]⟩
  · simp [wf.h, wf.w]
  · simp [wf.h, wf.w, wf.ns, wf.ew, hp]

/-- Consecutive measurements: every stored rate compares a measurement with the one before. -/
theorem run_rates (rows cols : Int) (ew ns : Rat) (N : Nat) (cells : List Cell) :
    ∀ (ms : List IRaster) (sr : SpreadRate) (k : Nat) (prev : Box),
      SrWF sr rows cols ew ns N → sr.boundaries[k]? = some prev → k + ms.length ≤ N →
      ∃ sr', SpreadRate.run cells sr ms k = .ok sr' ∧ SrWF sr' rows cols ew ns N ∧
        (∀ j, j < k → sr'.rates[j]? = sr.rates[j]?) ∧
        ∀ (i : Nat) (b1 b2 : Box),
          (prev :: ms.map fun m => infectionBoundary rows cols m cells)[i]? = some b1 →
          (ms.map fun m => infectionBoundary rows cols m cells)[i]? = some b2 →
          sr'.rates[k + i]? = some (measuredRates rows cols ns ew b1 b2) := by
  -- `prev :: bs` and `bs` read at the same index `i` are a measurement and the one before it
  intro ms
  induction ms with
  | nil =>
    intro sr k prev wf _ _
    exact ⟨sr, rfl, wf, fun _ _ => rfl, by simp⟩
  | cons m ms ih =>
    intro sr k prev wf hp hlen
    simp only [List.length_cons] at hlen
    obtain ⟨sr1, hact, wf1, hb1, hr1⟩ := action_ok wf cells m k (by omega) prev hp
    have hp1 : sr1.boundaries[k + 1]? = some (infectionBoundary rows cols m cells) := by
      rw [hb1, List.getElem?_set_self]; rw [wf.bl]; omega
    obtain ⟨sr', hrun, wf', hkeep, hrates⟩ := ih sr1 (k + 1) _ wf1 hp1 (by omega)
    refine ⟨sr', by simp only [SpreadRate.run, hact]; exact hrun, wf', ?_, ?_⟩
    · intro j hj
      rw [hkeep j (by omega), hr1, List.getElem?_set_ne (by omega)]
    · intro i b1 b2 h1 h2
      cases i with
      | zero =>
        simp only [List.getElem?_cons_zero, Option.some.injEq, List.map_cons] at h1 h2
        subst h1; subst h2
        rw [Nat.add_zero, hkeep k (by omega), hr1, List.getElem?_set_self (by rw [wf.rl]; omega)]
      | succ i =>
        simp only [List.getElem?_cons_succ, List.map_cons] at h1 h2
        have := hrates i b1 b2 h1 h2
        rw [show k + (i + 1) = k + 1 + i by omega]; exact this

theorem foldl_avgStep (l : List (Option Rat)) (s : Rat) (k : Nat) :
    l.foldl avgStep (s, k) = (s + sumR (l.filterMap id), k + (l.filterMap id).length) := by
  induction l generalizing s k with
  | nil => simp [sumR, Rat.add_zero]
  | cons x xs ih =>
    cases x with
    | none => simpa [avgStep] using ih s k
    | some v =>
      simp only [List.foldl_cons, avgStep, List.filterMap_cons, id, sumR, List.length_cons]
      rw [ih, Rat.add_assoc]
      congr 1; omega

theorem averageOf_eq_meanDefined (l : List (Option Rat)) : averageOf l = meanDefined l := by
  unfold averageOf meanDefined
  rw [foldl_avgStep]
  simp only [Rat.zero_add, Nat.zero_add]

theorem sumL_filter_of_zero (f : Cell → Int) (p : Cell → Bool) (l : List Cell)
    (h : ∀ c ∈ l, p c = false → f c = 0) : sumL ((l.filter p).map f) = sumL (l.map f) := by
  induction l with
  | nil => rfl
  | cons c cs ih =>
    have ih' := ih (fun x hx => h x (by simp [hx]))
    by_cases hp : p c = true
    · simp [hp, ih']
    · have := h c (by simp) (by simpa using hp)
      simp [hp, ih', this]

theorem countP_filter_of_false (q p : Cell → Bool) (l : List Cell)
    (h : ∀ c ∈ l, p c = false → q c = false) : (l.filter p).countP q = l.countP q := by
  rw [List.countP_filter]
  exact List.countP_congr fun c hc => by cases hp : p c <;> simp [h c hc, hp]

/-! ### the index double loop visits the row-major data once -/

theorem row_take (C : Nat) (l : List Int) (h : C ≤ l.length) :
    (List.range C).map (fun j => l.getD j 0) = l.take C := by
  apply List.ext_getElem?
  intro k
  by_cases hk : k < C
  · have hk2 : k < l.length := by omega
    simp [hk, List.getD_eq_getElem?_getD, List.getElem?_eq_getElem hk2]
  · simp [hk, List.getElem?_take]

theorem flat_rows (C : Nat) : ∀ (R : Nat) (data : List Int), data.length = R * C →
    (List.range R).flatMap (fun i => (List.range C).map (fun j => data.getD (i * C + j) 0)) = data := by
  intro R
  induction R with
  | zero => intro data h; simp at h; simp [h]
  | succ R ih =>
    intro data h
    rw [List.range_succ_eq_map, List.flatMap_cons, List.flatMap_map]
    have hlen : C ≤ data.length := by rw [h, Nat.succ_mul]; omega
    have h1 : (List.range C).map (fun j => data.getD (0 * C + j) 0) = data.take C := by
      simp only [Nat.zero_mul, Nat.zero_add]; exact row_take C data hlen
    have h2 : (List.range R).flatMap (fun i => (List.range C).map (fun j => data.getD ((i + 1) * C + j) 0)) = data.drop C := by
      have := ih (data.drop C) (by rw [List.length_drop, h, Nat.succ_mul]; omega)
      rw [← this]
      congr 1; funext i; congr 1; funext j
      simp only [List.getD_eq_getElem?_getD, List.getElem?_drop]
      congr 2; rw [Nat.succ_mul]; omega
    simp only [Nat.succ_eq_add_one]
    rw [h1, h2, List.take_append_drop]

theorem map_at_allCells (r : IRaster) (hc : 0 ≤ r.cols)
    (hlen : r.data.length = r.rows.toNat * r.cols.toNat) :
    (allCells r.rows r.cols).map (fun c => r.at c.1 c.2) = r.data := by
  -- `flat_rows` over `Nat` indices; the rest turns `Int` indices and `IRaster.at` into `getD`
  unfold allCells
  rw [List.map_flatMap]
  have := flat_rows r.cols.toNat r.rows.toNat r.data hlen
  rw [← this]
  congr 1; funext i
  rw [List.map_map]
  congr 1; funext j
  simp only [Function.comp, IRaster.at]
  congr 1
  have hC : r.cols = (r.cols.toNat : Int) := by omega
  generalize r.cols.toNat = C at hC ⊢
  rw [hC]
  have : ((i : Int) * (C : Int) + (j : Int)) = ((i * C + j : Nat) : Int) := by simp
  rw [this, Int.toNat_natCast]
end Pops.Metric
