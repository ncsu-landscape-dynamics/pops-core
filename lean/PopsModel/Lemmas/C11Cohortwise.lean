/-
  The mortality tracker as a shift register: position-wise (cohort-wise) bounds along a history.

  One mortality step (`apply_mortality_at`, then `step_forward_mortality` = rotate-left) turns the
  cohorts `x0 :: t` into `t' ++ [0]` with `0 ≤ t'[j] ≤ t[j]` (`mech_mort_step`): index 0 dies
  completely (`apply_mortality_at` visits the indices `0 .. n - lag - 1`, index 0 with the whole
  cohort), every other cohort moves one position down, and the emptied cohort re-enters at the
  back, position `n - 1`. Hence the cohort that sits at position `k` at the end of a history sat at
  position `k + m` when `m` mortality steps were still to come, and - once `k + m ≥ n` is reached
  going backwards - was emptied at index 0 by the `(n - k)`-th last mortality step, exactly
  `n - 1 - k` mortality steps before the end.

  `addedAt n k ops` = what the history adds to that generation: an `add x` with `m` mortality
  steps after it goes to position `n - 1`, so it counts for `k` iff `k + m = n - 1`; an
  `arrive d` adds `d[k + m]` iff `k + m < n`.

  Summed over the positions (`sumRange`, lemmas `sr_*`) the bounds give the counting theorem
  `mortc_eventual_death`. Prefixes: `coh_` cohort-wise facts, `mortc_` facts about `MortOp` entries.
-/
import PopsModel.Lemmas.C11Removals
import PopsModel.Lemmas.Draw
namespace Pops

/-- What one entry adds to the generation that ends at position `k` (tracker length `n`), when
    `m` mortality steps follow the entry. -/
def MortOp.addedAt (n k m : Nat) : MortOp → Int
  | .mortality => 0
  | .add x => if k + m + 1 = n then x else 0
  | .arrive d => if k + m < n then d[k + m]! else 0
  | .remove _ => 0

/-- What a history adds to the generation that ends at position `k`. -/
def addedAt (n k : Nat) : List MortOp → Int
  | [] => 0
  | op :: rest => op.addedAt n k (mortSteps rest) + addedAt n k rest

/-- `m`: the mortality steps still to come, as in `MortOp.addedAt`; `mortSteps [op]` is 1 for a
    mortality step and 0 otherwise. Positions beyond the end read 0. -/
theorem mortc_rel_get (rate : Rat) (lag : Int) (hr0 : 0 < rate) (hr1 : rate ≤ 1) (hl0 : 0 ≤ lag)
    (op : MortOp) (c c1 : Cell) (hnn : ∀ x ∈ c.mort, 0 ≤ x) (hlag : lag < (c.mort.length : Int))
    (h : op.rel rate lag c c1) (k m : Nat) :
    c1.mort[k + m]! ≤ c.mort[k + (mortSteps [op] + m)]! + op.addedAt c.mort.length k m := by
  cases op with
  | mortality =>
    have hs := (coh_mortality_shift rate lag hr0 hr1 hl0 c c1 hnn hlag h (k + m)).2.1
    have e : k + (mortSteps [MortOp.mortality] + m) = k + m + 1 := by
      simp only [mortSteps]; omega
    rw [e]; exact Int.le_trans hs (Int.le_of_eq (Int.add_zero _).symm)
  | add x =>
    rw [h.2.1, getElem!_addLast]
    exact Int.le_of_eq (by simp only [mortSteps, Nat.zero_add, MortOp.addedAt])
  | arrive d =>
    obtain ⟨hl, _, hm, _⟩ := h
    rw [hm, getElem!_addL _ _ _ hl]
    simp only [mortSteps, Nat.zero_add, MortOp.addedAt]
    split
    · exact Int.le_refl _
    · rw [getElem!_eq_zero_of_le d (k + m) (by omega)]; exact Int.le_refl _
  | remove d =>
    obtain ⟨hl, hp, hm, _⟩ := h
    have hd := ((dom_of_pointwise hl hp).get (k + m)).1
    rw [hm, getElem!_subL _ _ _ hl]
    simp only [mortSteps, Nat.zero_add, MortOp.addedAt, Int.add_zero]
    exact Int.sub_le_self _ hd

/-- **Shift-register invariant.** Stated for every `k`: a position past the tracker reads 0 with
    `getElem!`, which is the content of a cohort that was emptied at index 0 on the way. -/
theorem coh_tracking (rate : Rat) (lag : Int) (hr0 : 0 < rate) (hr1 : rate ≤ 1) (hl0 : 0 ≤ lag)
    (c' : Cell) : ∀ (ops : List MortOp) (cj : Cell), (∀ x ∈ cj.mort, 0 ≤ x) →
      lag < (cj.mort.length : Int) → MortTrace (MortOp.rel rate lag) ops cj c' →
      ∀ k : Nat, c'.mort[k]! ≤ cj.mort[k + mortSteps ops]! + addedAt cj.mort.length k ops := by
  intro ops
  induction ops with
  | nil =>
    intro cj _ _ h k
    have : c' = cj := h
    subst this
    exact Int.le_of_eq (by simp only [mortSteps, Nat.add_zero, addedAt, Int.add_zero])
  | cons op rest ih =>
    intro cj hnn hlag h k
    obtain ⟨c1, h1, h2⟩ := h
    obtain ⟨f1, f2, _⟩ := mortc_rel_facts rate lag hr0 hr1 hl0 op cj c1 hnn hlag h1
    have hI := ih c1 f1 (by rw [f2]; exact hlag) h2 k
    have hS := mortc_rel_get rate lag hr0 hr1 hl0 op cj c1 hnn hlag h1 k (mortSteps rest)
    rw [f2] at hI
    rw [mortSteps_cons]
    simp only [addedAt]
    rw [← Int.add_assoc]
    exact Int.le_trans hI (Int.add_le_add_right hS _)

/-- The mortality step that has exactly `j` mortality steps after it. -/
theorem coh_split (R : MortOp → Cell → Cell → Prop) (c' : Cell) (j : Nat) :
    ∀ (ops : List MortOp) (c : Cell), j < mortSteps ops → MortTrace R ops c c' →
      ∃ pre post c0 c1, ops = pre ++ MortOp.mortality :: post ∧ mortSteps post = j ∧
        MortTrace R pre c c0 ∧ R .mortality c0 c1 ∧ MortTrace R post c1 c' := by
  intro ops
  induction ops with
  | nil => intro c hj _; simp only [mortSteps] at hj; omega
  | cons op rest ih =>
    intro c hj h
    obtain ⟨c1, h1, h2⟩ := h
    by_cases hj' : j < mortSteps rest
    · obtain ⟨pre, post, a0, a1, e, hm, t1, r, t2⟩ := ih c1 hj' h2
      exact ⟨op :: pre, post, a0, a1, by rw [e]; rfl, hm, ⟨c1, h1, t1⟩, r, t2⟩
    · cases op with
      | mortality =>
        simp only [mortSteps] at hj
        exact ⟨[], rest, c, c1, rfl, by omega, rfl, h1, h2⟩
      | _ => exact absurd hj hj'

theorem coh_split_emptied (rate : Rat) (lag : Int) (hr0 : 0 < rate) (hr1 : rate ≤ 1) (hl0 : 0 ≤ lag)
    (c c' : Cell) (ops : List MortOp) (hl : lag < (c.mort.length : Int)) (hn : ∀ x ∈ c.mort, 0 ≤ x)
    (h : MortTrace (MortOp.rel rate lag) ops c c') (j : Nat) (hj : j < mortSteps ops) :
    ∃ pre post c0 c1, ops = pre ++ MortOp.mortality :: post ∧ mortSteps post = j ∧
      MortTrace (MortOp.rel rate lag) pre c c0 ∧ (CellOp.mortality rate lag).apply c0 = .ok c1 ∧
      MortTrace (MortOp.rel rate lag) post c1 c' ∧ (∀ x ∈ c0.mort, 0 ≤ x) ∧
      (∀ x ∈ c1.mort, 0 ≤ x) ∧ c1.mort.length = c.mort.length ∧ c1.mort[c.mort.length - 1]! = 0 := by
  obtain ⟨pre, post, c0, c1, e, hm, t1, r, t2⟩ := coh_split (MortOp.rel rate lag) c' j ops c hj h
  obtain ⟨a1, a2, _⟩ := mortc_trace_facts rate lag hr0 hr1 hl0 c0 pre c hn hl t1
  have hl' : lag < (c0.mort.length : Int) := by rw [a2]; exact hl
  obtain ⟨b1, b2, _⟩ := mortc_rel_facts rate lag hr0 hr1 hl0 .mortality c0 c1 a1 hl' r
  have hz := (coh_mortality_shift rate lag hr0 hr1 hl0 c0 c1 a1 hl' r (c.mort.length - 1)).2.2
    (by rw [a2]; exact Nat.sub_add_cancel (Int.natCast_pos.mp (Int.lt_of_le_of_lt hl0 hl)))
  exact ⟨pre, post, c0, c1, e, hm, t1, r, t2, a1, b1, by rw [b2, a2], hz⟩

theorem coh_addedAt_op_zero (n k m : Nat) (op : MortOp) (h : n ≤ k + m) : op.addedAt n k m = 0 := by
  cases op with
  | mortality => rfl
  | add x => have : ¬ (k + m + 1 = n) := by omega
             simp only [MortOp.addedAt, this, if_false]
  | arrive d => have : ¬ (k + m < n) := by omega
                simp only [MortOp.addedAt, this, if_false]
  | remove d => rfl

theorem coh_addedAt_append (n k : Nat) : ∀ (pre post : List MortOp), n ≤ k + mortSteps post →
    addedAt n k (pre ++ post) = addedAt n k post
  | [], _, _ => rfl
  | op :: rest, post, h => by
    have ih := coh_addedAt_append n k rest post h
    have hm := mortSteps_append rest post
    simp only [List.cons_append, addedAt, ih]
    rw [coh_addedAt_op_zero n k _ op (by omega)]
    omega

/-- `sum_{k < n} f k`. -/
def sumRange (n : Nat) (f : Nat → Int) : Int := sumL ((List.range n).map f)

theorem sr_zero_len (f : Nat → Int) : sumRange 0 f = 0 := rfl

theorem sr_succ (n : Nat) (f : Nat → Int) : sumRange (n + 1) f = sumRange n f + f n := by
  simp only [sumRange, List.range_succ, List.map_append, sumL_append, List.map_cons, List.map_nil,
    sumL_cons, sumL_nil, Int.add_zero]

theorem sr_le (n : Nat) (f g : Nat → Int) (h : ∀ k, k < n → f k ≤ g k) : sumRange n f ≤ sumRange n g := by
  induction n with
  | zero => exact Int.le_refl _
  | succ n ih =>
    rw [sr_succ, sr_succ]
    exact Int.add_le_add (ih (fun k hk => h k (Nat.lt_succ_of_lt hk))) (h n (Nat.lt_succ_self n))

theorem sr_congr (n : Nat) (f g : Nat → Int) (h : ∀ k, k < n → f k = g k) : sumRange n f = sumRange n g := by
  have a := sr_le n f g (fun k hk => by rw [h k hk]; exact Int.le_refl _)
  have b := sr_le n g f (fun k hk => by rw [h k hk]; exact Int.le_refl _)
  exact Int.le_antisymm a b

theorem sr_const_zero (n : Nat) : sumRange n (fun _ => 0) = 0 := by
  induction n with
  | zero => rfl
  | succ n ih => rw [sr_succ, ih]; rfl

theorem sr_shift (n : Nat) (f : Nat → Int) : sumRange (n + 1) f = f 0 + sumRange n (fun k => f (k + 1)) := by
  induction n with
  | zero => simp only [sr_succ, sr_zero_len, Int.zero_add, Int.add_zero]
  | succ n ih => rw [sr_succ, ih, sr_succ, Int.add_assoc]

theorem sr_list : ∀ (l : List Int), sumL l = sumRange l.length (fun k => l[k]!)
  | [] => rfl
  | x :: xs => by
    have ih := sr_list xs
    simp only [List.length_cons, sr_shift, List.getElem!_cons_zero, List.getElem!_cons_succ, sumL_cons]
    rw [← ih]

/-- At most one position `k` has `k + m + 1 = N`: when it is `n`, the earlier ones add nothing. -/
theorem sr_ite_le (m N : Nat) (x : Int) (hx : 0 ≤ x) :
    ∀ n, sumRange n (fun k => if k + m + 1 = N then x else 0) ≤ x
  | 0 => hx
  | n + 1 => by
    rw [sr_succ]
    by_cases h : n + m + 1 = N
    · have hz : sumRange n (fun k => if k + m + 1 = N then x else 0) = sumRange n (fun _ => 0) :=
        sr_congr _ _ _ (fun k hk => if_neg (by omega))
      rw [hz, sr_const_zero, if_pos h, Int.zero_add]; exact Int.le_refl x
    · rw [if_neg h, Int.add_zero]; exact sr_ite_le m N x hx n

theorem sr_window (d : List Int) (hd : ∀ y ∈ d, 0 ≤ y) : ∀ (n m : Nat),
    sumRange n (fun k => d[k + m]!) ≤ sumL d := by
  induction d with
  | nil =>
    intro n m
    have : sumRange n (fun k => ([] : List Int)[k + m]!) = sumRange n (fun _ => 0) :=
      sr_congr _ _ _ (fun k _ => by simp)
    rw [this, sr_const_zero]; exact Int.le_refl _
  | cons y ys ih =>
    intro n m
    have hy : 0 ≤ y := hd y (by simp)
    have hys : ∀ z ∈ ys, 0 ≤ z := fun z hz => hd z (by simp [hz])
    cases m with
    | succ m' =>
      have : sumRange n (fun k => (y :: ys)[k + (m' + 1)]!) = sumRange n (fun k => ys[k + m']!) :=
        sr_congr _ _ _ (fun k _ => by
          rw [← Nat.add_assoc, List.getElem!_cons_succ])
      rw [this, sumL_cons]
      exact Int.le_trans (ih hys n m') (Int.le_add_of_nonneg_left hy)
    | zero =>
      cases n with
      | zero => rw [sr_zero_len, sumL_cons]; exact Int.add_nonneg hy (sumL_nonneg hys)
      | succ n' =>
        rw [sr_shift]
        have : sumRange n' (fun k => (y :: ys)[k + 1 + 0]!) = sumRange n' (fun k => ys[k + 0]!) :=
          sr_congr _ _ _ (fun k _ => by simp)
        rw [this, sumL_cons]
        simp only [Nat.zero_add, List.getElem!_cons_zero]
        exact Int.add_le_add_left (ih hys n' 0) y

theorem coh_sum_op_le (n m : Nat) (op : MortOp) (h : op.nonnegAdd) :
    sumRange n (fun k => op.addedAt n k m) ≤ op.added := by
  cases op with
  | mortality => simp only [MortOp.addedAt, MortOp.added, sr_const_zero]; exact Int.le_refl _
  | remove d => simp only [MortOp.addedAt, MortOp.added, sr_const_zero]; exact Int.le_refl _
  | add x => exact sr_ite_le m n x h n
  | arrive d =>
    have hd : ∀ y ∈ d, 0 ≤ y := h
    simp only [MortOp.addedAt, MortOp.added]
    have h1 : sumRange n (fun k => if k + m < n then d[k + m]! else 0) ≤ sumRange n (fun k => d[k + m]!) :=
      sr_le _ _ _ (fun k _ => by
        split
        · exact Int.le_refl _
        · exact getElem!_nonneg (l := d) hd (k + m))
    exact Int.le_trans h1 (sr_window d hd n m)

theorem coh_sum_split (n : Nat) (op : MortOp) (rest : List MortOp) :
    sumRange n (fun k => addedAt n k (op :: rest)) =
      sumRange n (fun k => op.addedAt n k (mortSteps rest)) + sumRange n (fun k => addedAt n k rest) :=
  draw_sumL_map_add (List.range n) _ _

theorem coh_sum_le_added (n : Nat) : ∀ (ops : List MortOp), (∀ op ∈ ops, op.nonnegAdd) →
    sumRange n (fun k => addedAt n k ops) ≤ addedBy ops
  | [], _ => by simp only [addedAt, addedBy, sr_const_zero]; exact Int.le_refl _
  | op :: rest, h => by
    have ih := coh_sum_le_added n rest (fun o ho => h o (by simp [ho]))
    have h1 := coh_sum_op_le n (mortSteps rest) op (h op (by simp))
    rw [coh_sum_split]
    simp only [addedBy]; omega

/-- With at least `n` mortality steps the entries before the window of the last `n` add nothing to
    the generations that are in the tracker at the end. -/
theorem coh_sum_le_window (n : Nat) : ∀ (ops : List MortOp), (∀ op ∈ ops, op.nonnegAdd) →
    n ≤ mortSteps ops → sumRange n (fun k => addedAt n k ops) ≤ addedBy (lastMortWindow n ops) := by
  intro ops h hs
  obtain ⟨pre, e, hw⟩ := lastMortWindow_suffix n ops
  generalize lastMortWindow n ops = w at e hw ⊢
  subst e
  have hpre : sumRange n (fun k => addedAt n k (pre ++ w)) = sumRange n (fun k => addedAt n k w) :=
    sr_congr _ _ _ (fun k _ => coh_addedAt_append n k pre w (by have := hw hs; omega))
  rw [hpre]
  exact coh_sum_le_added n w (fun op ho => h op (List.mem_append_right _ ho))

/-- C11 with removals, on traces: `coh_tracking` summed over the positions. -/
theorem mortc_eventual_death (rate : Rat) (lag : Int) (c c' : Cell) (ops : List MortOp)
    (hr0 : 0 < rate) (hr1 : rate ≤ 1) (hl0 : 0 ≤ lag) (hl : lag < (c.mort.length : Int))
    (hnn : ∀ x ∈ c.mort, 0 ≤ x) (hsteps : c.mort.length ≤ mortSteps ops)
    (h : MortTrace (MortOp.rel rate lag) ops c c') :
    sumL c'.mort ≤ addedBy (lastMortWindow c.mort.length ops) ∧
    c'.died + sumL c'.mort = c.died + sumL c.mort + addedBy ops - removedBy ops ∧
    sumL c.mort - removedBy ops ≤ c'.died - c.died := by
  obtain ⟨_, hlen, hbal⟩ := mortc_trace_facts rate lag hr0 hr1 hl0 c' ops c hnn hl h
  have hadd := coh_trace_nonnegAdd rate lag c' ops c h
  have h1 : sumL c'.mort ≤ sumRange c.mort.length (fun k => addedAt c.mort.length k ops) := by
    rw [sr_list c'.mort, hlen]
    refine sr_le _ _ _ (fun k _ => ?_)
    have := coh_tracking rate lag hr0 hr1 hl0 c' ops c hnn hl h k
    rw [getElem!_eq_zero_of_le c.mort _ (Nat.le_trans hsteps (Nat.le_add_left _ _)), Int.zero_add] at this
    exact this
  have h2 := Int.le_trans h1 (coh_sum_le_window c.mort.length ops hadd hsteps)
  have h3 := mortc_added_window_le c.mort.length ops hadd
  exact ⟨h2, hbal, by omega⟩

end Pops
