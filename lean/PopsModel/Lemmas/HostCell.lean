/-
  What every cell operation does to a consistent cell (C01-C03 for one action at one cell).
  Each operation is first read as an update of the cell's fields; the invariants then follow from
  two constructors, `Cell.Good.of_parts` and `Cell.Good.reclassify`, by field-wise arithmetic.
  `disperser_to` (`disperserTo_eq`), the treatment shares (`mech_sh`) and one iteration of the mortality
  loop (`mortalityAtIndex_eq`) are described once here, also for the mechanism files that build on this one.
-/
import PopsModel.Lemmas.HostLists
namespace Pops

/-- Arithmetic goal about cell fields: reduce structure projections, then `omega`. -/
macro "carith" : tactic => `(tactic| ((try dsimp only) <;> omega))

/-- Non-negative cell with correct totals (Prop form of `nonNeg && totalsOK`). -/
structure Cell.Good (c : Cell) : Prop where
  nn : c.NN
  th : c.th = c.s + sumL c.e + c.i + c.r
  te : c.te = sumL c.e

theorem good_of_bool {c : Cell} (hn : c.nonNeg = true) (ht : c.totalsOK = true) : c.Good :=
  ⟨(nonNeg_iff c).mp hn, ((totalsOK_iff c).mp ht).1, ((totalsOK_iff c).mp ht).2⟩

theorem Cell.Good.nonNeg {c : Cell} (h : c.Good) : c.nonNeg = true := (nonNeg_iff c).mpr h.nn
theorem Cell.Good.totalsOK {c : Cell} (h : c.Good) : c.totalsOK = true :=
  (totalsOK_iff c).mpr ⟨h.th, h.te⟩

/-- `te` and `th` are sums of non-negative parts: their signs need no argument of their own. -/
theorem Cell.Good.of_parts {c : Cell} (s : 0 ≤ c.s) (e : AllNN c.e) (i : 0 ≤ c.i) (r : 0 ≤ c.r)
    (mort : AllNN c.mort) (died : 0 ≤ c.died) (th : c.th = c.s + sumL c.e + c.i + c.r)
    (te : c.te = sumL c.e) : c.Good :=
  have he := sumL_nonneg e
  ⟨⟨s, e, i, r, te ▸ he, mort, died,
    th ▸ Int.add_nonneg (Int.add_nonneg (Int.add_nonneg s he) i) r⟩, th, te⟩

theorem Cell.Good.i_le_th {c : Cell} (hg : c.Good) : c.i ≤ c.th := by
  have := sumL_nonneg hg.nn.e
  have := hg.th; have := hg.nn.s; have := hg.nn.r
  omega

/-- What an action of ledger class `k` guarantees about the resulting cell. -/
structure StepFacts (k : Ledger) (c c' : Cell) : Prop where
  nn : c'.NN
  th : c'.th = c'.s + sumL c'.e + c'.i + c'.r
  te : c'.te = sumL c'.e
  ledger : ledgerOK k c c' = true
  lenE : c'.e.length = c.e.length
  lenM : c'.mort.length = c.mort.length

theorem StepFacts.good {k : Ledger} {c c' : Cell} (h : StepFacts k c c') : c'.Good :=
  ⟨h.nn, h.th, h.te⟩

theorem StepFacts.of_good {k : Ledger} {c c' : Cell} (h : c'.Good) (hl : ledgerOK k c c' = true)
    (lenE : c'.e.length = c.e.length) (lenM : c'.mort.length = c.mort.length) : StepFacts k c c' :=
  ⟨h.nn, h.th, h.te, hl, lenE, lenM⟩

theorem ledger_reclassify_iff {c c' : Cell} : ledgerOK .reclassify c c' = true ↔
    c'.s + sumL c'.e + c'.i + c'.r = c.s + sumL c.e + c.i + c.r ∧ c'.died = c.died := by
  simp only [ledgerOK, Bool.and_eq_true, decide_eq_true_eq]; rfl

theorem ledger_removal {c c' : Cell}
    (h1 : c'.s + sumL c'.e + c'.i + c'.r ≤ c.s + sumL c.e + c.i + c.r) (h2 : c'.died = c.died) :
    ledgerOK .removal c c' = true := by
  simp only [ledgerOK, Bool.and_eq_true, decide_eq_true_eq]; exact ⟨h1, h2⟩

theorem ledger_death {c c' : Cell}
    (h1 : c'.s + sumL c'.e + c'.i + c'.r = c.s + sumL c.e + c.i + c.r - (c'.died - c.died))
    (h2 : c.died ≤ c'.died) : ledgerOK .death c c' = true := by
  simp only [ledgerOK, Bool.and_eq_true, decide_eq_true_eq]; exact ⟨h1, h2⟩

theorem Cell.Good.reclassify {c c' : Cell} (hg : c.Good) (s : 0 ≤ c'.s) (e : AllNN c'.e)
    (i : 0 ≤ c'.i) (r : 0 ≤ c'.r) (mort : AllNN c'.mort)
    (hosts : c'.s + sumL c'.e + c'.i + c'.r = c.s + sumL c.e + c.i + c.r)
    (te : c'.te = sumL c'.e) (th : c'.th = c.th) (died : c'.died = c.died)
    (lenE : c'.e.length = c.e.length) (lenM : c'.mort.length = c.mort.length) :
    StepFacts .reclassify c c' :=
  .of_good
    (.of_parts s e i r mort (died ▸ hg.nn.died) (th.trans (hg.th.trans hosts.symm)) te)
    (ledger_reclassify_iff.mpr ⟨hosts, died⟩) lenE lenM

/-- An action that also keeps `i = Σ mort` (all of them but the overpopulation primitives). -/
def CohortStep (k : Ledger) (c c' : Cell) : Prop :=
  StepFacts k c c' ∧ (c.i = sumL c.mort → c'.i = sumL c'.mort)

theorem CohortStep.refl {c : Cell} (h : c.Good) : CohortStep .reclassify c c :=
  ⟨.of_good h (ledger_reclassify_iff.mpr ⟨rfl, rfl⟩) rfl rfl, id⟩

theorem CohortStep.trans {a b c : Cell} (h1 : CohortStep .reclassify a b)
    (h2 : CohortStep .reclassify b c) : CohortStep .reclassify a c :=
  have x := ledger_reclassify_iff.mp h1.1.ledger
  have y := ledger_reclassify_iff.mp h2.1.ledger
  ⟨.of_good h2.1.good (ledger_reclassify_iff.mpr ⟨y.1.trans x.1, y.2.trans x.2⟩)
    (h2.1.lenE.trans h1.1.lenE) (h2.1.lenM.trans h1.1.lenM), h2.2 ∘ h1.2⟩

theorem ok_of_guard {α : Type} {p : Prop} [Decidable p] {e : ErrKind} {x : Except ErrKind α} {a : α}
    (h : (if p then .error e else x) = .ok a) : ¬ p ∧ x = .ok a := by
  split at h
  · cases h
  · exact ⟨‹_›, h⟩

/-! ### establishment -/

theorem add_step (mt : ModelType) (c : Cell) (hg : c.Good)
    (hd : (mt = .si → c.mort ≠ []) ∧ (mt = .sei → c.e ≠ [])) :
    CohortStep .reclassify c (c.addDisperserAt mt).1 := by
  unfold Cell.addDisperserAt
  split
  · exact .refl hg
  · cases mt with
    | si =>
      exact ⟨hg.reclassify (by carith) hg.nn.e (Int.add_nonneg hg.nn.i (by decide)) hg.nn.r
        (allNN_addLast hg.nn.mort (by decide)) (by carith) hg.te rfl rfl rfl (length_addLast _ _),
        fun hm => by dsimp only; rw [sumL_addLast 1 (hd.1 rfl), hm]⟩
    | sei =>
      have hs := sumL_addLast 1 (hd.2 rfl)
      exact ⟨hg.reclassify (by carith) (allNN_addLast hg.nn.e (by decide)) hg.nn.i hg.nn.r
        hg.nn.mort (by dsimp only; rw [hs]; omega) (by dsimp only; rw [hs, hg.te]) rfl rfl
        (length_addLast _ _) rfl, id⟩

theorem addDisperserAt_snd {mt : ModelType} {c : Cell} (h : ¬ c.s ≤ 0) :
    (c.addDisperserAt mt).2 = 1 := by
  unfold Cell.addDisperserAt
  rw [if_neg h]
  cases mt <;> rfl

/-- `disperser_to` in one equation: without a susceptible host nothing happens and no uniform is
    drawn; otherwise the suitability is computed (it may throw) and the establishment test decides
    between `add_disperser_at` and leaving the cell alone. -/
theorem disperserTo_eq (mt : ModelType) (c : Cell) (env : EnvCell) (sto : Bool) (pEst u : Rat) :
    c.disperserTo mt env sto pEst u =
      if c.s ≤ 0 then .ok (c, 0, 0)
      else (c.suitability env).map fun p =>
        if canEstablish p sto pEst u then ((c.addDisperserAt mt).1, 1, if sto then 1 else 0)
        else (c, 0, if sto then 1 else 0) := by
  unfold Cell.disperserTo
  split
  · rfl
  · rename_i hs
    cases c.suitability env with
    | error e => rfl
    | ok p =>
      show (if canEstablish p sto pEst u = true then _ else _) = Except.ok (if _ then _ else _)
      split
      · show Except.ok ((c.addDisperserAt mt).1, (c.addDisperserAt mt).2, _) = _
        rw [addDisperserAt_snd hs]
      · rfl

theorem disperserTo_cases {mt : ModelType} {c : Cell} {env : EnvCell} {sto : Bool} {pEst u : Rat}
    {r : Cell × Int × Nat} (h : c.disperserTo mt env sto pEst u = .ok r) :
    r.1 = c ∨ r.1 = (c.addDisperserAt mt).1 := by
  rw [disperserTo_eq] at h
  split at h
  · cases h; exact .inl rfl
  · obtain ⟨p, -, rfl⟩ := except_map_ok h
    split
    · exact .inr rfl
    · exact .inl rfl

/-! ### overpopulation primitives -/

theorem pestsFrom_facts (c : Cell) (k : Int) (hg : c.Good) (hk : 0 ≤ k ∧ k ≤ c.i) :
    StepFacts .reclassify c (c.pestsFrom k).1 := by
  unfold Cell.pestsFrom
  exact hg.reclassify (Int.add_nonneg hg.nn.s hk.1) hg.nn.e (Int.sub_nonneg_of_le hk.2) hg.nn.r
    hg.nn.mort (by carith) hg.te rfl rfl rfl rfl

theorem pestsTo_facts (c : Cell) (k : Int) (hg : c.Good) (hk : 0 ≤ k) :
    StepFacts .reclassify c (c.pestsTo k).1 := by
  unfold Cell.pestsTo
  split
  · exact hg.reclassify (Int.sub_nonneg_of_le ‹c.s ≥ k›) hg.nn.e (Int.add_nonneg hg.nn.i hk)
      hg.nn.r hg.nn.mort (by carith) hg.te rfl rfl rfl rfl
  · exact hg.reclassify (Int.sub_nonneg_of_le (Int.le_refl _)) hg.nn.e
      (Int.add_nonneg hg.nn.i hg.nn.s) hg.nn.r hg.nn.mort (by carith) hg.te rfl rfl rfl rfl

/-! ### resistance -/

theorem removeResistance_step (c : Cell) (hg : c.Good) :
    CohortStep .reclassify c c.removeResistance := by
  unfold Cell.removeResistance
  exact ⟨hg.reclassify (Int.add_nonneg hg.nn.s hg.nn.r) hg.nn.e hg.nn.i (Int.le_refl 0) hg.nn.mort
    (by carith) hg.te rfl rfl rfl rfl, id⟩

theorem makeResistant_eq {c c' : Cell} {sR iR : Int} {eR mR : List Int}
    (h : c.makeResistant sR eR iR mR = .ok c') :
    c' = { c with s := c.s - sR, e := subL c.e eR, te := c.te - sumL eR, i := c.i - iR,
                  mort := subL c.mort mR, r := c.r + (sR + sumL eR + iR) } := by
  unfold Cell.makeResistant at h
  injection (ok_of_guard (ok_of_guard (ok_of_guard h).2).2).2 with h
  exact h.symm

theorem makeResistant_step {c c' : Cell} (hg : c.Good) {sR iR : Int} {eR mR : List Int}
    (hS : 0 ≤ sR ∧ sR ≤ c.s) (hE : Dom c.e eR) (hI : 0 ≤ iR ∧ iR ≤ c.i) (hM : Dom c.mort mR)
    (h : c.makeResistant sR eR iR mR = .ok c') :
    StepFacts .reclassify c c' ∧ (iR = sumL mR → c.i = sumL c.mort → c'.i = sumL c'.mort) := by
  obtain rfl := makeResistant_eq h
  have hs := sumL_subL hE.length_eq
  exact ⟨hg.reclassify (Int.sub_nonneg_of_le hS.2) hE.allNN_sub (Int.sub_nonneg_of_le hI.2)
    (Int.add_nonneg hg.nn.r
      (Int.add_nonneg (Int.add_nonneg hS.1 (sumL_nonneg hE.allNN_draw)) hI.1))
    hM.allNN_sub (by dsimp only; rw [hs]; omega) (by dsimp only; rw [hs, hg.te]) rfl rfl
    (length_subL hE.length_eq) (length_subL hM.length_eq),
    fun h1 h2 => by dsimp only; rw [sumL_subL hM.length_eq, h1, h2]⟩

/-! ### removals -/

/-- A successful `completely_remove_hosts_at`, read backwards: the exposed removal fits, the
    susceptible amount is taken only when positive, the infected amount and its cohorts only when
    positive (the two guards of the C++ function). -/
theorem completelyRemove_inv {c c' : Cell} {sR iR : Int} {eR mR : List Int}
    (h : c.completelyRemove sR eR iR mR = .ok c') :
    eR.length = c.e.length ∧
    c' = (if iR ≤ 0 then
            { c with s := c.s - (if sR > 0 then sR else 0), e := subL c.e eR, te := c.te - sumL eR }
          else
            { c with s := c.s - (if sR > 0 then sR else 0), e := subL c.e eR, te := c.te - sumL eR,
                     mort := subL c.mort mR, i := c.i - iR }).resetTotal := by
  have hc1 : (if sR > 0 then { c with s := c.s - sR } else c) =
      { c with s := c.s - (if sR > 0 then sR else 0) } := by
    split
    · rfl
    · rw [Int.sub_zero]
  unfold Cell.completelyRemove at h
  rw [hc1] at h
  obtain ⟨hl, h⟩ := ok_of_guard h
  refine ⟨Decidable.of_not_not hl, ?_⟩
  by_cases hi0 : iR ≤ 0
  · rw [if_pos hi0] at h ⊢
    injection h with h; exact h.symm
  · rw [if_neg hi0] at h ⊢
    injection (ok_of_guard (ok_of_guard h).2).2 with h
    exact h.symm

theorem completelyRemove_step {c c' : Cell} (hg : c.Good) {sR iR : Int} {eR mR : List Int}
    (hS : 0 ≤ sR ∧ sR ≤ c.s) (hE : Dom c.e eR) (hI : 0 ≤ iR ∧ iR ≤ c.i) (hM : Dom c.mort mR)
    (h : c.completelyRemove sR eR iR mR = .ok c') :
    StepFacts .removal c c' ∧ (iR = sumL mR → c.i = sumL c.mort → c'.i = sumL c'.mort) := by
  have hs := sumL_subL hE.length_eq
  have := sumL_nonneg hE.allNN_draw
  have hte : c.te - sumL eR = sumL (subL c.e eR) := by rw [hs, hg.te]
  obtain ⟨_, rfl⟩ := completelyRemove_inv h
  rw [show (if sR > 0 then sR else 0) = sR by split <;> omega]
  by_cases hi0 : iR ≤ 0
  · rw [if_pos hi0]
    exact ⟨.of_good (.of_parts (Int.sub_nonneg_of_le hS.2) hE.allNN_sub hg.nn.i hg.nn.r hg.nn.mort
      hg.nn.died rfl hte) (ledger_removal (by dsimp only [Cell.resetTotal]; rw [hs]; omega) rfl)
      (length_subL hE.length_eq) rfl, fun _ => id⟩
  · rw [if_neg hi0]
    exact ⟨.of_good (.of_parts (Int.sub_nonneg_of_le hS.2) hE.allNN_sub
      (Int.sub_nonneg_of_le hI.2) hg.nn.r hM.allNN_sub hg.nn.died rfl hte)
      (ledger_removal (by dsimp only [Cell.resetTotal]; rw [hs]; omega) rfl)
      (length_subL hE.length_eq) (length_subL hM.length_eq),
      fun h1 h2 => by dsimp only [Cell.resetTotal]; rw [sumL_subL hM.length_eq, h1, h2]⟩

/-- `draw_n_from_cohorts` followed by the subtraction the removals guard with `count > 0`. -/
theorem ValidDraw.taken {a d : List Int} {n : Int} (ha : AllNN a)
    (hv : ValidDraw a n d) :
    AllNN (if n > 0 then subL a d else a) ∧ (if n > 0 then subL a d else a).length = a.length := by
  split
  · exact ⟨hv.dom.allNN_sub, length_subL hv.dom.length_eq⟩
  · exact ⟨ha, rfl⟩

theorem ValidDraw.sum_taken {a d : List Int} {n : Int} (hn : 0 ≤ n ∧ n ≤ sumL a)
    (hv : ValidDraw a n d) : sumL (if n > 0 then subL a d else a) = sumL a - n := by
  have := sumL_subL hv.dom.length_eq
  have := hv.sum
  split <;> omega

theorem removeInfected_step (c : Cell) (count : Int) (draw : List Int) (hg : c.Good)
    (hc : 0 ≤ count ∧ count ≤ c.i) (hv : ValidDraw c.mort count draw) :
    CohortStep .reclassify c (c.removeInfected count draw) := by
  obtain ⟨h1, h2⟩ := hv.taken hg.nn.mort
  unfold Cell.removeInfected
  exact ⟨hg.reclassify (Int.add_nonneg hg.nn.s hc.1) hg.nn.e (Int.sub_nonneg_of_le hc.2) hg.nn.r h1
    (by carith) hg.te rfl rfl rfl h2, fun hm => by dsimp only; rw [hv.sum_taken (hm ▸ hc), hm]⟩

theorem removeExposed_step (c : Cell) (count : Int) (draw : List Int) (hg : c.Good)
    (hc : 0 ≤ count ∧ count ≤ c.te) (hv : ValidDraw c.e count draw) :
    CohortStep .reclassify c (c.removeExposed count draw) := by
  obtain ⟨h1, h2⟩ := hv.taken hg.nn.e
  have hs := hv.sum_taken (hg.te ▸ hc)
  unfold Cell.removeExposed
  exact ⟨hg.reclassify (Int.add_nonneg hg.nn.s hc.1) h1 hg.nn.i hg.nn.r hg.nn.mort
    (by dsimp only; rw [hs]; omega) (by dsimp only; rw [hs, hg.te]) rfl rfl h2 rfl, id⟩

/-! ### treatments -/

/-- The share a treatment takes of a count: `round (get_treated count)`. -/
def mech_sh (rnd : Rat → Int) (coef : Rat) (app : TreatApp) (x : Int) : Int :=
  rnd (getTreated coef app x)

theorem mech_sh_ratio (rnd : Rat → Int) (coef : Rat) (x : Int) :
    mech_sh rnd coef .ratio x = rnd ((x : Rat) * coef) := rfl

theorem mech_Rounds.sh_all {rnd : Rat → Int} (h : mech_Rounds rnd) (coef : Rat) (x : Int) :
    mech_sh rnd coef .allInfected x = if coef ≠ 0 then x else 0 := by
  unfold mech_sh getTreated
  by_cases hc : coef = 0
  · simp [hc, h.zero]
  · simp [hc, h.int]

theorem mech_Rounds.sh_bounds {rnd : Rat → Int} (h : mech_Rounds rnd) (coef : Rat) (app : TreatApp)
    (h0 : 0 ≤ coef) (h1 : coef ≤ 1) (x : Int) (hx : 0 ≤ x) :
    0 ≤ mech_sh rnd coef app x ∧ mech_sh rnd coef app x ≤ x := by
  cases app with
  | ratio => exact h.share hx h0 h1
  | allInfected => rw [h.sh_all]; split <;> omega

theorem rceil_treated {coef : Rat} (h0 : 0 ≤ coef) (h1 : coef ≤ 1) (app : TreatApp) (x : Int)
    (hx : 0 ≤ x) : 0 ≤ rceil (getTreated coef app x) ∧ rceil (getTreated coef app x) ≤ x :=
  mech_rounds_ceil.sh_bounds coef app h0 h1 x hx

theorem rfloor_treated {coef : Rat} (h0 : 0 ≤ coef) (h1 : coef ≤ 1) (app : TreatApp) (x : Int)
    (hx : 0 ≤ x) : 0 ≤ rfloor (getTreated coef app x) ∧ rfloor (getTreated coef app x) ≤ x :=
  mech_rounds_floor.sh_bounds coef app h0 h1 x hx

/-- The share of the infected equals the sum of the cohort shares: given by `roundingAgrees` for
    ratio application, automatic for "all infected" (each cohort goes whole or not at all). -/
theorem treated_sum_agrees (round : Rat → Int) (hz : round 0 = 0)
    (hint : ∀ n : Int, round (n : Rat) = n) (coef : Rat) (app : TreatApp) (c : Cell)
    (hm : c.i = sumL c.mort) (hr : app = .ratio → roundingAgrees round coef c = true) :
    round (getTreated coef app c.i) = sumL (c.mort.map fun x => round (getTreated coef app x)) := by
  cases app with
  | ratio =>
    have := hr rfl
    simp only [roundingAgrees, decide_eq_true_eq] at this
    simp only [getTreated]; exact this.symm
  | allInfected =>
    simp only [getTreated]
    split
    · simp only [hint, List.map_id']; exact hm
    · simp only [hz]; exact (sumL_zeros c.mort).symm

theorem simpleTreat_step {c c' : Cell} (hg : c.Good) {coef : Rat} (h0 : 0 ≤ coef) (h1 : coef ≤ 1)
    (app : TreatApp) (h : c.simpleTreat coef app = .ok c') :
    StepFacts .removal c c' ∧ (c.i = sumL c.mort →
      (app = .ratio → roundingAgrees rceil coef c = true) → c'.i = sumL c'.mort) :=
  have f := completelyRemove_step hg (rceil_share hg.nn.s h0 h1)
    (dom_map hg.nn.e (rceil_treated h0 h1 app)) (rceil_treated h0 h1 app c.i hg.nn.i)
    (dom_map hg.nn.mort (rceil_treated h0 h1 app)) h
  ⟨f.1, fun hm hr => f.2 (treated_sum_agrees rceil rceil_zero rceil_int coef app c hm hr) hm⟩

theorem pesticideTreat_step {c c' : Cell} (hg : c.Good) {coef : Rat} (h0 : 0 ≤ coef) (h1 : coef ≤ 1)
    (app : TreatApp) (h : c.pesticideTreat coef app = .ok c') :
    StepFacts .reclassify c c' ∧ (c.i = sumL c.mort →
      (app = .ratio → roundingAgrees rfloor coef c = true) → c'.i = sumL c'.mort) :=
  have f := makeResistant_step hg (rfloor_share hg.nn.s h0 h1)
    (dom_map hg.nn.e (rfloor_treated h0 h1 app)) (rfloor_treated h0 h1 app c.i hg.nn.i)
    (dom_map hg.nn.mort (rfloor_treated h0 h1 app)) h
  ⟨f.1, fun hm hr => f.2 (treated_sum_agrees rfloor rfloor_zero rfloor_int coef app c hm hr) hm⟩

/-! ### survival rate and lethal temperature -/

theorem sub_lround_share {x : Int} {ratio : Rat} (hx : 0 ≤ x) (h0 : 0 ≤ ratio) (h1 : ratio ≤ 1) :
    0 ≤ x - lround (x * ratio) ∧ x - lround (x * ratio) ≤ x := by
  have := lround_share hx h0 h1
  omega

theorem ratioRemovedInfected_bounds (c : Cell) {ratio : Rat} (hi : 0 ≤ c.i) (h0 : 0 ≤ ratio)
    (h1 : ratio ≤ 1) : 0 ≤ c.ratioRemovedInfected ratio ∧ c.ratioRemovedInfected ratio ≤ c.i :=
  sub_lround_share hi h0 h1

theorem ratioRemovedExposed_bounds (c : Cell) {ratio : Rat} (hi : 0 ≤ c.te) (h0 : 0 ≤ ratio)
    (h1 : ratio ≤ 1) : 0 ≤ c.ratioRemovedExposed ratio ∧ c.ratioRemovedExposed ratio ≤ c.te :=
  sub_lround_share hi h0 h1

theorem removeByRatio_step (c : Cell) (ratio : Rat) (dI dE : List Int) (hg : c.Good)
    (h0 : 0 ≤ ratio) (h1 : ratio ≤ 1)
    (hvI : ValidDraw c.mort (c.ratioRemovedInfected ratio) dI)
    (hvE : ValidDraw c.e
      ((c.removeInfected (c.ratioRemovedInfected ratio) dI).ratioRemovedExposed ratio) dE) :
    CohortStep .reclassify c (c.removeByRatio ratio dI dE) :=
  have f1 := removeInfected_step c _ dI hg (ratioRemovedInfected_bounds c hg.nn.i h0 h1) hvI
  f1.trans (removeExposed_step _ _ dE f1.1.good (ratioRemovedExposed_bounds _ f1.1.nn.te h0 h1) hvE)

/-! ### mortality -/

/-- Holds of the mortality loop for any rate `≥ 0`. Conserved sums rather than differences, so
    that the relation composes by `Eq.trans`. -/
structure MortWeak (c0 c : Cell) : Prop where
  i : 0 ≤ c.i
  th : 0 ≤ c.th
  dd : c0.died ≤ c.died
  di : c.i + c.died = c0.i + c0.died
  dth : c.th + c.died = c0.th + c0.died

theorem MortWeak.refl {c : Cell} (hi : 0 ≤ c.i) (hth : 0 ≤ c.th) : MortWeak c c :=
  ⟨hi, hth, Int.le_refl _, rfl, rfl⟩

theorem MortWeak.trans {a b c : Cell} (h1 : MortWeak a b) (h2 : MortWeak b c) : MortWeak a c :=
  ⟨h2.i, h2.th, Int.le_trans h1.dd h2.dd, h2.di.trans h1.di, h2.dth.trans h1.dth⟩

structure MortRel (c0 c : Cell) : Prop extends MortWeak c0 c where
  s : c.s = c0.s
  e : c.e = c0.e
  r : c.r = c0.r
  te : c.te = c0.te
  mort : AllNN c.mort
  len : c.mort.length = c0.mort.length
  sm : sumL c.mort + c.died = sumL c0.mort + c0.died

theorem MortRel.refl {c : Cell} (hm : AllNN c.mort) (hi : 0 ≤ c.i) (hth : 0 ≤ c.th) : MortRel c c :=
  ⟨.refl hi hth, rfl, rfl, rfl, rfl, hm, rfl, rfl⟩

theorem MortRel.trans {a b c : Cell} (h1 : MortRel a b) (h2 : MortRel b c) : MortRel a c :=
  ⟨h1.toMortWeak.trans h2.toMortWeak, h2.s.trans h1.s, h2.e.trans h1.e, h2.r.trans h1.r,
    h2.te.trans h1.te, h2.mort, h2.len.trans h1.len, h2.sm.trans h1.sm⟩

theorem MortRel.cohorts {c c' : Cell} (h : MortRel c c') (hm : c.i = sumL c.mort) :
    c'.i = sumL c'.mort := by
  have := h.di; have := h.sm; omega

/-- Hosts of a cohort of size `m` at position `idx` that die in one mortality action. -/
def mortKill (rate : Rat) (m : Int) (idx : Nat) : Int :=
  if m ≤ 0 then 0 else if idx = 0 then m else rfloor (rate * m)

theorem mortKill_nonneg (rate : Rat) (hr0 : 0 ≤ rate) (m : Int) (idx : Nat) :
    0 ≤ mortKill rate m idx := by
  unfold mortKill
  split
  · omega
  · split
    · omega
    · exact rfloor_nonneg (Rat.mul_nonneg hr0 (intCast_nonneg (by omega)))

theorem mortKill_le (rate : Rat) (hr0 : 0 ≤ rate) (hr1 : rate ≤ 1) (m : Int) (idx : Nat)
    (hm : 0 ≤ m) : mortKill rate m idx ≤ m := by
  unfold mortKill
  split
  · omega
  · split
    · omega
    · rw [Rat.mul_comm]; exact (rfloor_share hm hr0 hr1).2

theorem mortKill_nonpos (rate : Rat) (m : Int) (idx : Nat) (hm : m ≤ 0) : mortKill rate m idx = 0 := by
  unfold mortKill; simp only [hm, if_true]

def killAt (c : Cell) (idx : Nat) (k : Int) : Cell :=
  { c with mort := c.mort.set idx (c.mort[idx]! - k), died := c.died + k, i := c.i - k, th := c.th - k }

theorem killAt_zero (c : Cell) (idx : Nat) : killAt c idx 0 = c := by
  simp only [killAt, Int.sub_zero, Int.add_zero, act_set_getElem!_self]

/-- `mortalityAtIndex` with the number of dead named: an empty cohort is skipped, more dead than
    infected or than hosts is the error, otherwise `killAt` (the two guarded decrements of the
    code are plain ones: where a guard is off, nobody died). -/
theorem mortalityAtIndex_eq (rate : Rat) (idx : Nat) (c : Cell) (hr0 : 0 ≤ rate) :
    mortalityAtIndex rate idx c =
      if c.mort[idx]! ≤ 0 then .ok c
      else if mortKill rate c.mort[idx]! idx > c.i ∨ mortKill rate c.mort[idx]! idx > c.th then
        .error .runtime_error
      else .ok (killAt c idx (mortKill rate c.mort[idx]! idx)) := by
  have hk0 := mortKill_nonneg rate hr0 c.mort[idx]! idx
  unfold mortalityAtIndex
  by_cases hm : c.mort[idx]! ≤ 0
  · rw [if_pos hm, if_neg (Int.not_lt.mpr hm)]
  · have hk : (if idx = 0 then c.mort[idx]! else rfloor (rate * c.mort[idx]!)) =
        mortKill rate c.mort[idx]! idx := by unfold mortKill; rw [if_neg hm]
    rw [if_neg hm]
    show (if c.mort[idx]! > 0 then _ else _) = _
    rw [if_pos (Int.not_le.mp hm)]
    show (if (if idx = 0 then c.mort[idx]! else rfloor (rate * c.mort[idx]!)) > c.i then _ else _) = _
    rw [hk]
    generalize mortKill rate c.mort[idx]! idx = k at hk0
    by_cases h1 : k > c.i
    · rw [if_pos h1, if_pos (Or.inl h1)]
    · rw [if_neg h1]
      show (if k > c.th then _ else _) = _
      by_cases h2 : k > c.th
      · rw [if_pos h2, if_pos (Or.inr h2)]
      · rw [if_neg h2, if_neg (show ¬ (k > c.i ∨ k > c.th) from fun h => h.elim h1 h2)]
        by_cases hk : k = 0
        · subst hk; simp only [killAt, Int.sub_zero, Int.add_zero, ite_self]
        · simp only [killAt, show c.i > 0 by omega, show c.th > 0 by omega, if_true]

theorem mortalityAtIndex_of_ok (rate : Rat) (idx : Nat) (c c' : Cell) (hr0 : 0 ≤ rate)
    (h : mortalityAtIndex rate idx c = .ok c') :
    c' = killAt c idx (mortKill rate c.mort[idx]! idx) := by
  rw [mortalityAtIndex_eq rate idx c hr0] at h
  split at h
  · next hm => rw [mortKill_nonpos rate _ idx hm, killAt_zero]; exact (Except.ok.inj h).symm
  · split at h
    · cases h
    · exact (Except.ok.inj h).symm

theorem sumL_set_sub (l : List Int) (idx : Nat) (k : Int) (h : idx < l.length ∨ k = 0) :
    sumL (l.set idx (l[idx]! - k)) = sumL l - k := by
  by_cases hl : idx < l.length
  · rw [sumL_set l idx _ hl]; omega
  · have : k = 0 := by omega
    subst this
    rw [Int.sub_zero, act_set_getElem!_self, Int.sub_zero]

theorem mortKill_index (rate : Rat) (l : List Int) (idx : Nat) :
    idx < l.length ∨ mortKill rate l[idx]! idx = 0 := by
  by_cases hp : l[idx]! > 0
  · exact Or.inl (getElem!_pos_lt_length hp)
  · exact Or.inr (mortKill_nonpos rate _ idx (Int.not_lt.mp hp))

theorem mortalityAtIndex_ok_le {rate : Rat} (h0 : 0 ≤ rate) {idx : Nat} {c c' : Cell}
    (hi : 0 ≤ c.i) (hth : 0 ≤ c.th) (h : mortalityAtIndex rate idx c = .ok c') :
    mortKill rate c.mort[idx]! idx ≤ c.i ∧ mortKill rate c.mort[idx]! idx ≤ c.th := by
  rw [mortalityAtIndex_eq rate idx c h0] at h
  split at h
  · next hm => rw [mortKill_nonpos rate _ idx hm]; exact ⟨hi, hth⟩
  · split at h
    · cases h
    · next hk => exact ⟨Int.not_lt.mp fun x => hk (.inl x), Int.not_lt.mp fun x => hk (.inr x)⟩

theorem mortalityAtIndex_weak {rate : Rat} (h0 : 0 ≤ rate) {idx : Nat} {c c' : Cell}
    (hi : 0 ≤ c.i) (hth : 0 ≤ c.th) (h : mortalityAtIndex rate idx c = .ok c') : MortWeak c c' := by
  obtain ⟨hki, hkt⟩ := mortalityAtIndex_ok_le h0 hi hth h
  rw [mortalityAtIndex_of_ok rate idx c c' h0 h]
  exact ⟨Int.sub_nonneg_of_le hki, Int.sub_nonneg_of_le hkt,
    Int.le_add_of_nonneg_right (mortKill_nonneg rate h0 _ idx), by unfold killAt; carith,
    by unfold killAt; carith⟩

theorem mortalityAtIndex_rel {rate : Rat} (h0 : 0 ≤ rate) (h1 : rate ≤ 1) (idx : Nat) (c c' : Cell)
    (hm : AllNN c.mort) (hi : 0 ≤ c.i) (hth : 0 ≤ c.th)
    (h : mortalityAtIndex rate idx c = .ok c') : MortRel c c' := by
  have hw := mortalityAtIndex_weak h0 hi hth h
  have hk := mortKill_le rate h0 h1 _ idx (getElem!_nonneg hm idx)
  have hs := sumL_set_sub c.mort idx _ (mortKill_index rate c.mort idx)
  rw [mortalityAtIndex_of_ok rate idx c c' h0 h] at hw ⊢
  exact ⟨hw, rfl, rfl, rfl, rfl, allNN_set hm idx (Int.sub_nonneg_of_le hk), List.length_set,
    by unfold killAt; rw [hs]; carith⟩

theorem mortalityAtIndex_ok {rate : Rat} (h0 : 0 ≤ rate) (h1 : rate ≤ 1) (idx : Nat) (c : Cell)
    (hm : AllNN c.mort) (hi : c.i = sumL c.mort) (hle : c.i ≤ c.th) :
    ∃ c', mortalityAtIndex rate idx c = .ok c' := by
  have hk := mortKill_le rate h0 h1 _ idx (getElem!_nonneg hm idx)
  have := getElem!_le_sumL hm idx
  rw [mortalityAtIndex_eq rate idx c h0]
  split
  · exact ⟨_, rfl⟩
  · rw [if_neg (by omega)]; exact ⟨_, rfl⟩

theorem foldlM_inv {α β : Type} (f : β → α → Except ErrKind β) (P : β → Prop)
    (hstep : ∀ b a b', P b → f b a = .ok b' → P b') :
    ∀ (l : List α) (b b' : β), P b → l.foldlM f b = .ok b' → P b' := by
  intro l
  induction l with
  | nil =>
    intro b b' hb h
    injection h with h; exact h ▸ hb
  | cons a l ih =>
    intro b b' hb h
    rw [List.foldlM_cons] at h
    obtain ⟨b1, hf, h⟩ := except_bind_ok h
    exact ih b1 b' (hstep b a b1 hb hf) h

theorem foldlM_ok {α β : Type} (f : β → α → Except ErrKind β) (P : β → Prop)
    (hstep : ∀ b a, P b → ∃ b', f b a = .ok b' ∧ P b') :
    ∀ (l : List α) (b : β), P b → ∃ b', l.foldlM f b = .ok b' := by
  intro l
  induction l with
  | nil => intro b _; exact ⟨b, rfl⟩
  | cons a l ih =>
    intro b hb
    obtain ⟨b1, hf, hb1⟩ := hstep b a hb
    obtain ⟨b2, h2⟩ := ih b1 hb1
    exact ⟨b2, by rw [List.foldlM_cons, hf]; exact h2⟩

theorem applyMortality_rel {rate : Rat} (h0 : 0 ≤ rate) (h1 : rate ≤ 1) (lag : Int) (c c' : Cell)
    (hm : AllNN c.mort) (hi : 0 ≤ c.i) (hth : 0 ≤ c.th)
    (h : c.applyMortality rate lag = .ok c') : MortRel c c' := by
  unfold Cell.applyMortality at h
  split at h
  · cases h; exact MortRel.refl hm hi hth
  · exact foldlM_inv (fun c idx => mortalityAtIndex rate idx c) (MortRel c)
      (fun b a b' hb hf => hb.trans (mortalityAtIndex_rel h0 h1 a b b' hb.mort hb.i hb.th hf))
      _ c c' (MortRel.refl hm hi hth) h

theorem applyMortality_weak {rate : Rat} (lag : Int) {c c' : Cell} (hi : 0 ≤ c.i) (hth : 0 ≤ c.th)
    (h : c.applyMortality rate lag = .ok c') : MortWeak c c' := by
  unfold Cell.applyMortality at h
  split at h
  · cases h; exact .refl hi hth
  · rename_i hr
    exact foldlM_inv (fun c idx => mortalityAtIndex rate idx c) (MortWeak c)
      (fun b a b' hb hf =>
        hb.trans (mortalityAtIndex_weak (Rat.le_of_lt (Rat.not_le.mp hr)) hb.i hb.th hf))
      _ c c' (.refl hi hth) h

theorem applyMortality_ok {rate : Rat} (h0 : 0 ≤ rate) (h1 : rate ≤ 1) (lag : Int) (c : Cell)
    (hm : AllNN c.mort) (hi : c.i = sumL c.mort) (hle : c.i ≤ c.th) :
    ∃ c', c.applyMortality rate lag = .ok c' := by
  unfold Cell.applyMortality
  split
  · exact ⟨_, rfl⟩
  · -- the loop keeps `i = Σ mort` and `i ≤ th`, which is what makes each iteration succeed
    refine foldlM_ok (fun c idx => mortalityAtIndex rate idx c)
      (fun b => AllNN b.mort ∧ b.i = sumL b.mort ∧ b.i ≤ b.th) ?_ _ c ⟨hm, hi, hle⟩
    intro b a ⟨hbm, hbi, hble⟩
    have hb0 : 0 ≤ b.i := hbi ▸ sumL_nonneg hbm
    obtain ⟨b', hb'⟩ := mortalityAtIndex_ok h0 h1 a b hbm hbi hble
    have hr := mortalityAtIndex_rel h0 h1 a b b' hbm hb0 (Int.le_trans hb0 hble) hb'
    have hle : b'.i + b'.died ≤ b'.th + b'.died := by
      rw [hr.di, hr.dth]; exact Int.add_le_add_right hble _
    exact ⟨b', hb', hr.mort, hr.cohorts hbi, Int.le_of_add_le_add_right hle⟩

theorem MortRel.rotate {c c1 : Cell} (h : MortRel c c1) : MortRel c c1.stepForwardMortality :=
  ⟨⟨h.i, h.th, h.dd, h.di, h.dth⟩, h.s, h.e, h.r, h.te, allNN_rotateLeft h.mort, (length_rotateLeft _).trans h.len,
    (sumL_rotateLeft c1.mort).symm ▸ h.sm⟩

theorem MortRel.step {c c' : Cell} (hg : c.Good) (h : MortRel c c') : CohortStep .death c c' := by
  have he : sumL c'.e = sumL c.e := congrArg sumL h.e
  have hh : c'.s + sumL c'.e + c'.i + c'.r = c.s + sumL c.e + c.i + c.r - (c'.died - c.died) := by
    rw [h.s, he, h.r]; have := h.di; omega
  exact ⟨.of_good
    (.of_parts (h.s ▸ hg.nn.s) (h.e ▸ hg.nn.e) h.i (h.r ▸ hg.nn.r) h.mort
      (Int.le_trans hg.nn.died h.dd) (by rw [hh]; have := h.dth; have := hg.th; omega)
      (h.te.trans (hg.te.trans he.symm)))
    (ledger_death hh h.dd) (congrArg List.length h.e) h.len, h.cohorts⟩

theorem mortality_step {rate : Rat} (h0 : 0 ≤ rate) (h1 : rate ≤ 1) (lag : Int) {c c' : Cell}
    (hg : c.Good) (h : (c.applyMortality rate lag).map Cell.stepForwardMortality = .ok c') :
    CohortStep .death c c' := by
  obtain ⟨c1, ha, rfl⟩ := except_map_ok h
  exact (applyMortality_rel h0 h1 lag c c1 hg.nn.mort hg.nn.i hg.nn.th ha).rotate.step hg

/-! ### latency -/

theorem stepForward_step (mt : ModelType) (latency step : Nat) (c : Cell) (hg : c.Good)
    (hd : mt = .sei → (c.e ≠ [] ∧ c.mort ≠ [])) :
    CohortStep .reclassify c (c.stepForward mt latency step) := by
  cases mt with
  | si => exact .refl hg
  | sei =>
    have he := hg.nn.e
    unfold Cell.stepForward
    dsimp only
    split
    · split
      · exact absurd ‹c.e = []› (hd rfl).1
      · rename_i o rest heq
        rw [heq] at he
        obtain ⟨ho, hrest⟩ := allNN_cons.mp he
        have hs : sumL c.e = o + sumL rest := heq ▸ sumL_cons o rest
        have hrot : sumL (rotateLeft (0 :: rest)) = sumL rest := by
          rw [sumL_rotateLeft, sumL_cons]; omega
        have hl : c.e.length = (0 :: rest).length := heq ▸ rfl
        exact ⟨hg.reclassify hg.nn.s (allNN_rotateLeft (allNN_cons.mpr ⟨Int.le_refl 0, hrest⟩))
          (Int.add_nonneg hg.nn.i ho) hg.nn.r (allNN_addLast hg.nn.mort ho)
          (by dsimp only; rw [hrot, hs]; omega) (by dsimp only; rw [hrot, hg.te, hs]; omega)
          rfl rfl ((length_rotateLeft _).trans hl.symm) (length_addLast _ _),
          fun hm => by dsimp only; rw [sumL_addLast o (hd rfl).2, hm]⟩
    · exact ⟨hg.reclassify hg.nn.s (allNN_rotateLeft he) hg.nn.i hg.nn.r hg.nn.mort
        (by dsimp only; rw [sumL_rotateLeft]) ((sumL_rotateLeft c.e).symm ▸ hg.te) rfl rfl
        (length_rotateLeft _) rfl, id⟩

end Pops
