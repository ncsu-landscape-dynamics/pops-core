/-
  The comparison operators are the order of the rank `Date.ord` (year, month, day). `Date.plus` adds
  days with carry; `increased_by_days`, `increased_by_week`, `add_day` are `plus` up to the year-end
  rule, stated by day of year (`Date.doy`).
-/
import PopsModel.Model.DatePred
namespace Pops
open Date

theorem month_table (l : Bool) (m : Int) (h1 : 1 ≤ m) (h2 : m ≤ 12) :
    28 ≤ dim l m ∧ dim l m ≤ 31 ∧ cumDays l m ≤ cumDays l 12 ∧
      (m ≤ 11 → cumDays l (m + 1) = cumDays l m + dim l m) := by
  have hm : m = 1 ∨ m = 2 ∨ m = 3 ∨ m = 4 ∨ m = 5 ∨ m = 6 ∨ m = 7 ∨ m = 8 ∨ m = 9 ∨ m = 10 ∨
      m = 11 ∨ m = 12 := by omega
  rcases hm with rfl|rfl|rfl|rfl|rfl|rfl|rfl|rfl|rfl|rfl|rfl|rfl <;> cases l <;> decide

theorem dim_out (l : Bool) (m : Int) (h : m < 1 ∨ 12 < m) : dim l m = 0 := by
  have : ∀ k : Int, 1 ≤ k → k ≤ 12 → ¬ m = k := by omega
  simp [dim, this]

theorem dim_cases (l : Bool) (m : Int) :
    (m = 1 ∧ dim l m = 31) ∨ (m = 2 ∧ dim l m = (if l then 29 else 28)) ∨ (m = 3 ∧ dim l m = 31) ∨
    (m = 4 ∧ dim l m = 30) ∨ (m = 5 ∧ dim l m = 31) ∨ (m = 6 ∧ dim l m = 30) ∨
    (m = 7 ∧ dim l m = 31) ∨ (m = 8 ∧ dim l m = 31) ∨ (m = 9 ∧ dim l m = 30) ∨
    (m = 10 ∧ dim l m = 31) ∨ (m = 11 ∧ dim l m = 30) ∨ (m = 12 ∧ dim l m = 31) ∨
    ((m < 1 ∨ 12 < m) ∧ dim l m = 0) := by
  unfold dim
  by_cases h1 : m = 1; · exact .inl ⟨h1, if_pos h1⟩
  rw [if_neg h1]; refine .inr ?_
  by_cases h2 : m = 2; · exact .inl ⟨h2, if_pos h2⟩
  rw [if_neg h2]; refine .inr ?_
  by_cases h3 : m = 3; · exact .inl ⟨h3, if_pos h3⟩
  rw [if_neg h3]; refine .inr ?_
  by_cases h4 : m = 4; · exact .inl ⟨h4, if_pos h4⟩
  rw [if_neg h4]; refine .inr ?_
  by_cases h5 : m = 5; · exact .inl ⟨h5, if_pos h5⟩
  rw [if_neg h5]; refine .inr ?_
  by_cases h6 : m = 6; · exact .inl ⟨h6, if_pos h6⟩
  rw [if_neg h6]; refine .inr ?_
  by_cases h7 : m = 7; · exact .inl ⟨h7, if_pos h7⟩
  rw [if_neg h7]; refine .inr ?_
  by_cases h8 : m = 8; · exact .inl ⟨h8, if_pos h8⟩
  rw [if_neg h8]; refine .inr ?_
  by_cases h9 : m = 9; · exact .inl ⟨h9, if_pos h9⟩
  rw [if_neg h9]; refine .inr ?_
  by_cases h10 : m = 10; · exact .inl ⟨h10, if_pos h10⟩
  rw [if_neg h10]; refine .inr ?_
  by_cases h11 : m = 11; · exact .inl ⟨h11, if_pos h11⟩
  rw [if_neg h11]; refine .inr ?_
  by_cases h12 : m = 12; · exact .inl ⟨h12, if_pos h12⟩
  rw [if_neg h12]
  exact .inr ⟨by omega, rfl⟩

theorem dim_ge (l : Bool) (m : Int) (h1 : 1 ≤ m) (h2 : m ≤ 12) : 28 ≤ dim l m := (month_table l m h1 h2).1

theorem dim_le (l : Bool) (m : Int) : dim l m ≤ 31 := by
  by_cases h : 1 ≤ m ∧ m ≤ 12
  · exact (month_table l m h.1 h.2).2.1
  · rw [dim_out l m (by omega)]; decide

theorem dim_nonneg (l : Bool) (m : Int) : 0 ≤ dim l m := by
  by_cases h : 1 ≤ m ∧ m ≤ 12
  · have := dim_ge l m h.1 h.2; omega
  · rw [dim_out l m (by omega)]; decide

@[simp] theorem dim_1 (l : Bool) : dim l 1 = 31 := by decide +revert
@[simp] theorem dim_12 (l : Bool) : dim l 12 = 31 := by decide +revert
@[simp] theorem dim_11 (l : Bool) : dim l 11 = 30 := by decide +revert

/-- Month and day within the table's range; enough for the order lemmas. -/
def Date.Bounded (t : Date) : Prop := 1 ≤ t.m ∧ t.m ≤ 12 ∧ 1 ≤ t.d ∧ t.d ≤ 31

theorem Date.Valid.bounded {t : Date} (h : t.Valid) : t.Bounded := by
  obtain ⟨a, b, c, d⟩ := h
  exact ⟨a, b, c, Int.le_trans d (dim_le _ _)⟩

theorem lt_iff_lex (a b : Date) :
    a.lt b = true ↔ a.y < b.y ∨ (a.y = b.y ∧ (a.m < b.m ∨ (a.m = b.m ∧ a.d < b.d))) := by
  unfold Date.lt
  rcases Int.lt_trichotomy a.y b.y with h | h | h
  · simp only [if_neg (Int.lt_asymm h), if_pos h, true_iff]; exact .inl h
  · rcases Int.lt_trichotomy a.m b.m with h' | h' | h'
    · simp [h, h']; omega
    · simp [h, h']
    · simp [h, h']; omega
  · simp only [if_pos h, Bool.false_eq_true, false_iff]; omega

theorem ord_lt_iff_lex {a b : Date} (ha : a.Bounded) (hb : b.Bounded) :
    a.ord < b.ord ↔ a.y < b.y ∨ (a.y = b.y ∧ (a.m < b.m ∨ (a.m = b.m ∧ a.d < b.d))) := by
  obtain ⟨a1, a2, a3, a4⟩ := ha; obtain ⟨b1, b2, b3, b4⟩ := hb
  unfold Date.ord; omega

theorem ord_le_iff_lex {a b : Date} (ha : a.Bounded) (hb : b.Bounded) :
    a.ord ≤ b.ord ↔ a.y < b.y ∨ (a.y = b.y ∧ (a.m < b.m ∨ (a.m = b.m ∧ a.d ≤ b.d))) := by
  rw [← Int.not_lt, ord_lt_iff_lex hb ha]; omega

theorem lt_iff_ord {a b : Date} (ha : a.Bounded) (hb : b.Bounded) :
    a.lt b = true ↔ a.ord < b.ord :=
  (lt_iff_lex a b).trans (ord_lt_iff_lex ha hb).symm

theorem gt_eq_lt (a b : Date) : a.gt b = b.lt a := rfl

theorem gt_iff_ord {a b : Date} (ha : a.Bounded) (hb : b.Bounded) :
    a.gt b = true ↔ b.ord < a.ord :=
  gt_eq_lt a b ▸ lt_iff_ord hb ha

theorem le_iff_ord {a b : Date} (ha : a.Bounded) (hb : b.Bounded) :
    a.le b = true ↔ a.ord ≤ b.ord := by
  rw [Date.le, Bool.not_eq_true', ← Bool.not_eq_true, gt_iff_ord ha hb, Int.not_lt]

theorem ge_iff_ord {a b : Date} (ha : a.Bounded) (hb : b.Bounded) :
    a.ge b = true ↔ b.ord ≤ a.ord := by
  rw [Date.ge, Bool.not_eq_true', ← Bool.not_eq_true, lt_iff_ord ha hb, Int.not_lt]

theorem ord_inj {a b : Date} (ha : a.Bounded) (hb : b.Bounded) (h : a.ord = b.ord) : a = b := by
  obtain ⟨a1, a2, a3, a4⟩ := ha; obtain ⟨b1, b2, b3, b4⟩ := hb
  cases a; cases b; simp only [Date.ord] at *; simp only [Date.mk.injEq]; omega

theorem valid_jan1 (y : Int) : (⟨y, 1, 1⟩ : Date).Valid := by
  simp [Date.Valid]

theorem cum_next (l : Bool) (m : Int) (h1 : 1 ≤ m) (h2 : m ≤ 11) :
    cumDays l (m + 1) = cumDays l m + dim l m :=
  (month_table l m h1 (by omega)).2.2.2 h2

theorem cum_le12 (l : Bool) (m : Int) (h1 : 1 ≤ m) (h2 : m ≤ 12) : cumDays l m ≤ cumDays l 12 :=
  (month_table l m h1 h2).2.2.1

theorem cum_1 (l : Bool) : cumDays l 1 = 0 := by simp [cumDays]

theorem cum_12 (l : Bool) : cumDays l 12 = 334 + (if l then 1 else 0) := by
  cases l <;> simp [cumDays]

theorem cum_12_range (l : Bool) : 334 ≤ cumDays l 12 ∧ cumDays l 12 ≤ 335 := by
  rw [cum_12]; cases l <;> decide

theorem yearLen_eq (y : Int) : yearLen y = 365 + (if isLeap y then 1 else 0) := by
  unfold yearLen; cases isLeap y <;> simp

theorem yearLen_eq_cum (y : Int) : yearLen y = cumDays (isLeap y) 12 + 31 := by
  rw [yearLen_eq, cum_12]; cases isLeap y <;> rfl

/-- The date `n` days after `t`, for `n` small enough (`≤ 28`) to cross one month boundary at most. -/
def Date.plus (t : Date) (n : Int) : Date :=
  if t.d + n ≤ dim (isLeap t.y) t.m then ⟨t.y, t.m, t.d + n⟩
  else if t.m = 12 then ⟨t.y + 1, 1, t.d + n - 31⟩
  else ⟨t.y, t.m + 1, t.d + n - dim (isLeap t.y) t.m⟩

theorem plus_spec (t : Date) (n : Int) (hv : t.Valid) (h1 : 1 ≤ n) (h28 : n ≤ 28) :
    (t.plus n).Valid ∧ t.ord < (t.plus n).ord := by
  obtain ⟨m1, m12, d1, dd⟩ := hv
  have hle := dim_le (isLeap t.y) t.m
  unfold Date.plus
  by_cases ho : t.d + n ≤ dim (isLeap t.y) t.m
  · simp only [if_pos ho, Date.Valid, Date.ord]; omega
  · by_cases hm : t.m = 12
    · have h31 : dim (isLeap t.y) t.m = 31 := by rw [hm, dim_12]
      simp only [if_neg ho, if_pos hm, Date.Valid, Date.ord, dim_1]; omega
    · have := dim_ge (isLeap t.y) (t.m + 1) (by omega) (by omega)
      simp only [if_neg ho, if_neg hm, Date.Valid, Date.ord]; omega

theorem plus_doy (t : Date) (n : Int) (hv : t.Valid) (h : t.doy + n ≤ yearLen t.y) :
    (t.plus n).y = t.y ∧ (t.plus n).doy = t.doy + n := by
  obtain ⟨m1, m12, d1, dd⟩ := hv
  unfold Date.plus
  by_cases ho : t.d + n ≤ dim (isLeap t.y) t.m
  · rw [if_pos ho]; exact ⟨rfl, by simp only [Date.doy]; omega⟩
  · rw [if_neg ho]
    by_cases hm : t.m = 12
    · rw [Date.doy, hm, yearLen_eq_cum] at h; rw [hm, dim_12] at ho
      omega
    · rw [if_neg hm]
      have := cum_next (isLeap t.y) t.m m1 (by omega)
      exact ⟨rfl, by simp only [Date.doy]; omega⟩

theorem rollDays_of_le {l : Bool} {lim : Int} {t : Date} (h : t.d ≤ dim l t.m) :
    rollDays l lim t = t :=
  if_neg (Int.not_lt.mpr h)

theorem rollDays_of_gt {l : Bool} {lim y m d : Int} (h : dim l m < d) (hm : m + 1 ≤ 12) :
    rollDays l lim ⟨y, m, d⟩ =
      if m + 1 = 12 ∧ d - dim l m > lim then ⟨y + 1, 1, 1⟩ else ⟨y, m + 1, d - dim l m⟩ := by
  have : ¬ m + 1 > 12 := by omega
  simp only [rollDays, if_pos h, if_neg this]

/-- The December limit of `increased_by_days` is day of year `365 - n`, leap year or not. -/
theorem december_limit_eq (l : Bool) (n : Int) :
    (if l = true then 31 - (n + 1) else 31 - n) = 365 - n - cumDays l 12 := by
  cases l
  · show 31 - n = 365 - n - 334; omega
  · show 31 - (n + 1) = 365 - n - 335; omega

/-- `increased_by_days` is calendar addition, except that a result past day `365 - n` of the year
    is replaced by the next 1 January. The limit is tested on a December date before the carry and
    again after it; the carry lands in December only from November. -/
theorem incDays_eq (t : Date) (n : Int) (hv : t.Valid) (h1 : 1 ≤ n) (h28 : n ≤ 28) :
    t.increasedByDays n = if t.doy + n > 365 - n then ⟨t.y + 1, 1, 1⟩ else t.plus n := by
  obtain ⟨y, m, d⟩ := t
  obtain ⟨m1, m12, d1, dd⟩ := hv
  simp only at m1 m12 d1 dd
  show rollDays (isLeap y) _ (if m = 12 ∧ d + n > _ then _ else _) = _
  simp only [december_limit_eq, Date.plus, Date.doy]
  generalize isLeap y = l at *
  obtain ⟨c1, c2⟩ := cum_12_range l
  by_cases hm : m = 12
  · subst hm
    rw [dim_12] at *
    by_cases hc : d + n > 365 - n - cumDays l 12
    · rw [if_pos ⟨rfl, hc⟩, if_pos (by omega), rollDays_of_le]
      show (1 : Int) ≤ dim l 1
      rw [dim_1]; omega
    · rw [if_neg (fun h => hc h.2), if_neg (by omega), rollDays_of_le, if_pos (by omega)]
      show d + n ≤ dim l 12
      rw [dim_12]; omega
  · rw [if_neg (fun h => hm h.1)]
    have hn := cum_next l m m1 (by omega)
    have hle := cum_le12 l (m + 1) (by omega) (by omega)
    by_cases ho : d + n ≤ dim l m
    · rw [rollDays_of_le ho, if_pos ho, if_neg (by omega)]
    · rw [rollDays_of_gt (by omega) (by omega), if_neg ho, if_neg hm]
      by_cases h11 : m + 1 = 12
      · rw [h11] at hn
        by_cases hc : d + n - dim l m > 365 - n - cumDays l 12
        · rw [if_pos ⟨h11, hc⟩, if_pos (by omega)]
        · rw [if_neg (fun h => hc h.2), if_neg (by omega)]
      · have hn2 := cum_next l (m + 1) (by omega) (by omega)
        have hle2 := cum_le12 l (m + 1 + 1) (by omega) (by omega)
        have := dim_ge l (m + 1) (by omega) (by omega)
        rw [if_neg (fun h => h11 h.1), if_neg (by omega)]

theorem incDays_spec (t : Date) (n : Int) (hv : t.Valid) (h1 : 1 ≤ n) (h28 : n ≤ 28) :
    (t.increasedByDays n).Valid ∧ t.ord < (t.increasedByDays n).ord := by
  rw [incDays_eq t n hv h1 h28]
  split
  · obtain ⟨m1, m12, d1, d31⟩ := hv.bounded
    exact ⟨valid_jan1 _, by simp only [Date.ord]; omega⟩
  · exact plus_spec t n hv h1 h28

theorem incDays_dayStepOK (t : Date) (n : Int) (hv : t.Valid) (h1 : 1 ≤ n) (h28 : n ≤ 28) :
    dayStepOK n t (t.increasedByDays n) = true := by
  have hlim : yearLen t.y - n - (if isLeap t.y = true then 1 else 0) = 365 - n := by
    unfold yearLen; cases isLeap t.y <;> simp only [if_true, Bool.false_eq_true, if_false] <;> omega
  unfold dayStepOK
  simp only [hlim, incDays_eq t n hv h1 h28]
  by_cases h : t.doy + n > 365 - n
  · simp only [if_pos h, beq_self_eq_true]
  · have hy : 365 ≤ yearLen t.y := by unfold yearLen; split <;> decide
    obtain ⟨e1, e2⟩ := plus_doy t n hv (by omega)
    simp only [if_neg h, e1, e2, beq_self_eq_true, Bool.and_self]

theorem rollWeek_of_le {l : Bool} {t : Date} (h : t.d ≤ dim l t.m) : rollWeek l t = t :=
  if_neg (Int.not_lt.mpr h)

theorem rollWeek_of_gt {l : Bool} {y m d : Int} (h : dim l m < d) (hm : m + 1 ≤ 12) :
    rollWeek l ⟨y, m, d⟩ = ⟨y, m + 1, d - dim l m⟩ := by
  have : ¬ m + 1 > 12 := by omega
  simp only [rollWeek, if_pos h, if_neg this]

/-- `increased_by_week` has the first December test of `increased_by_days 7` with the limits
    written out and lacks the second one, which seven days carried out of November never reach. -/
theorem incWeek_eq_incDays (t : Date) (hv : t.Valid) : t.increasedByWeek = t.increasedByDays 7 := by
  obtain ⟨y, m, d⟩ := t
  obtain ⟨m1, m12, d1, dd⟩ := hv
  simp only [Date.increasedByWeek, Date.increasedByDays, show (31 : Int) - (7 + 1) = 23 from rfl,
    show (31 : Int) - 7 = 24 from rfl] at *
  have hl : (20 : Int) < (if isLeap y = true then 23 else 24) ∧ (if isLeap y = true then 23 else 24) ≤ (24 : Int) := by
    split <;> decide
  generalize (if isLeap y = true then (23 : Int) else 24) = lim at *
  generalize isLeap y = l at *
  by_cases hc : m = 12 ∧ d + 7 > lim
  · rw [if_pos hc, rollWeek_of_le, rollDays_of_le]
    all_goals (show (1 : Int) ≤ dim l 1; rw [dim_1]; omega)
  · rw [if_neg hc]
    by_cases ho : d + 7 ≤ dim l m
    · rw [rollWeek_of_le ho, rollDays_of_le ho]
    · have : m ≠ 12 := by
        intro h; subst h; rw [dim_12] at ho; omega
      have ho' : dim l m < d + 7 := by omega
      have hm' : m + 1 ≤ 12 := by omega
      have := dim_ge l m m1 m12
      rw [rollWeek_of_gt ho' hm', rollDays_of_gt ho' hm', if_neg]
      omega

theorem incWeek_spec (t : Date) (hv : t.Valid) :
    t.increasedByWeek.Valid ∧ t.ord < t.increasedByWeek.ord := by
  rw [incWeek_eq_incDays t hv]; exact incDays_spec t 7 hv (by omega) (by omega)

theorem incMonth_spec (t : Date) (hv : t.Valid) :
    t.increasedByMonth.Valid ∧ t.ord < t.increasedByMonth.ord ∧
    (t.d = 1 → t.increasedByMonth.d = 1) := by
  obtain ⟨m1, m12, d1, dd⟩ := hv
  have hle := dim_le (isLeap t.y) t.m
  by_cases hm : t.m + 1 > 12
  · simp only [Date.increasedByMonth, if_pos hm, dim_1]
    split <;> simp only [Date.Valid, Date.ord, dim_1] <;> omega
  · have hn := dim_ge (isLeap t.y) (t.m + 1) (by omega) (by omega)
    simp only [Date.increasedByMonth, if_neg hm]
    split <;> simp only [Date.Valid, Date.ord] <;> omega

theorem addDay_eq_plus (t : Date) (hv : t.Valid) : t.addDay = t.plus 1 := by
  obtain ⟨m1, m12, d1, dd⟩ := hv
  simp only [Date.addDay, Date.plus]
  by_cases ho : t.d + 1 ≤ dim (isLeap t.y) t.m
  · rw [if_pos ho, if_neg (Int.not_lt.mpr ho)]
  · have hd : t.d + 1 - dim (isLeap t.y) t.m = 1 := by omega
    rw [if_neg ho, if_pos (Int.not_le.mp ho)]
    by_cases hm : t.m = 12
    · rw [hm, dim_12] at hd
      rw [if_pos hm, if_pos (by omega), hd]
    · rw [if_neg hm, if_neg (by omega), hd]

theorem addDay_spec (t : Date) (hv : t.Valid) : t.addDay.Valid ∧ t.ord < t.addDay.ord := by
  rw [addDay_eq_plus t hv]; exact plus_spec t 1 hv (by decide) (by decide)

theorem subDay_valid (t : Date) (hv : t.Valid) : t.subtractDay.Valid := by
  obtain ⟨m1, m12, d1, dd⟩ := hv
  simp only [Date.subtractDay]
  split
  · split
    · simp only [Date.Valid, dim_12]; omega
    · have hn := dim_ge (isLeap t.y) (t.m - 1) (by omega) (by omega)
      simp only [Date.Valid]; omega
  · simp only [Date.Valid]; omega

theorem addDay_subDay (t : Date) (hv : t.Valid) : t.subtractDay.addDay = t := by
  obtain ⟨y, m, d⟩ := t
  obtain ⟨m1, m12, d1, dd⟩ := hv
  simp only at m1 m12 d1 dd
  by_cases hd : d = 1
  · subst hd
    by_cases hm : m = 1
    · subst hm
      simp only [Date.subtractDay, Date.addDay, dim_12, Int.sub_self, if_true, Int.sub_add_cancel,
        show (31 : Int) + 1 > 31 by decide, show (12 : Int) + 1 > 12 by decide]
    · simp only [Date.subtractDay, Date.addDay, Int.sub_self, if_true, if_neg (show ¬ m - 1 = 0 by omega),
        Int.sub_add_cancel, if_pos (Int.lt_succ (dim (isLeap y) (m - 1))), if_neg (Int.not_lt.mpr m12)]
  · simp only [Date.subtractDay, Date.addDay, if_neg (show ¬ d - 1 = 0 by omega), Int.sub_add_cancel,
      if_neg (Int.not_lt.mpr dd)]

theorem subDay_addDay (t : Date) (hv : t.Valid) : t.addDay.subtractDay = t := by
  obtain ⟨y, m, d⟩ := t
  obtain ⟨m1, m12, d1, dd⟩ := hv
  simp only at m1 m12 d1 dd
  by_cases hd : d + 1 > dim (isLeap y) m
  · obtain rfl : dim (isLeap y) m = d := by omega
    by_cases hm : m + 1 > 12
    · obtain rfl : m = 12 := by omega
      simp only [Date.addDay, if_pos hd, if_pos hm, Date.subtractDay, Int.sub_self, if_true, Int.add_sub_cancel]
    · simp only [Date.addDay, if_pos hd, if_neg hm, Date.subtractDay, Int.sub_self, if_true, Int.add_sub_cancel,
        if_neg (show ¬ m = 0 by omega)]
  · simp only [Date.addDay, if_neg hd, Date.subtractDay, Int.add_sub_cancel, if_neg (show ¬ d = 0 by omega)]

theorem addDay_le_of_lt (x t : Date) (hx : x.Valid) (hv : t.Valid) (h : t.ord < x.ord) :
    t.addDay.ord ≤ x.ord := by
  obtain ⟨va, _⟩ := addDay_spec t hv
  rw [ord_lt_iff_lex hv.bounded hx.bounded] at h
  rw [← Int.not_lt, ord_lt_iff_lex hx.bounded va.bounded]
  obtain ⟨xm1, xm12, xd1, xdd⟩ := hx; obtain ⟨m1, m12, d1, dd⟩ := hv
  unfold Date.addDay
  by_cases hd : t.d + 1 > dim (isLeap t.y) t.m
  · -- `t` is the last day of its month: a valid `x` of that month is not above `t`, so `x` lies in a
    -- later month or year, hence not before its first day
    simp only [if_pos hd]
    have hxd : x.y = t.y → x.m = t.m → x.d ≤ t.d := fun h1 h2 => by rw [h1, h2] at xdd; omega
    by_cases hm : t.m + 1 > 12
    · simp only [if_pos hm]; omega
    · simp only [if_neg hm]; omega
  · simp only [if_neg hd]; omega

theorem lt_addDay_iff (x t : Date) (hx : x.Valid) (hv : t.Valid) :
    x.ord < t.addDay.ord ↔ x.ord ≤ t.ord := by
  have h1 := addDay_le_of_lt x t hx hv
  have h2 := (addDay_spec t hv).2
  omega

theorem lt_iff_le_subDay (x t : Date) (hx : x.Valid) (hv : t.Valid) :
    x.ord < t.ord ↔ x.ord ≤ t.subtractDay.ord := by
  have := lt_addDay_iff x t.subtractDay hx (subDay_valid t hv)
  rwa [addDay_subDay t hv] at this

end Pops
