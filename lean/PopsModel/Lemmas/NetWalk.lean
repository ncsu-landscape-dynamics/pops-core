/-
  C15 lemmas about trips: adjacency / segment lookup, `next_node`, soundness of the fuelled walk
  with respect to the `Trip` derivations, fuel sufficiency, the index reached on the last segment.
-/
import PopsModel.Lemmas.NetGeom
import PopsModel.Lemmas.NetLoad
import PopsModel.Lemmas.Rounding
namespace Pops.Net
open Net

variable {n : Net} {pref jump : Bool} {start : Cell} {node : NodeId} {vis : List NodeId} {d : Rat}
  {o : Outcome}

theorem Net.WF.of_check (n : Net)
    (h : (n.segs.all fun e => decide (2 ≤ e.2.cells.length) && decide (0 < e.2.cost)) = true) : n.WF := by
  simp only [List.all_eq_true, Bool.and_eq_true, decide_eq_true_eq] at h
  exact ⟨fun e he => (h e he).1, fun e he => (h e he).2⟩

theorem Net.WF.cells_ne_nil (h : n.WF) : ∀ e ∈ n.segs, e.2.cells ≠ [] := by
  intro e he h0
  have := h.twoCells e he
  rw [h0] at this
  exact absurd this (by decide)

theorem mem_neighbours {a b : NodeId} :
    b ∈ n.neighbours a ↔ ∃ e ∈ n.segs, (e.1.1 = a ∧ e.1.2 = b) ∨ (e.1.2 = a ∧ e.1.1 = b) := by
  simp only [Net.neighbours, List.mem_flatMap, List.mem_append, List.mem_ite_nil_right,
    List.mem_singleton, eq_comm (a := b)]

theorem findSeg_eq_some {k : Key} {s : Segment} (h : n.findSeg k = some s) :
    (k, s) ∈ n.segs := by
  simp only [Net.findSeg, Option.map_eq_some_iff] at h
  obtain ⟨e, he, hs⟩ := h
  have hm := List.mem_of_find?_eq_some he
  have hk := List.find?_some he
  simp only [decide_eq_true_eq] at hk
  cases e with
  | mk k' s' => simp only at hk hs; subst hk; subst hs; exact hm

theorem findSeg_isSome_of_mem {e : Key × Segment} (h : e ∈ n.segs) :
    ∃ s, n.findSeg e.1 = some s := by
  cases hf : n.findSeg e.1 with
  | none => exact absurd rfl (lookup_none_iff.mp hf e h)
  | some s => exact ⟨s, rfl⟩

/-- A view returned by `get_segment` shows a stored segment, forwards or backwards. -/
theorem getSegment_some {a b : NodeId} {v : SegView} (h : n.getSegment a b = some v) :
    ∃ e ∈ n.segs, v.seg = e.2 ∧
      ((e.1 = (a, b) ∧ v.cells = e.2.cells) ∨ (e.1 = (b, a) ∧ v.cells = e.2.cells.reverse)) := by
  unfold Net.getSegment at h
  split at h
  · next s hs =>
    simp only [Option.some.injEq] at h; subst h
    exact ⟨((a, b), s), findSeg_eq_some hs, rfl, Or.inl ⟨rfl, rfl⟩⟩
  · split at h
    · next s hs =>
      simp only [Option.some.injEq] at h; subst h
      exact ⟨((b, a), s), findSeg_eq_some hs, rfl, Or.inr ⟨rfl, rfl⟩⟩
    · exact absurd h (by simp)

theorem view_cells {a b : NodeId} {v : SegView} (h : n.getSegment a b = some v) :
    ∃ e ∈ n.segs, v.seg = e.2 ∧ v.cells.length = e.2.cells.length ∧ ∀ x, x ∈ v.cells ↔ x ∈ e.2.cells := by
  obtain ⟨e, he, hseg, hcells⟩ := getSegment_some h
  refine ⟨e, he, hseg, ?_⟩
  rcases hcells with ⟨_, h⟩ | ⟨_, h⟩
  · rw [h]; exact ⟨rfl, fun _ => Iff.rfl⟩
  · rw [h]; exact ⟨List.length_reverse, fun _ => List.mem_reverse⟩

theorem getSegment_of_neighbour {a b : NodeId} (h : b ∈ n.neighbours a) :
    ∃ v, n.getSegment a b = some v := by
  obtain ⟨e, he, hk⟩ := mem_neighbours.mp h
  obtain ⟨s, hs⟩ := findSeg_isSome_of_mem he
  unfold Net.getSegment
  rcases hk with ⟨h1, h2⟩ | ⟨h1, h2⟩
  · have : e.1 = (a, b) := Prod.ext h1 h2
    rw [this] at hs; rw [hs]; exact ⟨_, rfl⟩
  · have : e.1 = (b, a) := Prod.ext h2 h1
    rw [this] at hs
    cases h' : n.findSeg (a, b) with
    | some s' => exact ⟨_, rfl⟩
    | none => simp only [hs]; exact ⟨_, rfl⟩

/-- `next_node` returns a neighbour, or the node itself when it has none; with the preference it
    never returns a visited node while an unvisited neighbour exists. -/
theorem mem_nextNodes {m : NodeId} {ign : List NodeId} (h : m ∈ n.nextNodes pref node ign) :
    (m ∈ n.neighbours node ∧ (pref = true → ∀ u ∈ n.neighbours node, u ∉ ign → m ∉ ign)) ∨
    (n.neighbours node = [] ∧ m = node) := by
  unfold Net.nextNodes at h
  split at h
  · next hnb => exact .inr ⟨hnb, List.mem_singleton.mp h⟩
  · next x hnb =>
    rw [hnb]
    cases List.mem_singleton.mp h
    exact .inl ⟨h, fun _ u hu hui => List.mem_singleton.mp hu ▸ hui⟩
  · next all _ _ =>
    refine .inl ?_
    cases pref with
    | false => exact ⟨h, nofun⟩
    | true =>
      simp only [if_true] at h
      split at h
      · next hf =>
        -- all neighbours are visited: there is no unvisited `u`
        refine ⟨h, fun _ u hu hui => ?_⟩
        have : u ∈ (n.neighbours node).filter (fun m => !ign.contains m) := List.mem_filter.mpr ⟨hu, by simpa using hui⟩
        rw [List.isEmpty_iff.mp hf] at this
        cases this
      · exact ⟨(List.mem_filter.mp h).1, fun _ _ _ _ => by simpa using (List.mem_filter.mp h).2⟩

theorem nextNodes_pref_subset {node m : NodeId} {ign : List NodeId}
    (h : m ∈ n.nextNodes true node ign) : m ∈ n.nextNodes false node ign := by
  have h0 := mem_nextNodes h
  unfold Net.nextNodes at h ⊢
  split
  · next hnb => rw [hnb] at h; simpa using h
  · next x hnb => rw [hnb] at h; simpa using h
  · next all h1 h2 =>
    simp only [Bool.false_eq_true, if_false]
    rcases h0 with ⟨h0, _⟩ | ⟨h0, _⟩
    · exact h0
    · exact absurd h0 h1

/-- One iteration of the loop of `walk`, case by case as the constructors of `Trip` have it: the
    distance is negative, `next_node` returned the node itself, the segment is consumed whole, or
    the trip ends on it. (`get_segment` cannot fail, since `next_node` returned a neighbour.) -/
theorem mem_walkFrom_succ {fuel : Nat}
    (h : o ∈ n.walkFrom pref jump start (fuel + 1) node vis d) :
    (d < 0 ∧ o = .err .invalid_argument) ∨
    (0 ≤ d ∧ ∃ nxt ∈ n.nextNodes pref node vis,
      (nxt = node ∧ o = .at start) ∨
      (nxt ≠ node ∧ ∃ v, n.getSegment node nxt = some v ∧
        ((v.cost < d ∧ o ∈ n.walkFrom pref jump start fuel nxt (node :: vis) (d - v.cost)) ∨
         (d ≤ v.cost ∧ o = Net.finish jump v d)))) := by
  rw [Net.walkFrom] at h
  by_cases hd : d < 0
  · rw [if_pos hd] at h; exact .inl ⟨hd, List.mem_singleton.mp h⟩
  · rw [if_neg hd] at h
    obtain ⟨nxt, hn, ho⟩ := List.mem_flatMap.mp h
    refine .inr ⟨Rat.not_lt.mp hd, nxt, hn, ?_⟩
    by_cases hne : nxt = node
    · rw [if_pos hne] at ho; exact .inl ⟨hne, List.mem_singleton.mp ho⟩
    · obtain ⟨v, hv⟩ := getSegment_of_neighbour ((mem_nextNodes hn).resolve_right fun h => hne h.2).1
      rw [if_neg hne, hv] at ho
      refine .inr ⟨hne, v, hv, ?_⟩
      by_cases hc : d > v.cost
      · simp only [if_pos hc] at ho; exact .inl ⟨hc, ho⟩
      · simp only [if_neg hc] at ho; exact .inr ⟨Rat.not_lt.mp hc, List.mem_singleton.mp ho⟩

/-- Soundness only: every result of the fuelled loop is `diverge` or has a `Trip` derivation. The
    converse (the loop finds every derivation, given fuel) is not used by any C15 theorem and is
    not proved. -/
theorem walkFrom_sound (n : Net) (pref jump : Bool) (start : Cell) :
    ∀ (fuel : Nat) (node : NodeId) (vis : List NodeId) (d : Rat) (o : Outcome),
      o ∈ n.walkFrom pref jump start fuel node vis d →
      o = .diverge ∨ Trip n pref jump start node vis d o := by
  intro fuel
  induction fuel with
  | zero =>
    intro node vis d o h
    unfold Net.walkFrom at h
    split at h
    · next hd => rw [List.mem_singleton.mp h]; exact .inr (Trip.negative hd)
    · exact .inl (List.mem_singleton.mp h)
  | succ f ih =>
    intro node vis d o h
    rcases mem_walkFrom_succ h with ⟨hd, rfl⟩ | ⟨hd, nxt, hn, ⟨rfl, rfl⟩ | ⟨hne, v, hv, ⟨hc, ho⟩ | ⟨hc, rfl⟩⟩⟩
    · exact .inr (Trip.negative hd)
    · exact .inr (Trip.home hd hn)
    · exact (ih nxt (node :: vis) (d - v.cost) o ho).imp id (Trip.pass hd hn hne hv hc)
    · exact .inr (Trip.stop hd hn hne hv hc)

theorem Trip.relax (h : Trip n true jump start node vis d o) :
    Trip n false jump start node vis d o := by
  induction h with
  | negative hd => exact Trip.negative hd
  | home hd hn => exact Trip.home hd (nextNodes_pref_subset hn)
  | pass hd hn hne hs hc _ ih => exact Trip.pass hd (nextNodes_pref_subset hn) hne hs hc ih
  | stop hd hn hne hs hc => exact Trip.stop hd (nextNodes_pref_subset hn) hne hs hc

/-- The fold of `minCost`, with `f` the cost of a segment. -/
theorem foldl_min_spec {α : Type} (f : α → Rat) (l : List α) (m0 : Rat) :
    let r := l.foldl (fun m e' => if f e' < m then f e' else m) m0
    r ≤ m0 ∧ (∀ x ∈ l, r ≤ f x) ∧ (0 < m0 → (∀ x ∈ l, 0 < f x) → 0 < r) := by
  induction l generalizing m0 with
  | nil => exact ⟨Rat.le_refl, fun _ h => absurd h List.not_mem_nil, fun h _ => h⟩
  | cons y ys ih =>
    obtain ⟨h1, h2, h3⟩ := ih (if f y < m0 then f y else m0)
    have ⟨s1, s2⟩ : (if f y < m0 then f y else m0) ≤ m0 ∧ (if f y < m0 then f y else m0) ≤ f y := by
      split
      · next h => exact ⟨Rat.le_of_lt h, Rat.le_refl⟩
      · next h => exact ⟨Rat.le_refl, Rat.not_lt.mp h⟩
    refine ⟨Rat.le_trans h1 s1, ?_, fun h0 hl => h3 ?_ fun x hx => hl x (List.mem_cons_of_mem _ hx)⟩
    · intro x hx
      rcases List.mem_cons.mp hx with rfl | hx
      · exact Rat.le_trans h1 s2
      · exact h2 x hx
    · split
      · exact hl y List.mem_cons_self
      · exact h0

theorem minCost_le {e : Key × Segment} (he : e ∈ n.segs) : n.minCost ≤ e.2.cost := by
  unfold Net.minCost
  cases hs : n.segs with
  | nil => rw [hs] at he; exact absurd he List.not_mem_nil
  | cons y ys =>
    obtain ⟨h1, h2, _⟩ := foldl_min_spec (fun e : Key × Segment => e.2.cost) ys y.2.cost
    rw [hs] at he
    rcases List.mem_cons.mp he with rfl | hx
    · exact h1
    · exact h2 e hx

theorem minCost_pos (h : ∀ e ∈ n.segs, 0 < e.2.cost) : 0 < n.minCost := by
  unfold Net.minCost
  cases hs : n.segs with
  | nil => decide
  | cons y ys =>
    rw [hs] at h
    exact (foldl_min_spec (fun e : Key × Segment => e.2.cost) ys y.2.cost).2.2 (h y List.mem_cons_self)
      fun x hx => h x (List.mem_cons_of_mem _ hx)

theorem finish_ne_diverge (jump : Bool) (v : SegView) (d : Rat) : Net.finish jump v d ≠ .diverge := by
  unfold Net.finish
  split
  · split <;> exact Outcome.noConfusion
  · split <;> exact Outcome.noConfusion

theorem walkFrom_no_diverge (n : Net) (pref jump : Bool) (start : Cell) (m : Rat)
    (hcost : ∀ e ∈ n.segs, m ≤ e.2.cost) :
    ∀ (fuel : Nat) (node : NodeId) (vis : List NodeId) (d : Rat), d < (fuel : Rat) * m →
      Outcome.diverge ∉ n.walkFrom pref jump start fuel node vis d := by
  intro fuel
  induction fuel with
  | zero =>
    intro node vis d hd h
    rw [show ((0 : Nat) : Rat) = 0 from rfl, Rat.zero_mul] at hd
    unfold Net.walkFrom at h
    rw [if_pos hd] at h
    exact Outcome.noConfusion (List.mem_singleton.mp h)
  | succ f ih =>
    intro node vis d hd h
    rcases mem_walkFrom_succ h with ⟨_, ho⟩ | ⟨_, nxt, _, ⟨_, ho⟩ | ⟨_, v, hv, ⟨hc, ho⟩ | ⟨_, ho⟩⟩⟩
    · exact Outcome.noConfusion ho
    · exact Outcome.noConfusion ho
    · obtain ⟨e, he, hseg, _⟩ := getSegment_some hv
      have hmc : m ≤ v.cost := by
        rw [SegView.cost, hseg]; exact hcost e he
      rw [Rat.natCast_add, Rat.add_mul, show ((1 : Nat) : Rat) = 1 from rfl, Rat.one_mul] at hd
      exact ih nxt (node :: vis) (d - v.cost)
        (Rat.sub_lt_iff.mpr (Std.lt_of_lt_of_le hd (Rat.add_le_add_left.mpr hmc))) ho
    · exact finish_ne_diverge jump v d ho.symm

theorem lt_walkFuel_mul (hpos : 0 < n.minCost) (d : Rat) :
    d < ((n.walkFuel d : Nat) : Rat) * n.minCost := by
  unfold Net.walkFuel
  apply (Rat.div_lt_iff hpos).mp
  apply Std.lt_of_lt_of_le (Rat.lt_floor_add_one _)
  rw [← Rat.intCast_natCast]
  exact Rat.intCast_le_intCast.mpr (by omega)

theorem costPerCell_spec {s : Segment} (h2 : 2 ≤ s.cells.length) (hc : 0 < s.cost) :
    0 < s.costPerCell ∧ (s.steps : Rat) * s.costPerCell = s.cost := by
  have hkr : (0 : Rat) < (s.steps : Rat) := Rat.natCast_pos.mpr (by unfold Segment.steps; omega)
  unfold Segment.cost at hc ⊢
  unfold Segment.costPerCell
  by_cases ht : s.total ≠ 0
  · rw [if_pos ht] at hc ⊢
    rw [if_pos ht]
    exact ⟨Rat.mul_pos hc (Rat.inv_pos.mpr hkr), by rw [Rat.mul_comm]; exact Rat.div_mul_cancel (Rat.ne_of_gt hkr)⟩
  · rw [if_neg ht] at hc ⊢
    rw [if_neg ht]
    exact ⟨(Rat.mul_pos_iff_of_pos_left hkr).mp hc, rfl⟩

theorem index_in_range {s : Segment} (h2 : 2 ≤ s.cells.length) (hc : 0 < s.cost) {d : Rat}
    (hd0 : 0 ≤ d) (hd : d ≤ s.cost) :
    0 ≤ s.indexFromCost d ∧ s.indexFromCost d ≤ (s.steps : Int) := by
  obtain ⟨hpos, hmul⟩ := costPerCell_spec h2 hc
  rw [← hmul] at hd
  have hle := div_le_div_right hd hpos
  rw [Rat.mul_div_cancel (Rat.ne_of_gt hpos)] at hle
  have h0 := (div_nonneg_iff hpos).mpr hd0
  exact ⟨lround_nonneg h0, lround_le_of_le h0 (by rwa [Rat.intCast_natCast])⟩

theorem finish_walk {v : SegView} (hlen : v.cells.length = v.seg.cells.length)
    (h2 : 2 ≤ v.seg.cells.length) (hc : 0 < v.seg.cost) {d : Rat} (hd0 : 0 ≤ d) (hd : d ≤ v.cost) :
    ∃ (i : Nat) (x : Cell), (i : Int) = lround (d / v.costPerCell) ∧ i ≤ v.cells.length - 1 ∧
      v.cells[i]? = some x ∧ Net.finish false v d = .at x := by
  obtain ⟨h0, h1⟩ := index_in_range h2 hc hd0 hd
  obtain ⟨i, hi⟩ := Int.eq_ofNat_of_zero_le h0
  have hlt : i < v.cells.length := by
    rw [hi] at h1
    rw [hlen]
    exact Nat.lt_of_le_of_lt (Int.ofNat_le.mp h1) (Nat.sub_one_lt (Nat.ne_of_gt (Nat.lt_of_lt_of_le (by decide) h2)))
  refine ⟨i, v.cells[i], hi.symm, Nat.le_sub_one_of_lt hlt, List.getElem?_eq_getElem hlt, ?_⟩
  unfold Net.finish SegView.cellByCost
  simp [hi, Int.not_lt.mpr (Int.natCast_nonneg i), List.getElem?_eq_getElem hlt]

theorem finish_jump (v : SegView) (d : Rat) :
    Net.finish true v d = if d < v.cost / 2 then .at v.front else .at v.back := by
  unfold Net.finish; simp

theorem finish_mem {v : SegView} {x : Cell} (hne : v.cells ≠ [])
    (h : Net.finish jump v d = .at x) : x ∈ v.cells := by
  unfold Net.finish at h
  split at h
  · split at h
    · have : v.front = x := by simpa using h
      rw [← this]; unfold SegView.front
      cases hv : v.cells with
      | nil => exact absurd hv hne
      | cons a t => simp
    · have : v.back = x := by simpa using h
      rw [← this]; unfold SegView.back
      cases hv : v.cells with
      | nil => exact absurd hv hne
      | cons a t => rw [List.getLastD_eq_getLast?]; simp [List.getLast?_eq_some_getLast, List.getLast_mem]
  · split at h
    · next c hc =>
      have : c = x := by simpa using h
      subst this
      unfold SegView.cellByCost at hc
      simp only at hc
      split at hc
      · exact absurd hc (by simp)
      · exact List.mem_of_getElem? hc
    · exact absurd h (by simp)

/-- How a trip can end: with the exception for a negative distance, on the start cell, or by
    `finish` on a segment of the network with a remaining distance between 0 and its cost. -/
theorem Trip.outcome (h : Trip n pref jump start node vis d o) :
    (d < 0 ∧ o = .err .invalid_argument) ∨ o = .at start ∨
      ∃ a b v d', n.getSegment a b = some v ∧ 0 ≤ d' ∧ d' ≤ v.cost ∧ o = Net.finish jump v d' := by
  induction h with
  | negative hd => exact .inl ⟨hd, rfl⟩
  | home _ _ => exact .inr (.inl rfl)
  | pass _ _ _ _ hc _ ih =>
    rcases ih with ⟨h, _⟩ | h
    · have := Rat.sub_lt_iff.mp h
      rw [Rat.zero_add] at this
      exact absurd hc (Rat.not_lt.mpr (Rat.le_of_lt this))
    · exact .inr h
  | stop hd _ _ hs hc => exact .inr (.inr ⟨_, _, _, _, hs, hd, hc, rfl⟩)

/-- C15 (stays on the network), derivation level. -/
theorem Trip.on_network (hne : ∀ e ∈ n.segs, e.2.cells ≠ [])
    (h : Trip n pref jump start node vis d o) (x : Cell) (ho : o = .at x) :
    onNetwork n start x = true := by
  subst ho
  rcases h.outcome with ⟨_, h⟩ | h | ⟨a, b, v, d', hs, _, _, h⟩
  · exact Outcome.noConfusion h
  · simp [onNetwork, Outcome.at.inj h]
  · obtain ⟨e, he, _, hlen, hmem⟩ := view_cells hs
    have hvne : v.cells ≠ [] := fun h0 =>
      hne e he (List.eq_nil_of_length_eq_zero (by rw [← hlen, h0]; rfl))
    rw [onNetwork, Bool.or_eq_true, List.any_eq_true]
    exact .inr ⟨e, he, List.contains_iff_mem.mpr ((hmem x).mp (finish_mem hvne h.symm))⟩

theorem mem_nodePlaces {a : NodeId} {c : Cell} :
    (a, c) ∈ n.nodePlaces ↔
      ∃ e ∈ n.segs, (a = e.1.1 ∧ c = e.2.front) ∨ (a = e.1.2 ∧ c = e.2.back) := by
  simp only [Net.nodePlaces, List.mem_flatMap, List.mem_cons, Prod.mk.injEq, List.not_mem_nil,
    or_false]

theorem mem_nodesAt {a : NodeId} {c : Cell} : a ∈ n.nodesAt c ↔ (a, c) ∈ n.nodePlaces := by
  simp only [Net.nodesAt, List.mem_map, List.mem_filter, decide_eq_true_eq]
  constructor
  · rintro ⟨p, ⟨hp, hc⟩, ha⟩
    cases p with | mk p1 p2 => simp only at hc ha; subst hc; subst ha; exact hp
  · intro h; exact ⟨(a, c), ⟨h, rfl⟩, rfl⟩

theorem hasNodeAt_iff {c : Cell} : n.hasNodeAt c = true ↔ ∃ a, a ∈ n.nodesAt c := by
  unfold Net.hasNodeAt
  cases h : n.nodesAt c with
  | nil => simp
  | cons a t => simp

theorem segment_ends_are_nodes {e : Key × Segment} (he : e ∈ n.segs) :
    isNodeCell n e.2.front = true ∧ isNodeCell n e.2.back = true := by
  unfold isNodeCell
  constructor
  · exact hasNodeAt_iff.mpr ⟨e.1.1, mem_nodesAt.mpr (mem_nodePlaces.mpr ⟨e, he, Or.inl ⟨rfl, rfl⟩⟩)⟩
  · exact hasNodeAt_iff.mpr ⟨e.1.2, mem_nodesAt.mpr (mem_nodePlaces.mpr ⟨e, he, Or.inr ⟨rfl, rfl⟩⟩)⟩

/-- Both ends of a view hold a node: they are the two ends of the stored segment, in one order or
    the other. -/
theorem view_ends_are_nodes {a b : NodeId} {v : SegView} (hs : n.getSegment a b = some v)
    (hne : ∀ e ∈ n.segs, e.2.cells ≠ []) : isNodeCell n v.front = true ∧ isNodeCell n v.back = true := by
  obtain ⟨e, he, _, hcells⟩ := getSegment_some hs
  obtain ⟨hf, hb⟩ := segment_ends_are_nodes he
  rcases hcells with ⟨_, h'⟩ | ⟨_, h'⟩
  · rw [SegView.front, SegView.back, h']
    exact ⟨hf, hb⟩
  · cases hc' : e.2.cells with
    | nil => exact absurd hc' (hne e he)
    | cons x t =>
      rw [SegView.front, SegView.back, h', List.headD_eq_head?_getD, List.head?_reverse,
        List.getLastD_eq_getLast?, List.getLast?_reverse, ← List.getLastD_eq_getLast?,
        ← List.headD_eq_head?_getD]
      exact ⟨hb, hf⟩

/-- C15 (cost accounting), derivation level. -/
theorem Trip.ends_at_cell (hwf : n.WF) (h : Trip n pref false start node vis d o)
    (hd : 0 ≤ d) : ∃ x, o = .at x := by
  rcases h.outcome with ⟨h, _⟩ | h | ⟨a, b, v, d', hs, hd', hc, h⟩
  · exact absurd h (Rat.not_lt.mpr hd)
  · exact ⟨start, h⟩
  · obtain ⟨e, he, hseg, hlen, _⟩ := view_cells hs
    obtain ⟨i, x, _, _, _, hfin⟩ :=
      finish_walk (hseg ▸ hlen) (hseg ▸ hwf.twoCells e he) (hseg ▸ hwf.costPos e he) hd' hc
    exact ⟨x, h.trans hfin⟩

/-- C15 (snapping), derivation level. -/
theorem Trip.jump_ends_at_node (hne : ∀ e ∈ n.segs, e.2.cells ≠ [])
    (hstart : isNodeCell n start = true) (h : Trip n pref true start node vis d o) (x : Cell) (ho : o = .at x) :
    isNodeCell n x = true := by
  subst ho
  rcases h.outcome with ⟨_, h⟩ | h | ⟨a, b, v, d', hs, _, _, h⟩
  · exact Outcome.noConfusion h
  · rw [Outcome.at.inj h]; exact hstart
  · obtain ⟨hf, hb⟩ := view_ends_are_nodes hs hne
    rw [finish_jump] at h
    split at h
    · rw [Outcome.at.inj h]; exact hf
    · rw [Outcome.at.inj h]; exact hb

theorem minCell_mem {l : List Cell} {x : Cell} (h : Net.minCell l = some x) : x ∈ l := by
  induction l generalizing x with
  | nil => simp [Net.minCell] at h
  | cons c t ih =>
    unfold Net.minCell at h
    split at h
    · have : c = x := by simpa using h
      simp [this]
    · next m hm =>
      split at h
      · have : m = x := by simpa using h
        rw [← this]; exact List.mem_cons_of_mem _ (ih hm)
      · have : c = x := by simpa using h
        simp [this]

/-- `get_node_row_col` returns a cell that holds the node. -/
theorem nodeCell_mem {m : NodeId} {x : Cell} (h : n.nodeCell m = some x) :
    m ∈ n.nodesAt x := by
  have := minCell_mem h
  simp only [List.mem_map, List.mem_filter, decide_eq_true_eq] at this
  obtain ⟨p, ⟨hp, hm⟩, hx⟩ := this
  apply mem_nodesAt.mpr
  cases p with | mk p1 p2 => simp only at hm hx; subst hm; subst hx; exact hp

/-- `next_probable_node` returns a neighbour, or the node itself when it has none. -/
theorem mem_teleportTargets {a m : NodeId} (h : m ∈ n.teleportTargets a) :
    m ∈ n.neighbours a ∨ (n.neighbours a = [] ∧ m = a) := by
  unfold Net.teleportTargets at h
  split at h
  · next hnb => right; exact ⟨hnb, by simpa using h⟩
  · next y hnb => left; rw [hnb]; exact h
  · next nb _ _ =>
    left
    simp only at h
    split at h
    · exact h
    · split at h
      · exact h
      · simp only [List.mem_map, List.mem_filter] at h
        obtain ⟨p, ⟨hp, _⟩, hm⟩ := h
        rw [← hm]; exact (List.of_mem_zip hp).1

/-! The driver's early-exit membership test is list membership. -/

theorem contains_flatMap' {α β : Type} [BEq β] (l : List α) (f : α → List β) (t : β) :
    (l.flatMap f).contains t = l.any (fun a => (f a).contains t) := by
  simp only [List.contains_eq_any_beq, List.any_flatMap]

theorem walkHas_eq (n : Net) (pref jump : Bool) (start : Cell) (t : Outcome) :
    ∀ (fuel : Nat) (node : NodeId) (vis : List NodeId) (d : Rat),
      n.walkHas pref jump start t fuel node vis d = (n.walkFrom pref jump start fuel node vis d).contains t := by
  intro fuel
  induction fuel with
  | zero => intro node vis d; unfold Net.walkHas Net.walkFrom; split <;> rfl
  | succ f ih =>
    intro node vis d
    rw [Net.walkHas, Net.walkFrom]
    by_cases hd : d < 0
    · rw [if_pos hd, if_pos hd]
    · rw [if_neg hd, if_neg hd, contains_flatMap']
      congr 1; funext nxt
      by_cases hn : nxt = node
      · rw [if_pos hn, if_pos hn]
      · rw [if_neg hn, if_neg hn]
        cases n.getSegment node nxt with
        | none => rfl
        | some v =>
          by_cases hc : d > v.cost
          · simp only [if_pos hc]; exact ih _ _ _
          · simp only [if_neg hc]

theorem walkGHas_eq (n : Net) (pref : Bool) (c : Cell) (d : Rat) (jump : Bool) (t : Outcome) :
    n.walkGHas pref c d jump t = (n.walkG pref c d jump).contains t := by
  unfold Net.walkGHas Net.walkG
  split
  · rfl
  · rw [contains_flatMap']
    congr 1
    funext nd
    exact walkHas_eq n pref jump c t _ nd [] d

end Pops.Net
