/-
  Frame lemmas for the raster heap machine, read off `Steps`: what an operation can change.
  Variables: `slot_origin` (a variable keeps its object or is rebound, and then says where its
  pointer comes from). Buffers: `bufs_frame`. Counters: `counters_frame`.
-/
import PopsModel.Lemmas.RasterHeap
namespace Pops
namespace Heap
variable {α : Type}

/-- Variable `u` is rebound by `op`; a pointer it holds afterwards is the fresh buffer, a caller
    array wrapped without ownership, or the pointer, with its ownership flag, of a variable that
    `op` rebinds (a move). -/
structure Rebound (h h' : Heap α) (op : HOp α) (u : Nat) : Prop where
  reseats : op.reseats u = true
  origin : ∀ o' p, h'.slots u = some o' → o'.data = some p →
    p = h.next ∨ (p < h.nExt ∧ o'.owns = false) ∨
    ∃ t o, op.reseats t = true ∧ h.slots t = some o ∧ o.data = some p ∧ o.owns = o'.owns

/-- The operations that allocate: the result variable gets the fresh buffer (`h0` is `h`, or `h`
    after the `delete[]` of an assignment). -/
theorem rebound_alloc {h h0 : Heap α} {op : HOp α} (e1 : h0.slots = h.slots) (e2 : h0.next = h.next)
    {d : Nat} (hd : op.reseats d = true) (r c : Nat) (cells : List α) (w : Bool) (u : Nat) :
    (h0.allocInto d r c cells w).slots u = h.slots u ∨ Rebound h (h0.allocInto d r c cells w) op u := by
  by_cases e : u = d
  · subst e
    refine .inr ⟨hd, fun o' p hu hp => .inl ?_⟩
    simp only [allocInto, upd_same, Option.some.injEq] at hu
    subst hu; cases hp; exact e2
  · exact .inl (by simp only [allocInto, upd_ne _ _ e, e1])

theorem rebound_move {h h0 : Heap α} {op : HOp α} (e1 : h0.slots = h.slots) {s t : Nat} {o : RObj}
    (ht : h.slots t = some o) (hs : op.reseats s = true) (hrt : op.reseats t = true) (u : Nat) :
    (h0.moveOf s t o).slots u = h.slots u ∨ Rebound h (h0.moveOf s t o) op u := by
  by_cases e : u = t
  · subst e
    refine .inr ⟨hrt, fun o' p hu hp => ?_⟩
    simp only [moveOf, setSlot_same, Option.some.injEq] at hu
    subst hu; cases hp
  · by_cases e2 : u = s
    · subst e2
      refine .inr ⟨hs, fun o' p hu hp => .inr (.inr ⟨t, o, hrt, ht, ?_⟩)⟩
      simp only [moveOf] at hu
      rw [setSlot_ne _ _ e, setSlot_same] at hu
      cases hu; exact ⟨hp, rfl⟩
    · exact .inl (by simp only [moveOf]; rw [setSlot_ne _ _ e, setSlot_ne _ _ e2, e1])

theorem slot_origin {h h' : Heap α} {op : HOp α} (st : Steps h op h') (u : Nat) :
    h'.slots u = h.slots u ∨ Rebound h h' op u := by
  cases st with
  | construct | copyCtor | mapNew | zipNew | powNew =>
    exact rebound_alloc rfl rfl (by simp [HOp.reseats]) _ _ _ _ u
  | copyAssign s t me o b cells h1 _ _ hr =>
    exact rebound_alloc (release_frame hr).1 (release_frame hr).2.1 (by simp [HOp.reseats]) _ _ _ _ u
  | moveCtor s t o _ ht => exact rebound_move rfl ht (by simp [HOp.reseats]) (by simp [HOp.reseats]) u
  | moveAssign s t me o h1 _ _ ht hr =>
    exact rebound_move (release_frame hr).1 ht (by simp [HOp.reseats]) (by simp [HOp.reseats]) u
  | wrap s e r c he =>
    by_cases e1 : u = s
    · subst e1
      refine .inr ⟨by simp [HOp.reseats], fun o' p hu hp => .inr (.inl ?_)⟩
      simp only [setSlot_same, Option.some.injEq] at hu
      subst hu; cases hp; exact ⟨he, rfl⟩
    · exact .inl (setSlot_ne _ _ e1)
  | destroy s o h1 _ hr =>
    by_cases e1 : u = s
    · subst e1; exact .inr ⟨by simp [HOp.reseats], fun o' p hu => by simp at hu⟩
    · exact .inl (by rw [setSlot_ne _ _ e1, (release_frame hr).1])
  | copySelf | moveSelf | write | extWrite | mapInPlace | zipThrow | zipInPlace | zipNewThrow => exact .inl rfl

theorem slots_frame {h h' : Heap α} {op : HOp α} (st : Steps h op h') (u : Nat)
    (hu : op.reseats u = false) : h'.slots u = h.slots u :=
  (slot_origin st u).resolve_right fun r => by rw [r.reseats] at hu; cases hu

/-- Counters: caller arrays stay the same set, ids are never reused. -/
theorem counters_frame {h h' : Heap α} {op : HOp α} (st : Steps h op h') :
    h'.nExt = h.nExt ∧ h.next ≤ h'.next := by
  cases st with
  | copyAssign s t me o b cells h1 _ _ hr | moveAssign s t me o h1 _ _ _ hr | destroy s o h1 _ hr =>
    obtain ⟨_, r2, r3, _⟩ := release_frame hr
    refine ⟨?_, ?_⟩ <;> simp [allocInto, moveOf, r2, r3]
  | _ => simp [allocInto, storeOf, pokeOf, moveOf]

/-- A buffer changes only if it is the fresh one, the one the operation stores into, or one
    freed together with the rebinding of its owner. -/
theorem bufs_frame {h h' : Heap α} {op : HOp α} (st : Steps h op h') (p : Nat) :
    h'.bufs p = h.bufs p ∨ p = h.next ∨ h.writePtr op = some p ∨
    (∃ u o, op.reseats u = true ∧ h.slots u = some o ∧ o.data = some p ∧ o.owns = true) := by
  -- the `delete[]` of an assignment to `s` or of the destructor of `s`
  have released : ∀ {s : Nat} {me : RObj} {h1 : Heap α}, op.reseats s = true → h.slots s = some me →
      h.release me = .ok h1 → h1.bufs p = h.bufs p ∨
        (∃ u o, op.reseats u = true ∧ h.slots u = some o ∧ o.data = some p ∧ o.owns = true) :=
    fun hrs hs hr => ((release_frame hr).2.2.2 p).imp_right fun g => ⟨_, _, hrs, hs, g.1, g.2⟩
  cases st with
  | construct | copyCtor | mapNew | zipNew | powNew =>
    by_cases e : p = h.next
    · exact .inr (.inl e)
    · exact .inl (by simp [allocInto, upd_ne _ _ e])
  | wrap | moveCtor | copySelf | moveSelf | zipThrow | zipNewThrow => exact .inl rfl
  | copyAssign s t me o b cells h1 _ hs hr =>
    by_cases e : p = h.next
    · exact .inr (.inl e)
    · rcases released (by simp [HOp.reseats]) hs hr with g | g
      · exact .inl (by simp only [allocInto, (release_frame hr).2.1, upd_ne _ _ e, g])
      · exact .inr (.inr (.inr g))
  | moveAssign s t me o h1 _ hs _ hr | destroy s o h1 hs hr =>
    exact (released (by simp [HOp.reseats]) hs hr).imp_right fun g => .inr (.inr g)
  | write s r c v o b cells hh | mapInPlace s f o b cells hh | zipInPlace s t f o o2 b b2 cells cells2 hh =>
    by_cases e : p = b
    · subst e; exact .inr (.inr (.inl (by simp [writePtr, hh.slot, hh.data])))
    · exact .inl (by simp [pokeOf, storeOf, upd_ne _ _ e])
  | extWrite e i v cells _ _ _ =>
    by_cases e' : p = e
    · subst e'; exact .inr (.inr (.inl (by simp [writePtr])))
    · exact .inl (by simp [pokeOf, upd_ne _ _ e'])

end Heap
end Pops
