/-
  C15 lemmas about the grid: the coded clipping rule (`cell_out_of_bbox` with the maximum indices
  taken from the south-east corner coordinate) against the study area in coordinates. Rows and
  columns are the same fact about one axis: `t` is the distance of a point from the edge the
  indices are counted from (north, west), `T` the extent of the box, `r` the resolution.
-/
import PopsModel.Model.NetPred
namespace Pops.Net

theorem div_le_div_right {a b c : Rat} (h : a ≤ b) (hc : 0 < c) : a / c ≤ b / c := by
  rw [Rat.div_def, Rat.div_def]
  exact Rat.mul_le_mul_of_nonneg_right h (Rat.le_of_lt (Rat.inv_pos.mpr hc))

theorem div_nonneg_iff {a c : Rat} (hc : 0 < c) : 0 ≤ a / c ↔ 0 ≤ a := by
  rw [← Rat.not_lt, ← Rat.not_lt, Rat.div_lt_iff hc, Rat.zero_mul]

theorem floor_nonneg_iff {q : Rat} : 0 ≤ q.floor ↔ 0 ≤ q := by
  have := @Rat.le_floor_iff 0 q
  simpa using this

theorem lt_add_one_of_floor_le {q Q : Rat} (h : q.floor ≤ Q.floor) : q < Q + 1 := by
  apply Std.lt_of_lt_of_le (Rat.lt_floor_add_one q)
  rw [Rat.intCast_add]
  exact Rat.add_le_add_right.mpr (Rat.le_trans (Rat.intCast_le_intCast.mpr h) (Rat.floor_le Q))

theorem floor_div_in_range {t T r : Rat} (hr : 0 < r) (h0 : 0 ≤ t) (hT : t ≤ T) :
    0 ≤ (t / r).floor ∧ (t / r).floor ≤ (T / r).floor :=
  ⟨floor_nonneg_iff.mpr ((div_nonneg_iff hr).mpr h0), Rat.floor_monotone (div_le_div_right hT hr)⟩

theorem range_of_floor_div {t T r : Rat} (hr : 0 < r) (h0 : 0 ≤ (t / r).floor)
    (h1 : (t / r).floor ≤ (T / r).floor) : 0 ≤ t ∧ t < T + r := by
  refine ⟨(div_nonneg_iff hr).mp (floor_nonneg_iff.mp h0), ?_⟩
  have := (Rat.div_lt_iff hr).mp (lt_add_one_of_floor_le h1)
  rwa [Rat.add_mul, Rat.div_mul_cancel (Rat.ne_of_gt hr), Rat.one_mul] at this

theorem cellOut_eq_false {g : Grid} {c : Cell} :
    g.cellOut c = false ↔ 0 ≤ c.1 ∧ c.1 ≤ g.maxRow ∧ 0 ≤ c.2 ∧ c.2 ≤ g.maxCol := by
  simp only [Grid.cellOut, Bool.or_eq_false_iff, decide_eq_false_iff_not, Int.not_lt, gt_iff_lt]
  exact ⟨fun ⟨⟨⟨a, b⟩, c⟩, d⟩ => ⟨b, a, d, c⟩, fun ⟨b, a, d, c⟩ => ⟨⟨⟨a, b⟩, c⟩, d⟩⟩

theorem Rec.kept_iff {g : Grid} {r : Rec} :
    r.kept g = true ↔ g.cellOut r.seg.front = false ∧ g.cellOut r.seg.back = false := by
  rw [Rec.kept, Bool.not_eq_true', Bool.or_eq_false_iff]

theorem sub_le_sub_left {a b c : Rat} (h : b ≤ c) : a - c ≤ a - b := by
  rw [Rat.sub_eq_add_neg, Rat.sub_eq_add_neg]
  exact Rat.add_le_add_left.mpr (Rat.neg_le_neg h)

theorem sub_le_sub_right {a b c : Rat} (h : a ≤ b) : a - c ≤ b - c := by
  rw [Rat.sub_eq_add_neg, Rat.sub_eq_add_neg]
  exact Rat.add_le_add_right.mpr h

theorem sub_lt_of_sub_lt_sub_add {n y s r : Rat} (h : n - y < n - s + r) : s - r < y := by grind

/-- A point of the study area (closed box, as `xy_out_of_bbox` defines it) is never clipped:
    rows are counted from the north edge, columns from the west edge. -/
theorem inside_not_cellOut (g : Grid) (hew : 0 < g.ewRes) (hns : 0 < g.nsRes) (x y : Rat)
    (h : g.xyOut x y = false) : g.cellOut (g.xyToRowCol x y) = false := by
  simp only [Grid.xyOut, Bool.or_eq_false_iff, decide_eq_false_iff_not, Rat.not_lt] at h
  obtain ⟨⟨⟨h1, h2⟩, h3⟩, h4⟩ := h
  obtain ⟨r0, r1⟩ := floor_div_in_range hns ((Rat.le_iff_sub_nonneg _ _).mp h3) (sub_le_sub_left h4)
  obtain ⟨c0, c1⟩ := floor_div_in_range hew ((Rat.le_iff_sub_nonneg _ _).mp h2) (sub_le_sub_right h1)
  exact cellOut_eq_false.mpr ⟨r0, r1, c0, c1⟩

/-- What the coded rule accepts, in coordinates: the study area extended by one cell size beyond
    the east and the south edge (exclusive). -/
theorem not_cellOut_region (g : Grid) (hew : 0 < g.ewRes) (hns : 0 < g.nsRes) (x y : Rat)
    (h : g.cellOut (g.xyToRowCol x y) = false) :
    g.west ≤ x ∧ x < g.east + g.ewRes ∧ g.south - g.nsRes < y ∧ y ≤ g.north := by
  obtain ⟨r0, r1, c0, c1⟩ := cellOut_eq_false.mp h
  obtain ⟨hn, hs⟩ := range_of_floor_div hns r0 r1
  obtain ⟨hw, he⟩ := range_of_floor_div hew c0 c1
  refine ⟨(Rat.le_iff_sub_nonneg _ _).mpr hw, ?_, ?_, (Rat.le_iff_sub_nonneg _ _).mpr hn⟩
  · have := Rat.sub_lt_iff.mp he
    rwa [Rat.add_assoc, Rat.add_comm g.ewRes, ← Rat.add_assoc, Rat.sub_add_cancel] at this
  · exact sub_lt_of_sub_lt_sub_add hs

end Pops.Net
