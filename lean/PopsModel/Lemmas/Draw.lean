/-
  Lemmas about the model of `draw_n_from_v` / `draw_n_from_cohorts` (Model/Draw.lean): for EVERY
  permutation the shuffle may leave, the per-label counts of the truncated vector are within the
  contents and sum to min((unsigned) n, total) (`draw_counts_facts`). The contracts of the
  individual callers (Props/Draws.lean) are instances of that one statement.
-/
import PopsModel.Model.Draw
import PopsModel.Lemmas.HostLists
namespace Pops

theorem draw_sumL_map_add (l : List Nat) (f g : Nat → Int) :
    sumL (l.map fun k => f k + g k) = sumL (l.map f) + sumL (l.map g) := by
  induction l with
  | nil => rfl
  | cons x xs ih => simp only [List.map_cons, sumL_cons, ih]; lia

theorem draw_sum_indicator (start x : Nat) (n : Nat) :
    sumL ((List.range n).map fun k => (((if x == start + k then 1 else 0 : Nat)) : Int)) =
      if start ≤ x ∧ x < start + n then 1 else 0 := by
  induction n with
  | zero => rw [if_neg (by omega)]; rfl
  | succ n ih =>
    rw [List.range_succ, List.map_append, sumL_append, ih]
    by_cases h1 : x = start + n
    · subst h1
      rw [if_neg fun h => Nat.lt_irrefl _ h.2, if_pos ⟨Nat.le_add_right .., Nat.lt_succ_self _⟩]
      simp only [List.map_cons, List.map_nil, sumL_cons, sumL_nil, BEq.rfl, if_true]
      rfl
    · have : (start ≤ x ∧ x < start + (n + 1)) ↔ (start ≤ x ∧ x < start + n) :=
        ⟨fun h => ⟨h.1, Nat.lt_of_le_of_ne (Nat.le_of_lt_succ h.2) h1⟩, fun h => ⟨h.1, Nat.lt_succ_of_lt h.2⟩⟩
      simp only [this, List.map_cons, List.map_nil, sumL_cons, sumL_nil, beq_iff_eq, h1, if_false]
      exact Int.add_zero _

theorem draw_sum_counts (start n : Nat) (draw : List Nat) (h : ∀ x ∈ draw, start ≤ x ∧ x < start + n) :
    sumL ((List.range n).map fun k => ((draw.count (start + k) : Nat) : Int)) = draw.length := by
  induction draw with
  | nil =>
    simp only [List.count_nil, Int.natCast_zero]
    induction List.range n with
    | nil => rfl
    | cons _ _ ih => rw [List.map_cons, sumL_cons, ih]; rfl
  | cons x xs ih =>
    simp only [List.count_cons, Int.natCast_add]
    rw [draw_sumL_map_add, ih fun z hz => h z (List.mem_cons_of_mem _ hz), draw_sum_indicator,
      if_pos (h x (List.mem_cons_self ..)), List.length_cons, Int.natCast_succ]

theorem draw_labelsFrom_mem : ∀ (contents : List Int) (start x : Nat), x ∈ labelsFrom start contents →
    start ≤ x ∧ x < start + contents.length
  | [], _, _, h => nomatch h
  | c :: rest, start, x, h => by
    rw [labelsFrom, List.mem_append, List.mem_replicate] at h
    rw [List.length_cons]
    rcases h with ⟨_, rfl⟩ | h
    · exact ⟨Nat.le_refl _, Nat.lt_add_of_pos_right (Nat.succ_pos _)⟩
    · have := draw_labelsFrom_mem rest (start + 1) x h
      exact ⟨Nat.le_of_succ_le this.1, Nat.add_right_comm start 1 _ ▸ this.2⟩

/-- One label per individual: label `start + k` occurs `contents[k]` times. -/
theorem draw_labelsFrom_count : ∀ (contents : List Int) (start k : Nat), k < contents.length →
    (labelsFrom start contents).count (start + k) = (contents[k]!).toNat
  | c :: rest, start, 0, _ => by
    have hz : (labelsFrom (start + 1) rest).count start = 0 :=
      List.count_eq_zero_of_not_mem fun hm => Nat.lt_irrefl _ (draw_labelsFrom_mem rest (start + 1) start hm).1
    rw [labelsFrom, List.count_append, Nat.add_zero, List.count_replicate_self, hz]
    rfl
  | c :: rest, start, k + 1, h => by
    have hz : (List.replicate c.toNat start).count (start + (k + 1)) = 0 :=
      List.count_eq_zero_of_not_mem fun hm => by have := (List.mem_replicate.mp hm).2; omega
    rw [labelsFrom, List.count_append, hz, Nat.zero_add, List.getElem!_cons_succ, Nat.add_comm k 1, ← Nat.add_assoc]
    exact draw_labelsFrom_count rest (start + 1) k (Nat.lt_of_succ_lt_succ h)

theorem draw_labelsFrom_length : ∀ (contents : List Int) (start : Nat), (∀ x ∈ contents, 0 ≤ x) →
    ((labelsFrom start contents).length : Int) = sumL contents
  | [], _, _ => rfl
  | c :: rest, start, h => by
    rw [labelsFrom, List.length_append, List.length_replicate, sumL_cons, Int.natCast_add,
      draw_labelsFrom_length rest (start + 1) fun z hz => h z (List.mem_cons_of_mem _ hz),
      Int.toNat_of_nonneg (h c (List.mem_cons_self ..))]

theorem draw_toUnsigned_nonneg (n : Int) : 0 ≤ toUnsigned n := Int.emod_nonneg n (by decide)

theorem draw_toUnsigned_of_range (n : Int) (h0 : 0 ≤ n) (h1 : n < 4294967296) : toUnsigned n = n :=
  Int.emod_eq_of_lt h0 h1

/-- `draw_n_from_v` returns `min((unsigned) n, size)` elements. -/
theorem draw_drawNFromV_length (v : List Nat) (n : Int) (perm : List Nat) (hp : perm.Perm v) :
    ((drawNFromV v n perm).length : Int) = min (toUnsigned n) (v.length : Int) := by
  have := draw_toUnsigned_nonneg n
  rw [drawNFromV, List.length_take, hp.length_eq]
  lia

/-- Drawing is without replacement: a label occurs in the draw at most as often as in the vector. -/
theorem draw_drawNFromV_count_le (v : List Nat) (n : Int) (perm : List Nat) (hp : perm.Perm v) (x : Nat) :
    (drawNFromV v n perm).count x ≤ v.count x := by
  rw [← hp.count_eq x]
  exact (List.take_sublist _ _).count_le x

theorem draw_drawNFromV_mem (v : List Nat) (n : Int) (perm : List Nat) (hp : perm.Perm v) (x : Nat)
    (h : x ∈ drawNFromV v n perm) : x ∈ v :=
  hp.subset (List.mem_of_mem_take h)

theorem draw_countLabels_length (start : Nat) (contents : List Int) (draw : List Nat) :
    (countLabels start contents draw).length = contents.length := by
  simp [countLabels]

theorem draw_countLabels_get (start : Nat) (contents : List Int) (draw : List Nat) (k : Nat)
    (hk : k < contents.length) :
    (countLabels start contents draw)[k]! = ((draw.count (start + k) : Nat) : Int) := by
  have hk' : k < (countLabels start contents draw).length := by rw [draw_countLabels_length]; exact hk
  rw [getElem!_pos _ k hk']
  simp [countLabels]

/-- **The contract of the draw, proved.** Non-negative contents, ANY permutation `perm` of the
    label vector: the per-label counts of `draw_n_from_v(labels, n)` have the length of the
    contents, each lies between 0 and its content, and they sum to min((unsigned) n, total). -/
theorem draw_counts_facts (start : Nat) (contents : List Int) (n : Int) (perm : List Nat)
    (hnn : ∀ x ∈ contents, 0 ≤ x) (hp : perm.Perm (labelsFrom start contents)) :
    ValidDraw contents (toUnsigned n)
      (countLabels start contents (drawNFromV (labelsFrom start contents) n perm)) := by
  refine ⟨draw_countLabels_length _ _ _, ?_, ?_⟩
  · intro k hk
    rw [draw_countLabels_length] at hk
    rw [draw_countLabels_get _ _ _ k hk]
    have h1 := draw_drawNFromV_count_le (labelsFrom start contents) n perm hp (start + k)
    rw [draw_labelsFrom_count contents start k hk] at h1
    have h2 : 0 ≤ contents[k]! := by
      rw [getElem!_pos _ k hk]; exact hnn _ (List.getElem_mem hk)
    omega
  · have hmem : ∀ x ∈ drawNFromV (labelsFrom start contents) n perm,
        start ≤ x ∧ x < start + contents.length := fun x hx =>
      draw_labelsFrom_mem contents start x (draw_drawNFromV_mem _ n perm hp x hx)
    have h1 := draw_sum_counts start contents.length _ hmem
    have h2 := draw_drawNFromV_length (labelsFrom start contents) n perm hp
    have h3 := draw_labelsFrom_length contents start hnn
    unfold countLabels
    rw [h1, h2, h3]

theorem Dom.eq_of_sum_eq {a d : List Int} (h : Dom a d) (hs : sumL d = sumL a) : d = a := by
  induction h with
  | nil => rfl
  | @cons x y _ _ hxy hd ih =>
    rw [sumL_cons, sumL_cons] at hs
    -- `y ≤ x` and `sumL ys ≤ sumL xs` with equal totals force equality in both places
    have := hd.sum_le
    rw [ih (by omega), show y = x by omega]

theorem draw_classCategories_eq (src : Cell) :
    classCategories src = labelsFrom 1 [src.i, src.s, src.te, src.r] := by
  simp [classCategories, labelsFrom, List.append_assoc]

theorem draw_classDrawOf_eq (src : Cell) (count : Int) (perm : List Nat) :
    countLabels 1 [src.i, src.s, src.te, src.r]
      (drawNFromV (labelsFrom 1 [src.i, src.s, src.te, src.r]) (hostsMoved src count) perm) =
    [(classDrawOf src count perm).i, (classDrawOf src count perm).s,
     (classDrawOf src count perm).e, (classDrawOf src count perm).r] := by
  rw [← draw_classCategories_eq]
  rfl

end Pops
