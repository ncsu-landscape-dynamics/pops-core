/-
  Lemmas for Props/C17General.lean: the first phase of the overpopulation action as a function of
  the pre-state (`over_`), the list of suitable cells under host moves (`suitm_`).
-/
import PopsModel.Model.OverpopSpec
import PopsModel.Lemmas.Actions
import PopsModel.Lemmas.ListFacts
namespace Pops

theorem over_pstate_eta (p : PestState) : { p with outside := p.outside ++ [] } = p := by
  cases p; simp

theorem over_pairs_cons_stay (g : Grid) (thr : Rat) (rc : Int × Int) (rest : List (Int × Int)) (cells : List Cell)
    (ts : List (Int × Int)) (h : ¬ departs thr (cells[g.idx rc.1 rc.2]!) = true) :
    overPairs g thr (rc :: rest) cells ts = overPairs g thr rest cells ts := by
  simp only [overPairs, overDeparting, List.filter_cons, h, if_false, Bool.false_eq_true]

theorem over_pairs_cons_go (g : Grid) (thr : Rat) (rc : Int × Int) (rest : List (Int × Int)) (cells : List Cell)
    (t : Int × Int) (ts : List (Int × Int)) (h : departs thr (cells[g.idx rc.1 rc.2]!) = true) :
    overPairs g thr (rc :: rest) cells (t :: ts) = (rc, t) :: overPairs g thr rest cells ts := by
  simp only [overPairs, overDeparting, List.filter_cons, h, if_true, List.zip_cons_cons]

theorem over_no_pairs (g : Grid) (leaving : Rat) (cells0 cells : List Cell) (p : PestState) (ts : List (Int × Int))
    (moves0 : List (Int × Int × Int)) :
    (cells, p, ts, moves0) =
      (overDepartedFrom g leaving cells0 cells [], { p with outside := p.outside ++ overOutside g leaving cells0 [] },
       ts.drop ([] : List ((Int × Int) × (Int × Int))).length, moves0 ++ overPending g leaving cells0 []) := by
  show _ = (cells, { p with outside := p.outside ++ [] }, ts, moves0 ++ [])
  rw [over_pstate_eta, List.append_nil]

/-- The first phase as a function of a reference landscape `cells0` that agrees with the current
    one on every suitable cell still to be visited. -/
theorem over_departGo_ref (g : Grid) (thr leaving : Rat) (cells0 : List Cell) :
    ∀ (suit : List (Int × Int)) (cells : List Cell) (p : PestState) (ts : List (Int × Int))
      (moves0 : List (Int × Int × Int)),
      (suit.map fun rc => g.idx rc.1 rc.2).Nodup →
      (∀ rc ∈ suit, cells[g.idx rc.1 rc.2]! = cells0[g.idx rc.1 rc.2]!) →
      departGo g thr leaving suit cells p ts moves0 =
        (overDepartedFrom g leaving cells0 cells (overPairs g thr suit cells0 ts),
         { p with outside := p.outside ++ overOutside g leaving cells0 (overPairs g thr suit cells0 ts) },
         ts.drop (overPairs g thr suit cells0 ts).length,
         moves0 ++ overPending g leaving cells0 (overPairs g thr suit cells0 ts)) := by
  intro suit
  induction suit with
  | nil =>
    intro cells p ts moves0 _ _
    exact over_no_pairs g leaving cells0 cells p ts moves0
  | cons rc rest ih =>
    intro cells p ts moves0 hnd hag
    obtain ⟨r, c⟩ := rc
    have hk : cells[g.idx r c]! = cells0[g.idx r c]! := hag (r, c) List.mem_cons_self
    rw [List.map_cons, List.nodup_cons] at hnd
    -- a departure writes the cell (r, c) only, which is not visited again
    have hag' : ∀ v : Cell, ∀ rc ∈ rest,
        (cells.set (g.idx r c) v)[g.idx rc.1 rc.2]! = cells0[g.idx rc.1 rc.2]! := by
      intro v rc hrc
      have hne : g.idx rc.1 rc.2 ≠ g.idx r c := fun he => hnd.1 (he ▸ List.mem_map.mpr ⟨rc, hrc, rfl⟩)
      rw [act_getElem!_set_ne _ _ hne]
      exact hag rc (List.mem_cons_of_mem _ hrc)
    by_cases hd : departs thr (cells[g.idx r c]!) = true
    · have hd0 : departs thr (cells0[g.idx (r, c).1 (r, c).2]!) = true := by rw [← hk]; exact hd
      cases ts with
      | nil =>
        rw [act_departGo_exhausted _ _ _ _ _ _ _ _ _ hd, show overPairs g thr ((r, c) :: rest) cells0 [] = [] from List.zip_nil_right]
        exact over_no_pairs g leaving cells0 cells p [] moves0
      | cons t ts' =>
        obtain ⟨tr, tc⟩ := t
        rw [over_pairs_cons_go g thr (r, c) rest cells0 (tr, tc) ts' hd0]
        cases ho : g.isOutside tr tc with
        | true =>
          rw [act_departGo_out _ _ _ _ _ _ _ _ _ _ _ _ hd ho, ih _ _ _ _ hnd.2 (hag' _), hk]
          simp only [overDepartedFrom, List.foldl_cons, overSourceAfter, overOutside, List.flatMap_cons,
            ho, if_true, overLeaving, List.append_assoc, overPending, List.filterMap_cons,
            List.length_cons, List.drop_succ_cons]
        | false =>
          rw [act_departGo_in _ _ _ _ _ _ _ _ _ _ _ _ hd ho, ih _ _ _ _ hnd.2 (hag' _), hk]
          simp only [overDepartedFrom, List.foldl_cons, overSourceAfter, overOutside, List.flatMap_cons,
            ho, if_false, Bool.false_eq_true, overLeaving, List.nil_append, List.append_assoc, overPending,
            List.filterMap_cons, List.length_cons, List.drop_succ_cons, List.singleton_append]
    · have hd0 : ¬ departs thr (cells0[g.idx (r, c).1 (r, c).2]!) = true := by rw [← hk]; exact hd
      rw [act_departGo_stay _ _ _ _ _ _ _ _ _ _ hd, over_pairs_cons_stay g thr (r, c) rest cells0 ts hd0]
      exact ih cells p ts moves0 hnd.2 (fun rc hrc => hag rc (List.mem_cons_of_mem _ hrc))

theorem over_departedFrom_get (g : Grid) (leaving : Rat) (ref : List Cell) (pairs : List ((Int × Int) × (Int × Int)))
    (base : List Cell) (hnd : (pairs.map fun pr => g.idx pr.1.1 pr.1.2).Nodup)
    (hlt : ∀ pr ∈ pairs, g.idx pr.1.1 pr.1.2 < base.length) :
    (overDepartedFrom g leaving ref base pairs).length = base.length ∧
    (∀ pr ∈ pairs, (overDepartedFrom g leaving ref base pairs)[g.idx pr.1.1 pr.1.2]! =
        overSourceAfter g leaving ref pr.1) ∧
    (∀ k : Nat, (∀ pr ∈ pairs, g.idx pr.1.1 pr.1.2 ≠ k) →
        (overDepartedFrom g leaving ref base pairs)[k]! = base[k]!) := by
  refine ⟨setFold_length _ _ pairs base, fun pr hpr => getElem!_of_some ?_,
    fun k hk => getElem!_congr (setFold_frame _ _ pairs base k ?_)⟩
  · exact (setFold_hit_nodup _ _ pairs base hnd pr hpr).trans (if_pos (hlt pr hpr))
  · intro hm
    obtain ⟨pr, hpr, e⟩ := List.mem_map.mp hm
    exact hk pr hpr e

theorem over_mem_pairs (g : Grid) (thr : Rat) (suit : List (Int × Int)) (cells : List Cell)
    (ts : List (Int × Int)) (pr : (Int × Int) × (Int × Int)) (h : pr ∈ overPairs g thr suit cells ts) :
    pr.1 ∈ suit ∧ departs thr (cells[g.idx pr.1.1 pr.1.2]!) = true ∧ pr.2 ∈ ts := by
  obtain ⟨h1, h2⟩ := List.of_mem_zip h
  exact ⟨(List.mem_filter.mp h1).1, (List.mem_filter.mp h1).2, h2⟩

theorem over_pairs_idx_nodup (g : Grid) (thr : Rat) (suit : List (Int × Int)) (cells : List Cell)
    (ts : List (Int × Int)) (hnd : (suit.map fun rc => g.idx rc.1 rc.2).Nodup) :
    ((overPairs g thr suit cells ts).map fun pr => g.idx pr.1.1 pr.1.2).Nodup := by
  have hs : ((overPairs g thr suit cells ts).map (·.1)).Sublist suit := by
    rw [overPairs, map_fst_zip_eq_take]
    exact (List.take_sublist _ _).trans List.filter_sublist
  have hm : ((overPairs g thr suit cells ts).map fun pr => g.idx pr.1.1 pr.1.2) =
      (((overPairs g thr suit cells ts).map (·.1)).map fun rc => g.idx rc.1 rc.2) := by
    rw [List.map_map]; rfl
  rw [hm]
  exact (hs.map _).nodup hnd

theorem over_departed_cell (g : Grid) (thr leaving : Rat) (suit : List (Int × Int)) (cells : List Cell)
    (ts : List (Int × Int)) (hnd : (suit.map fun rc => g.idx rc.1 rc.2).Nodup) (k : Nat) :
    (overDeparted g leaving cells (overPairs g thr suit cells ts))[k]! = cells[k]! ∨
    (departs thr (cells[k]!) = true ∧
      (overDeparted g leaving cells (overPairs g thr suit cells ts))[k]! =
        ((cells[k]!).pestsFrom (leavingCount leaving (cells[k]!))).1) := by
  obtain ⟨_, a2, a3⟩ := over_departedFrom_get g leaving cells (overPairs g thr suit cells ts) cells
    (over_pairs_idx_nodup g thr suit cells ts hnd)
    (fun pr hpr => act_departs_lt (over_mem_pairs g thr suit cells ts pr hpr).2.1)
  by_cases hsrc : ∃ pr ∈ overPairs g thr suit cells ts, g.idx pr.1.1 pr.1.2 = k
  · obtain ⟨pr, hpr, rfl⟩ := hsrc
    exact Or.inr ⟨(over_mem_pairs g thr suit cells ts pr hpr).2.1, a2 pr hpr⟩
  · exact Or.inl (a3 k fun pr hpr he => hsrc ⟨pr, hpr, he⟩)

theorem suitm_after_cases (suit : List Nat) (l : Land) (b : Nat) :
    suitAfterMove suit l b = suit ∨
    (suitAfterMove suit l b = suit ++ [b] ∧ b ∉ suit ∧ ∃ dst, l[b]? = some dst ∧ dst.th = 0) := by
  unfold suitAfterMove
  cases hb : l[b]? with
  | none => exact Or.inl rfl
  | some dst =>
    by_cases hc : dst.th = 0 ∧ b ∉ suit
    · exact Or.inr ⟨by simp only [hc, and_self, not_false_eq_true, if_true], hc.2, dst, rfl, hc.1⟩
    · exact Or.inl (by simp only [hc, if_false])

theorem suitm_after_prefix (suit : List Nat) (l : Land) (b : Nat) : suit <+: suitAfterMove suit l b := by
  rcases suitm_after_cases suit l b with h | ⟨h, _⟩
  · rw [h]; exact List.prefix_refl _
  · rw [h]; exact List.prefix_append _ _

theorem suitm_after_nodup (suit : List Nat) (l : Land) (b : Nat) (h : suit.Nodup) :
    (suitAfterMove suit l b).Nodup := by
  rcases suitm_after_cases suit l b with h' | ⟨h', hb, _⟩
  · rw [h']; exact h
  · rw [h']
    exact List.nodup_append.mpr ⟨h, List.nodup_cons.mpr ⟨List.not_mem_nil, List.nodup_nil⟩, fun x hx y hy => by
      rw [List.mem_singleton] at hy; subst hy; intro he; subst he; exact hb hx⟩

theorem suitm_after_dest (suit : List Nat) (l : Land) (b : Nat) (dst : Cell) (hb : l[b]? = some dst)
    (h : dst.th ≠ 0 → b ∈ suit) : b ∈ suitAfterMove suit l b := by
  unfold suitAfterMove
  rw [hb]
  by_cases hm : b ∈ suit
  · simp only [hm, not_true_eq_false, and_false, if_false]
  · have h0 : dst.th = 0 := Classical.byContradiction fun hne => hm (h hne)
    simp only [h0, hm, not_false_eq_true, and_self, if_true, List.mem_append, List.mem_singleton, or_true]

theorem suitm_after_eq_insert (suit : List Nat) (l : Land) (b : Nat) (hcov : SuitCovers l suit)
    (hb : b < l.length) : suitAfterMove suit l b = insertIfAbsent suit b := by
  unfold suitAfterMove insertIfAbsent
  rw [List.getElem?_eq_getElem hb]
  by_cases hm : b ∈ suit
  · simp only [hm, not_true_eq_false, and_false, if_false, if_true]
  · have h0 : (l[b]).th = 0 :=
      Classical.byContradiction fun hne => hm (hcov b l[b] (List.getElem?_eq_getElem hb) hne)
    simp only [h0, hm, not_false_eq_true, and_self, if_true, if_false]

theorem suitm_after_out (suit : List Nat) (l : Land) (b : Nat) (hb : l.length ≤ b) :
    suitAfterMove suit l b = suit := by
  unfold suitAfterMove
  rw [List.getElem?_eq_none hb]

theorem suitm_move_cases (a b : Nat) (count : Int) (d : ClassDraw) (dE dM : List Int) (l : Land) :
    (LandOp.move a b count d dE dM).apply l = .ok l ∨
    ∃ src dst, a ≠ b ∧ l[a]? = some src ∧ l[b]? = some dst ∧
      (LandOp.move a b count d dE dM).apply l =
        .ok ((l.set a (moveHosts src dst count d dE dM).1).set b (moveHosts src dst count d dE dM).2.1) := by
  by_cases hab : a = b
  · exact Or.inl (by simp only [LandOp.apply, hab, if_true])
  · cases ha : l[a]? with
    | none => exact Or.inl (by simp only [LandOp.apply, hab, if_false, ha])
    | some src =>
      cases hb : l[b]? with
      | none => exact Or.inl (by simp only [LandOp.apply, hab, if_false, ha, hb])
      | some dst => exact Or.inr ⟨src, dst, hab, rfl, rfl, by simp only [LandOp.apply, hab, if_false, ha, hb]⟩

theorem suitm_moveOp_ok (row : MoveRow) (l : Land) : ∃ m, (moveOp row).apply l = .ok m ∧ m.length = l.length := by
  rcases suitm_move_cases row.1 row.2.1 row.2.2.1 row.2.2.2.1 row.2.2.2.2.1 row.2.2.2.2.2 l with
    h | ⟨_, _, _, _, _, h⟩
  · exact ⟨l, h, rfl⟩
  · exact ⟨_, h, by rw [List.length_set, List.length_set]⟩

theorem suitm_move_covers (a b : Nat) (count : Int) (d : ClassDraw) (dE dM : List Int) (l l' : Land)
    (suit : List Nat) (hcov : SuitCovers l suit) (hc : ∀ src, l[a]? = some src → 0 ≤ count)
    (h : (LandOp.move a b count d dE dM).apply l = .ok l') :
    SuitCovers l' (suitAfterMove suit l b) := by
  have hsub : ∀ k, k ∈ suit → k ∈ suitAfterMove suit l b := fun k hk =>
    (suitm_after_prefix suit l b).subset hk
  rcases suitm_move_cases a b count d dE dM l with h0 | ⟨src, dst, hab, ha, hb, h1⟩
  · rw [Except.ok.inj (h.symm.trans h0)]
    exact fun k c hk hth => hsub k (hcov k c hk hth)
  · rw [Except.ok.inj (h.symm.trans h1)]
    intro k c hk hth
    by_cases hkb : k = b
    · subst hkb
      exact suitm_after_dest suit l k dst hb (hcov k dst hb)
    · rw [List.getElem?_set_ne (Ne.symm hkb)] at hk
      by_cases hka : k = a
      · subst hka
        rw [List.getElem?_set_self (List.getElem?_eq_some_iff.mp ha).1, Option.some.injEq] at hk
        subst hk
        refine hsub k (hcov k src ha fun h0 => hth ?_)
        -- a source without hosts gives none when the request is not negative
        have hcnt := hc src ha
        simp only [moveHosts, hostsMoved, h0]
        split <;> omega
      · rw [List.getElem?_set_ne (Ne.symm hka)] at hk
        exact hsub k (hcov k c hk hth)

theorem suitm_nonneg_of_forall (rows : List MoveRow) (h : ∀ row ∈ rows, 0 ≤ row.2.2.1) :
    ∀ l, MovesNonNegAlong rows l := by
  induction rows with
  | nil => intro l; trivial
  | cons row rest ih =>
    intro l
    exact ⟨fun _ _ => h row List.mem_cons_self, fun l' _ => ih (fun r hr => h r (List.mem_cons_of_mem _ hr)) l'⟩

theorem suitm_nonneg_of_domain (rows : List MoveRow) :
    ∀ l, DomainAlong (rows.map moveOp) l → MovesNonNegAlong rows l := by
  induction rows with
  | nil => intro l _; trivial
  | cons row rest ih =>
    intro l hd
    rw [List.map_cons] at hd
    refine ⟨fun src hs => ?_, fun l' hl' => ih l' (hd.2 l' hl')⟩
    have := hd.1
    exact (this src hs).1

theorem suitm_insert_prefix (s : List Nat) (b : Nat) : s <+: insertIfAbsent s b := by
  unfold insertIfAbsent
  by_cases h : b ∈ s
  · simp only [h, if_true]; exact List.prefix_refl _
  · simp only [h, if_false]; exact List.prefix_append _ _

theorem suitm_alongMoves_cons (row : MoveRow) (rest : List MoveRow) (l m : Land) (suit : List Nat)
    (hm : (moveOp row).apply l = .ok m) :
    suitAlongMoves (row :: rest) l suit = suitAlongMoves rest m (suitAfterMove suit l row.2.1) := by
  simp only [suitAlongMoves, hm]

theorem suitm_runOps_cons (row : MoveRow) (rest : List MoveRow) (l m l' : Land)
    (hm : (moveOp row).apply l = .ok m) (h : runOps ((row :: rest).map moveOp) l = .ok l') :
    runOps (rest.map moveOp) m = .ok l' := by
  simp only [List.map_cons, runOps, bind, Except.bind, hm] at h
  exact h

theorem suitm_moves_length (rows : List MoveRow) (l l' : Land) (h : runOps (rows.map moveOp) l = .ok l') :
    l'.length = l.length := by
  induction rows generalizing l with
  | nil => rw [← Except.ok.inj h]
  | cons row rest ih =>
    obtain ⟨m, hm, hlen⟩ := suitm_moveOp_ok row l
    rw [ih m (suitm_runOps_cons row rest l m l' hm h), hlen]

theorem suitm_moves_facts (rows : List MoveRow) :
    ∀ (l l' : Land) (suit : List Nat), SuitCovers l suit → MovesNonNegAlong rows l →
      runOps (rows.map moveOp) l = .ok l' →
      SuitCovers l' (suitAlongMoves rows l suit) ∧
      (suit.Nodup → (suitAlongMoves rows l suit).Nodup) ∧
      suit <+: suitAlongMoves rows l suit ∧
      (∀ row ∈ rows, row.2.1 < l.length → row.2.1 ∈ suitAlongMoves rows l suit) ∧
      ((∀ row ∈ rows, row.2.1 < l.length) →
        suitAlongMoves rows l suit = (rows.map (·.2.1)).foldl insertIfAbsent suit) := by
  induction rows with
  | nil =>
    intro l l' suit hcov _ h
    rw [← Except.ok.inj h]
    exact ⟨hcov, fun hn => hn, List.prefix_refl _, fun r hr => absurd hr List.not_mem_nil, fun _ => rfl⟩
  | cons row rest ih =>
    intro l l' suit hcov hnn h
    obtain ⟨m, hm, hlen⟩ := suitm_moveOp_ok row l
    obtain ⟨b2, b3, b4, b5, b6⟩ := ih m l' (suitAfterMove suit l row.2.1)
      (suitm_move_covers _ _ _ _ _ _ l m suit hcov hnn.1 hm) (hnn.2 m hm) (suitm_runOps_cons row rest l m l' hm h)
    rw [suitm_alongMoves_cons row rest l m suit hm]
    refine ⟨b2, fun hn => b3 (suitm_after_nodup suit l _ hn), (suitm_after_prefix suit l _).trans b4, ?_, ?_⟩
    · intro r hr hlt
      rcases List.mem_cons.mp hr with rfl | hr
      · have hdst := List.getElem?_eq_getElem hlt
        exact b4.subset (suitm_after_dest suit l _ _ hdst (hcov _ _ hdst))
      · exact b5 r hr (by rw [hlen]; exact hlt)
    · intro hall
      rw [b6 (fun r hr => by rw [hlen]; exact hall r (List.mem_cons_of_mem _ hr)),
        suitm_after_eq_insert suit l _ hcov (hall row List.mem_cons_self)]
      rfl

theorem suitm_after_range (suit : List Nat) (l : Land) (b : Nat) (h : ∀ k ∈ suit, k < l.length) :
    ∀ k ∈ suitAfterMove suit l b, k < l.length := by
  rcases suitm_after_cases suit l b with h' | ⟨h', _, dst, hb, _⟩
  · rw [h']; exact h
  · rw [h']
    intro k hk
    rcases List.mem_append.mp hk with hk | hk
    · exact h k hk
    · rw [List.mem_singleton] at hk; subst hk
      exact (List.getElem?_eq_some_iff.mp hb).1

theorem suitm_moves_range (rows : List MoveRow) :
    ∀ (l : Land) (suit : List Nat), (∀ k ∈ suit, k < l.length) →
      ∀ k ∈ suitAlongMoves rows l suit, k < l.length := by
  induction rows with
  | nil => intro l suit h; exact h
  | cons row rest ih =>
    intro l suit hr
    obtain ⟨m, hm, hlen⟩ := suitm_moveOp_ok row l
    rw [suitm_alongMoves_cons row rest l m suit hm, ← hlen]
    apply ih m
    rw [hlen]
    exact suitm_after_range suit l _ hr

theorem suitm_th_hosts {l : Land} (hinv : l.inv) {k : Nat} {c : Cell} (hk : l[k]? = some c) :
    c.th = c.hosts ∧ 0 ≤ c.th := by
  have hmem : c ∈ l := List.mem_of_getElem? hk
  exact ⟨by rw [((totalsOK_iff c).mp (hinv c hmem).2).1]; rfl, ((nonNeg_iff c).mp (hinv c hmem).1).th⟩

end Pops
