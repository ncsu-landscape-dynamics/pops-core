/-
  Lemmas for C06: facts about the ten streams and their seeding, the frame property of computations
  that reach the provider only through named accessors, and the table `uses` read stream by stream
  (`codeDraws`), in which form it stands next to what the property allows.
-/
import PopsModel.Model.StreamSpec
namespace Pops

namespace Streams
variable {σ : Type}

@[simp] theorem get_ofFn (f : StreamName → σ) (n : StreamName) : (ofFn f).get n = f n := by
  cases n <;> rfl

theorem set_eq_ofFn (p : Streams σ) (n : StreamName) (v : σ) :
    p.set n v = ofFn fun m => if m = n then v else p.get m := by
  cases n <;> rfl

theorem get_set (p : Streams σ) (n m : StreamName) (v : σ) :
    (p.set n v).get m = if m = n then v else p.get m := by
  rw [set_eq_ofFn, get_ofFn]

@[simp] theorem get_set_same (p : Streams σ) (n : StreamName) (v : σ) : (p.set n v).get n = v := by
  rw [get_set, if_pos rfl]

theorem get_set_other (p : Streams σ) {n m : StreamName} (v : σ) (h : m ≠ n) :
    (p.set n v).get m = p.get m := by
  rw [get_set, if_neg h]

theorem ofFn_get (p : Streams σ) : ofFn p.get = p := rfl

theorem ext_get {p q : Streams σ} (h : ∀ n, p.get n = q.get n) : p = q := by
  rw [← ofFn_get p, ← ofFn_get q, funext h]

end Streams

namespace StreamName

theorem all_length : all.length = 10 := rfl
theorem all_nodup : all.Nodup := by decide
theorem mem_all (n : StreamName) : n ∈ all := by cases n <;> decide
theorem index_lt (n : StreamName) : n.index < 10 := by cases n <;> decide
theorem all_index (n : StreamName) : all[n.index]? = some n := by cases n <;> rfl
theorem index_all : ∀ k, k < 10 → ∃ n, all[k]? = some n ∧ n.index = k
  | 0, _ | 1, _ | 2, _ | 3, _ | 4, _ | 5, _ | 6, _ | 7, _ | 8, _ | 9, _ => ⟨_, rfl, rfl⟩
  | k + 10, h => absurd h (by omega)
theorem index_inj {a b : StreamName} (h : a.index = b.index) : a = b :=
  Option.some.inj (by rw [← all_index a, ← all_index b, h])
theorem ofKey_key (n : StreamName) : ofKey? n.key = some n := by cases n <;> decide +kernel
theorem key_inj {a b : StreamName} (h : a.key = b.key) : a = b :=
  Option.some.inj (by rw [← ofKey_key a, ← ofKey_key b, h])
theorem key_chars (n : StreamName) :
    n.key.toList ≠ [] ∧ ∀ ch ∈ n.key.toList, (ch.isLower || ch == '_') = true := by
  -- The kernel reads a string literal as `String.ofList [...]`; decoding that back through UTF-8 is
  -- quadratic in the length. Rewriting `"...".toList` with `String.toList_ofList` gives the characters
  -- directly (at reducible transparency the rewrite matches the literal only).
  cases n <;> (unfold key; with_reducible rw [String.toList_ofList]; decide +kernel)
theorem key_avoids (n : StreamName) {x : Char} (hx : (x.isLower || x == '_') = false) :
    ∀ ch ∈ n.key.toList, ch ≠ x := by
  intro ch hch e
  have := (key_chars n).2 ch hch
  rw [e, hx] at this
  cases this

end StreamName

theorem u32_of_lt {n : Nat} (h : n < 4294967296) : u32 n = n := Nat.mod_eq_of_lt h

theorem seedMulti_get {σ : Type} (E : Engine σ) (s : Nat) (n : StreamName) :
    (seedMulti E s).get n = E.seed (u32 (s + n.index)) := by
  cases n <;> rfl

theorem seedByName_some {m : SeedMap} {n : StreamName} {v : Nat} (h : m.find? n.key = some v) :
    seedByName m n = .ok v := by simp [seedByName, h]

theorem seedByName_none {m : SeedMap} {n : StreamName} (h : m.find? n.key = none) :
    seedByName m n = .error .invalid_argument := by simp [seedByName, h]

@[elab_as_elim]
theorem seedByName_bind_cases {β : Type} {m : SeedMap} {n : StreamName} {k : Nat → Except ErrKind β}
    {P : Except ErrKind β → Prop} (hnone : m.find? n.key = none → P (.error .invalid_argument))
    (hsome : ∀ v, m.find? n.key = some v → P (k v)) : P (seedByName m n >>= k) := by
  cases h : m.find? n.key with
  | none => rw [seedByName_none h]; exact hnone h
  | some v => rw [seedByName_some h]; exact hsome v h

theorem seedNamed_cases {σ : Type} (E : Engine σ) (m : SeedMap) :
    (seedNamed E m = .error .invalid_argument ∧ ∃ n : StreamName, m.find? n.key = none) ∨
    (∃ f : StreamName → Nat, (∀ n, m.find? n.key = some (f n)) ∧
      seedNamed E m = .ok (Streams.ofFn fun n => E.seed (f n))) := by
  unfold seedNamed
  refine seedByName_bind_cases (fun h => .inl ⟨rfl, _, h⟩) fun a h0 => ?_
  refine seedByName_bind_cases (fun h => .inl ⟨rfl, _, h⟩) fun b h1 => ?_
  refine seedByName_bind_cases (fun h => .inl ⟨rfl, _, h⟩) fun c h2 => ?_
  refine seedByName_bind_cases (fun h => .inl ⟨rfl, _, h⟩) fun d h3 => ?_
  refine seedByName_bind_cases (fun h => .inl ⟨rfl, _, h⟩) fun e h4 => ?_
  refine seedByName_bind_cases (fun h => .inl ⟨rfl, _, h⟩) fun f h5 => ?_
  refine seedByName_bind_cases (fun h => .inl ⟨rfl, _, h⟩) fun g h6 => ?_
  refine seedByName_bind_cases (fun h => .inl ⟨rfl, _, h⟩) fun h h7 => ?_
  refine seedByName_bind_cases (fun h => .inl ⟨rfl, _, h⟩) fun i h8 => ?_
  refine seedByName_bind_cases (fun h => .inl ⟨rfl, _, h⟩) fun j h9 => ?_
  refine .inr ⟨(⟨a, b, c, d, e, f, g, h, i, j⟩ : Streams Nat).get, fun n => ?_, rfl⟩
  cases n <;> assumption

theorem seedNamed_missing {σ : Type} (E : Engine σ) (m : SeedMap) (n : StreamName)
    (h : m.find? n.key = none) : seedNamed E m = .error .invalid_argument := by
  rcases seedNamed_cases E m with ⟨h1, _⟩ | ⟨f, hf, _⟩
  · exact h1
  · rw [hf n] at h; cases h

theorem seedNamed_complete {σ : Type} (E : Engine σ) (m : SeedMap) (f : StreamName → Nat)
    (h : ∀ n, m.find? n.key = some (f n)) :
    seedNamed E m = .ok (Streams.ofFn fun n => E.seed (f n)) := by
  rcases seedNamed_cases E m with ⟨_, n, hn⟩ | ⟨f', hf, hs⟩
  · rw [h n] at hn; cases hn
  · rw [hs, show f' = f from funext fun n => Option.some.inj ((hf n).symm.trans (h n))]

theorem Provider.ofConfig_named {σ : Type} (E : Engine σ) (c : SeedCfg) (f : StreamName → Nat)
    (hm : c.multipleRandomSeeds = true) (h : ∀ n, c.randomSeeds.find? n.key = some (f n)) :
    Provider.ofConfig E c = .ok (.multi (Streams.ofFn fun n => E.seed (f n))) := by
  have hne : c.randomSeeds.isEmpty = false :=
    List.isEmpty_eq_false_iff.mpr fun hs => by have := h .soil; rw [hs] at this; cases this
  simp only [Provider.ofConfig, hm, if_true, seedMultiConfig, hne, Bool.not_false, seedNamed_complete E _ f h]

theorem SeedMap.find_insert_same (m : SeedMap) (k : String) (v : Nat) : (m.insert k v).find? k = some v := by
  simp [SeedMap.insert, SeedMap.find?]

theorem SeedMap.find_insert_other (m : SeedMap) {k k' : String} (v : Nat) (h : k ≠ k') :
    (m.insert k v).find? k' = m.find? k' := by
  simp [SeedMap.insert, SeedMap.find?, h]

theorem SeedMap.find_of_mem (m : SeedMap) (hd : (m.map (·.1)).Nodup) (k : String) (v : Nat)
    (h : (k, v) ∈ m) : m.find? k = some v := by
  induction m with
  | nil => cases h
  | cons e m ih =>
    obtain ⟨k', v'⟩ := e
    simp only [List.map_cons, List.nodup_cons] at hd
    rcases List.mem_cons.mp h with h | h
    · cases h; simp [SeedMap.find?]
    · have hne : k' ≠ k := by
        intro e; subst e
        exact hd.1 (List.mem_map.mpr ⟨(k', v), h, rfl⟩)
      simp only [SeedMap.find?, beq_iff_eq, hne, if_false]
      exact ih hd.2 h

theorem SeedMap.find_ofNames (f : StreamName → Nat) (n : StreamName) :
    SeedMap.find? (StreamName.all.map fun n => (n.key, f n)) n.key = some (f n) := by
  apply SeedMap.find_of_mem
  · rw [List.map_map]
    exact StreamName.all_nodup.map _ fun a b h e => h (StreamName.key_inj e)
  · exact List.mem_map.mpr ⟨n, StreamName.mem_all n, rfl⟩

theorem insertSeeds_find (ns : List StreamName) (vs : List Nat) (m : SeedMap) (hl : ns.length = vs.length)
    (hd : ns.Nodup) :
    (∀ (k : Nat) (n : StreamName), ns[k]? = some n → (insertSeeds ns vs m).find? n.key = vs[k]?) ∧
    (∀ key : String, (∀ n ∈ ns, n.key ≠ key) → (insertSeeds ns vs m).find? key = m.find? key) := by
  induction ns generalizing vs m with
  | nil => exact ⟨fun k n h => (by cases h), fun _ _ => rfl⟩
  | cons n ns ih =>
    cases vs with
    | nil => simp at hl
    | cons v vs =>
      obtain ⟨hn, hd'⟩ := List.nodup_cons.mp hd
      obtain ⟨ih1, ih2⟩ := ih vs (m.insert n.key v) (by simpa using hl) hd'
      refine ⟨fun k n' hk => ?_, fun key hk => ?_⟩
      · cases k with
        | zero =>
          cases hk
          rw [insertSeeds, ih2 n.key fun n' hn' e => hn (StreamName.key_inj e ▸ hn')]
          exact SeedMap.find_insert_same ..
        | succ k => exact ih1 k n' hk
      · rw [insertSeeds, ih2 key fun n' hn' => hk n' (List.mem_cons_of_mem _ hn')]
        exact SeedMap.find_insert_other _ _ (hk n List.mem_cons_self)

namespace Provider
variable {σ : Type}

theorem useStream_multi (s : Streams σ) (n : StreamName) (d : Dist σ) :
    (Provider.multi s).useStream n d = ((d (s.get n)).1, .multi (s.set n (d (s.get n)).2)) := rfl

theorem useStream_single (g : σ) (n : StreamName) (d : Dist σ) :
    (Provider.single g).useStream n d = ((d g).1, .single (d g).2) := rfl

theorem drawFrom_eq_useStream (E : Engine σ) (p : Provider σ) (n : StreamName) :
    p.drawFrom E n = p.useStream n E.next := rfl

end Provider

namespace Act
variable {σ α β : Type}

theorem run_bind (a : Act σ α) (f : α → Act σ β) (p : Provider σ) :
    (a.bind f).run p = (f (a.run p).1).run (a.run p).2 := by
  induction a generalizing p with
  | ret x => rfl
  | use n d k ih => simp only [bind, run]; exact ih _ _

theorem Within.mono {U V : List StreamName} (h : ∀ n ∈ U, n ∈ V) {a : Act σ α} (w : Within U a) :
    Within V a := by
  induction w with
  | ret x => exact .ret x
  | use n d k hn _ ih => exact .use n d k (h n hn) ih

theorem Within.bind {U : List StreamName} {a : Act σ α} {f : α → Act σ β} (wa : Within U a)
    (wf : ∀ x, Within U (f x)) : Within U (a.bind f) := by
  induction wa with
  | ret x => exact wf x
  | use n d k hn _ ih => exact .use n d _ hn ih

theorem Within.sample {U : List StreamName} {n : StreamName} (d : Dist σ) (h : n ∈ U) :
    Within U (Act.sample n d) := .use n d _ h (fun v => .ret v)

theorem Within.samples {U : List StreamName} {n : StreamName} (d : Dist σ) (h : n ∈ U) (k : Nat) :
    Within U (Act.samples n d k) := by
  induction k with
  | zero => exact .ret _
  | succ k ih => exact (Within.sample d h).bind fun v => ih.bind fun vs => .ret _

theorem Within.forEach {U : List StreamName} {ι W : Type} {body : ι → W → Act σ W}
    (h : ∀ x w, Within U (body x w)) (xs : List ι) (w : W) : Within U (Act.forEach body xs w) := by
  induction xs generalizing w with
  | nil => exact .ret w
  | cons x xs ih => exact (h x w).bind fun w' => ih w'

theorem Within.ite {U : List StreamName} {c : Prop} [Decidable c] {a b : Act σ α}
    (ha : c → Within U a) (hb : ¬ c → Within U b) : Within U (if c then a else b) := by
  split
  · exact ha (by assumption)
  · exact hb (by assumption)

theorem Within.guarded {U : List StreamName} {b : Bool} {a : Act σ (List Nat)}
    (h : b = true → Within U a) : Within U (Act.guarded b a) :=
  Within.ite h fun _ => .ret _

theorem frame {U : List StreamName} {a : Act σ α} (w : Within U a) (p q : Streams σ)
    (hpq : ∀ n ∈ U, p.get n = q.get n) :
    (a.run (.multi p)).1 = (a.run (.multi q)).1 ∧
    ∃ p' q', (a.run (.multi p)).2 = .multi p' ∧ (a.run (.multi q)).2 = .multi q' ∧
      (∀ n ∈ U, p'.get n = q'.get n) ∧
      (∀ n, n ∉ U → p'.get n = p.get n ∧ q'.get n = q.get n) := by
  induction w generalizing p q with
  | ret x => exact ⟨rfl, p, q, rfl, rfl, hpq, fun _ _ => ⟨rfl, rfl⟩⟩
  | use n d k hn _ ih =>
    simp only [run, Provider.useStream_multi]
    rw [hpq n hn]
    -- after the draw the two records still agree on `U`: stream `n` holds the same new state in both
    obtain ⟨r, p', q', hp', hq', hU, hout⟩ := ih (d (q.get n)).1 (p.set n _) (q.set n _) fun m hm => by
      rw [Streams.get_set, Streams.get_set, hpq m hm]
    refine ⟨r, p', q', hp', hq', hU, fun m hm => ?_⟩
    have hmn : m ≠ n := fun h => hm (h ▸ hn)
    have := hout m hm
    rwa [Streams.get_set_other _ _ hmn, Streams.get_set_other _ _ hmn] at this

theorem frame_nil {a : Act σ α} (w : Within [] a) :
    ∃ x, ∀ q : Provider σ, a.run q = (x, q) := by
  cases w with
  | ret x => exact ⟨x, fun _ => rfl⟩
  | use n d k hn _ => cases hn

end Act

section Skeletons
variable {σ W : Type}
open Act

theorem removeAct_within {U : List StreamName} {n : StreamName} (h : n ∈ U) (count : W → Nat)
    (shuffle : W → Dist σ) (apply : W → Option Nat → W) (w : W) :
    Within U (removeAct n count shuffle apply w) := by
  unfold removeAct
  exact Within.ite (fun _ => (Within.sample _ h).bind fun _ => .ret _) (fun _ => .ret _)

theorem landAct_within (c : UseCfg) (positive hasSusceptible : W → Nat → Bool) (pick uniform : Dist σ)
    (apply : W → Nat → Nat → Option Nat → W) (target : Nat) (w : W) :
    Within (if establishmentDraws c then [.establishment] else [])
      (landAct c positive hasSusceptible pick uniform apply target w) := by
  unfold landAct
  refine Within.ite (fun _ => ?_) (fun _ => .ret _)
  refine (Within.guarded fun hh => Within.samples _ (by simp [establishmentDraws, hh]) _).bind fun h => ?_
  dsimp only
  refine Within.ite (fun _ => ?_) (fun _ => .ret _)
  exact (Within.guarded fun he => Within.samples _ (by simp [establishmentDraws, he]) _).bind fun _ => .ret _

end Skeletons

/-- `usesRun` read by columns: does the library's own code draw from stream `n` in a run with the
    features `c`? The same shape as `processStochastic` (what the property allows), which it matches
    except at establishment (F28: the receiving host is drawn with two or more hosts), movement
    (F29: `movement_stochasticity` is not read) and anthropogenic dispersal (F32: the kernel-choice
    coin is tossed whatever `dispersal_stochasticity` says). -/
def codeDraws (c : UseCfg) : StreamName → Bool
  | .disperserGeneration => c.generateStochastic
  | .naturalDispersal => c.injectedKernel.isNone && kernelDraws c.naturalKernel c.dispersalStochastic
  | .anthropogenicDispersal => c.injectedKernel.isNone && c.useAnthro
  | .establishment => establishmentDraws c
  | .weather => c.weatherFromDistribution
  | .lethalTemperature => c.useLethal
  | .movement => c.useMovements
  | .overpopulation => c.useOverpopulation
  | .survivalRate => c.useSurvival
  | .soil => c.soils

theorem Proc.mem_all (P : Proc) : P ∈ Proc.all := by cases P <;> decide +kernel

section Table
variable {c : UseCfg} {n : StreamName}

theorem mem_kernelUses : n ∈ kernelUses c ↔ clientDeclares c n = true ∨
    c.injectedKernel = none ∧ (n = .naturalDispersal ∧ kernelDraws c.naturalKernel c.dispersalStochastic = true ∨
      n = .anthropogenicDispersal ∧ c.useAnthro = true) := by
  unfold kernelUses clientDeclares
  cases c.injectedKernel <;> simp [List.mem_ite_nil_right, and_comm]

theorem mem_usesGenerate : n ∈ usesGenerate c ↔
    n = .disperserGeneration ∧ c.generateStochastic = true ∨
    n = .soil ∧ c.soils = true ∧ c.establishmentStochastic = true := by
  simp [usesGenerate, List.mem_ite_nil_right, and_comm, and_assoc]

theorem mem_usesDisperse : n ∈ usesDisperse c ↔
    n ∈ kernelUses c ∨ n = .establishment ∧ establishmentDraws c = true ∨ n = .soil ∧ c.soils = true := by
  simp [usesDisperse, List.mem_ite_nil_right, and_comm]

theorem flatMap_filter_cons {α β : Type} (p : α → Bool) (f : α → List β) (x : α) (l : List α) :
    ((x :: l).filter p).flatMap f = (bif p x then f x else []) ++ (l.filter p).flatMap f := by
  cases h : p x <;> simp [h]

theorem usesRun_eq (c : UseCfg) : usesRun c =
    (if c.weatherFromDistribution then [.weather] else []) ++
    ((if c.useLethal then [.lethalTemperature] else []) ++ ((if c.useSurvival then [.survivalRate] else []) ++
    (usesGenerate c ++ (usesDisperse c ++ ((usesGenerate c ++ usesDisperse c) ++
    ((if c.useOverpopulation then [.overpopulation] else []) ++ (if c.useMovements then [.movement] else []))))))) := by
  simp only [usesRun, Proc.all, flatMap_filter_cons, enabled, uses, cond_true, Bool.cond_self, List.filter_nil,
    List.flatMap_nil, List.append_nil, List.nil_append]
  simp only [Bool.cond_eq_ite]

theorem mem_usesRun_iff : n ∈ usesRun c ↔ (clientDeclares c n || codeDraws c n) = true := by
  rw [usesRun_eq]
  simp only [List.mem_append, List.mem_ite_nil_right, List.mem_singleton, mem_usesGenerate, mem_usesDisperse,
    mem_kernelUses, Bool.or_eq_true]
  -- after the rewriting every row is a disjunction of `n = stream ∧ flag`; with `n` fixed only the flags of its own
  -- column survive, and what is left to show is that their disjunction is the entry of `codeDraws`
  cases n <;> simp [codeDraws, establishmentDraws] <;> grind

theorem codeDraws_of_processStochastic (h : processStochastic c n = true) : codeDraws c n = true := by
  cases n
  case establishment => simp_all [processStochastic, codeDraws, establishmentDraws]
  case movement => simp_all [processStochastic, codeDraws]
  case anthropogenicDispersal => simp_all [processStochastic, codeDraws]
  all_goals exact h

theorem codeDraws_not_processStochastic (hc : codeDraws c n = true) (hp : processStochastic c n = false) :
    (n = .establishment ∧ f28Region c = true) ∨ (n = .movement ∧ f29Region c = true) ∨
    (n = .anthropogenicDispersal ∧ f32Region c = true) := by
  cases n
  case establishment => exact .inl ⟨rfl, by simp_all [processStochastic, codeDraws, establishmentDraws, f28Region]⟩
  case movement => exact .inr (.inl ⟨rfl, by simp_all [processStochastic, codeDraws, f29Region]⟩)
  case anthropogenicDispersal =>
    exact .inr (.inr ⟨rfl, by simp_all [processStochastic, codeDraws, f32Region]⟩)
  -- on the other seven streams the two columns are the same expression
  all_goals cases hc.symm.trans hp

end Table

end Pops
