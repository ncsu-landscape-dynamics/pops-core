/-
  Helper definitions and lemmas for Props/C03Cohorts.lean: the cohort part of C03
  (`infected = sum of the mortality cohorts`, `Land.cohortsOK`) carried along histories, runs of
  generators, model steps and whole runs (`history_result`, `gens_result`, `run_result`: such a
  run ends in a landscape of the same kind or in `invalid_argument`); and its consequence that no
  mortality operation of such a run takes one of the `runtime_error` branches.
-/
import PopsModel.Props.C03
import PopsModel.Lemmas.RunModel
namespace Pops

/-- An action on a landscape maintains the mortality cohorts unless it is one of the two
    overpopulation primitives (host moves do maintain them). -/
def LandOp.keepsCohorts : LandOp → Bool
  | .at _ op => op.keepsCohorts
  | .move _ _ _ _ _ _ => true

/-- The rounding condition of finding F20 for an action on a landscape: a ratio treatment at cell
    `k` rounds the per-cohort shares and the share of the infected total consistently at the cell
    it is applied to (`CellOp.roundingOK`); no condition for any other action. -/
def LandOp.roundingOK : LandOp → Land → Prop
  | .at k op, l => ∀ c, l[k]? = some c → op.roundingOK c
  | .move _ _ _ _ _ _, _ => True

/-- The rounding condition ALONG a history (like `DomainAlong`): each action satisfies it at the
    landscape it is applied to. -/
def RoundingAlong : List LandOp → Land → Prop
  | [], _ => True
  | op :: rest, l => op.roundingOK l ∧ ∀ l', op.apply l = .ok l' → RoundingAlong rest l'

/-- ... along a run of generators (like `GensDomainAlong`) ... -/
def GensRoundingAlong : List OpGen → Land → Prop
  | [], _ => True
  | gen :: rest, l =>
    RoundingAlong (gen l) l ∧ ∀ l', runOps (gen l) l = .ok l' → GensRoundingAlong rest l'

/-- ... and along a whole run of model steps (like `RunDomainAlong`). -/
def RunRoundingAlong (cfg : StepCfg) : List StepInputs → Nat → Land → Prop
  | [], _, _ => True
  | inp :: rest, step, l =>
    GensRoundingAlong (stepGens cfg inp step) l ∧
    ∀ l', runStepHosts cfg inp step l = .ok l' → RunRoundingAlong cfg rest (step + 1) l'

/-- A generator all of whose operations, at every landscape, maintain the cohorts. -/
def KeepsCohortsGen (gen : OpGen) : Prop := ∀ x : Land, ∀ op ∈ gen x, op.keepsCohorts = true

/-- A mortality operation at some cell. -/
def LandOp.isMortality : LandOp → Bool
  | .at _ (.mortality _ _) => true
  | _ => false

/-- A generator that only produces mortality operations. -/
def MortalityGen (gen : OpGen) : Prop := ∀ x : Land, ∀ op ∈ gen x, op.isMortality = true

theorem Land.cohortsOK_set {l : Land} (h : l.cohortsOK) (k : Nat) {c' : Cell}
    (hc : c'.mortOK = true) : Land.cohortsOK (l.set k c') := by
  intro c hc'
  rcases List.mem_or_eq_of_mem_set hc' with h1 | h1
  · exact h c h1
  · subst h1; exact hc

theorem landOp_cohorts (op : LandOp) (l l' : Land) (hinv : l.inv) (hu : l.uniform)
    (hc : l.cohortsOK) (hd : op.inDomain l) (hk : op.keepsCohorts = true) (hr : op.roundingOK l)
    (h : op.apply l = .ok l') : l'.cohortsOK := by
  cases op with
  | «at» k op =>
    simp only [LandOp.apply] at h
    cases hk' : l[k]? with
    | none =>
      rw [hk'] at h; simp only at h; injection h with h; subst h; exact hc
    | some c =>
      rw [hk'] at h; simp only at h
      cases hc' : op.apply c with
      | error e => rw [hc'] at h; cases h
      | ok c' =>
        rw [hc'] at h; simp only [Except.map] at h; injection h with h; subst h
        have hcl : c ∈ l := List.mem_of_getElem? hk'
        have hg : c.Good := (land_inv_iff l).mp hinv c hcl
        exact Land.cohortsOK_set hc k
          (C03_cohorts_step_partial op c c' (hd c hk') hg.nonNeg hg.totalsOK (hc c hcl) hk
            (hr c hk') hc')
  | move a b count d dE dM =>
    simp only [LandOp.apply] at h
    by_cases hab : a = b
    · rw [if_pos hab] at h; injection h with h; subst h; exact hc
    · rw [if_neg hab] at h
      cases ha : l[a]? with
      | none => rw [ha] at h; simp only at h; injection h with h; subst h; exact hc
      | some src =>
        cases hb : l[b]? with
        | none => rw [ha, hb] at h; simp only at h; injection h with h; subst h; exact hc
        | some dst =>
          rw [ha, hb] at h; simp only at h
          have hl' : l' = (l.set a (moveHosts src dst count d dE dM).1).set b
              (moveHosts src dst count d dE dM).2.1 := by
            injection h with h; exact h.symm
          subst hl'
          have hsl : src ∈ l := List.mem_of_getElem? ha
          have hdl : dst ∈ l := List.mem_of_getElem? hb
          have hgs : src.Good := (land_inv_iff l).mp hinv src hsl
          obtain ⟨_, hlM⟩ := hu dst hdl src hsl
          obtain ⟨_, hv, _, hM⟩ := hd src ha
          have hf := C03_cohorts_move src dst count d dE dM hgs.nonNeg hgs.totalsOK (hc src hsl)
            (hc dst hdl) hv hM hlM
          exact Land.cohortsOK_set (Land.cohortsOK_set hc a hf.1) b hf.2

/-- An `if` fails only as one of its branches does. With `error_error` and `ok_error` for the
    leaves this reads off a definition which error kinds it can return. -/
theorem ite_error {α : Type} {p : Prop} [Decidable p] {e0 e : ErrKind} {x y : Except ErrKind α}
    (hx : x = .error e → e = e0) (hy : y = .error e → e = e0)
    (h : (if p then x else y) = .error e) : e = e0 := by
  by_cases hp : p
  · rw [if_pos hp] at h; exact hx h
  · rw [if_neg hp] at h; exact hy h

theorem ok_error {α : Type} {a : α} {e0 e : ErrKind}
    (h : (Except.ok a : Except ErrKind α) = .error e) : e = e0 := nomatch h

theorem error_error {α : Type} {e0 e : ErrKind}
    (h : (Except.error e0 : Except ErrKind α) = .error e) : e = e0 := (Except.error.inj h).symm

/-- `completely_remove_hosts_at`, `make_resistant_at` and `disperser_to` (through
    `suitability_at`) only throw `invalid_argument`. -/
theorem completelyRemove_error {c : Cell} {sR iR : Int} {eR mR : List Int} {e : ErrKind}
    (h : c.completelyRemove sR eR iR mR = .error e) : e = .invalid_argument := by
  unfold Cell.completelyRemove at h
  exact ite_error error_error
    (ite_error ok_error (ite_error error_error (ite_error error_error ok_error))) h

theorem makeResistant_error {c : Cell} {sR iR : Int} {eR mR : List Int} {e : ErrKind}
    (h : c.makeResistant sR eR iR mR = .error e) : e = .invalid_argument := by
  unfold Cell.makeResistant at h
  exact ite_error error_error (ite_error error_error (ite_error error_error ok_error)) h

theorem suitability_error {c : Cell} {env : EnvCell} {e : ErrKind}
    (h : c.suitability env = .error e) : e = .invalid_argument := by
  unfold Cell.suitability at h
  exact ite_error error_error ok_error h

theorem disperserTo_error {mt : ModelType} {c : Cell} {env : EnvCell} {sto : Bool} {pEst u : Rat}
    {e : ErrKind} (h : c.disperserTo mt env sto pEst u = .error e) : e = .invalid_argument := by
  unfold Cell.disperserTo at h
  refine ite_error ok_error (fun h => ?_) h
  cases hs : c.suitability env with
  | error e' => rw [hs] at h; cases h; exact suitability_error hs
  | ok p => rw [hs] at h; exact ite_error ok_error ok_error h

theorem cellOp_error (op : CellOp) (c : Cell) (e : ErrKind) (h : op.apply c = .error e) :
    (∃ rate lag, op = .mortality rate lag) ∨ e = .invalid_argument := by
  cases op with
  | mortality rate lag => exact Or.inl ⟨rate, lag, rfl⟩
  | dispTo mt env sto pEst u =>
    simp only [CellOp.apply] at h
    cases hd : c.disperserTo mt env sto pEst u with
    | ok r => rw [hd] at h; cases h
    | error e' => rw [hd] at h; injection h with h; subst h; exact Or.inr (disperserTo_error hd)
  | simpleTreat coef app => exact Or.inr (completelyRemove_error h)
  | pesticideTreat coef app => exact Or.inr (makeResistant_error h)
  | _ => cases h

theorem landOp_mortality_ok (k : Nat) (rate : Rat) (lag : Int) (l : Land) (hinv : l.inv)
    (hc : l.cohortsOK) (hd : (LandOp.at k (.mortality rate lag)).inDomain l) :
    ∃ l', (LandOp.at k (.mortality rate lag)).apply l = .ok l' := by
  simp only [LandOp.apply]
  cases hk : l[k]? with
  | none => exact ⟨l, rfl⟩
  | some c =>
    have hcl : c ∈ l := List.mem_of_getElem? hk
    have hg : c.Good := (land_inv_iff l).mp hinv c hcl
    have hdc := hd c hk
    obtain ⟨c', hc'⟩ := C03_mortality_never_fails c rate lag ⟨hdc.1, hdc.2.1⟩ hdc.2.2 hg.nonNeg
      hg.totalsOK (hc c hcl)
    exact ⟨l.set k c', by simp only [hc', Except.map]⟩

theorem LandOp.isMortality_iff (op : LandOp) :
    op.isMortality = true ↔ ∃ k rate lag, op = .at k (.mortality rate lag) := by
  constructor
  · intro h
    cases op with
    | move a b n d dE dM => cases h
    | «at» k o => cases o <;> first | exact ⟨_, _, _, rfl⟩ | cases h
  · rintro ⟨k, rate, lag, rfl⟩; rfl

/-- Mortality, the one action with `runtime_error` branches, succeeds on a consistent landscape
    with `i = sum mort`; what is left to fail is a suitability outside [0,1] or a treatment. -/
theorem landOp_error (op : LandOp) (l : Land) (e : ErrKind) (hinv : l.inv) (hc : l.cohortsOK)
    (hd : op.inDomain l) (h : op.apply l = .error e) : e = .invalid_argument := by
  cases op with
  | move a b count d dE dM =>
    simp only [LandOp.apply] at h
    split at h
    · cases h
    · split at h <;> cases h
  | «at» k o =>
    have h0 := h
    simp only [LandOp.apply] at h
    cases hk : l[k]? with
    | none => rw [hk] at h; cases h
    | some c =>
      rw [hk] at h; simp only at h
      cases hc' : o.apply c with
      | ok c' => rw [hc'] at h; cases h
      | error e' =>
        rw [hc'] at h; simp only [Except.map] at h; injection h with h; subst h
        rcases cellOp_error o c _ hc' with ⟨rate, lag, rfl⟩ | he
        · obtain ⟨l', hl'⟩ := landOp_mortality_ok k rate lag l hinv hc hd
          rw [hl'] at h0; cases h0
        · exact he

/-- What a history, a run of generators or a run of model steps comes to from a consistent,
    uniform landscape with `i = sum mort` in every cell: a landscape of the same kind, or the
    error `invalid_argument` - never `runtime_error`. -/
def CohResult : Except ErrKind Land → Prop
  | .ok l => l.inv ∧ l.uniform ∧ l.cohortsOK
  | .error e => e = .invalid_argument

theorem CohResult.of_ok {r : Except ErrKind Land} {l' : Land} (hr : CohResult r) (h : r = .ok l') :
    l'.inv ∧ l'.uniform ∧ l'.cohortsOK := by
  rw [h] at hr; exact hr

theorem CohResult.ne_runtime_error {r : Except ErrKind Land} (hr : CohResult r) :
    r ≠ .error .runtime_error := by
  intro h; rw [h] at hr; cases hr

theorem history_result (ops : List LandOp) (l : Land) (hinv : l.inv) (hu : l.uniform)
    (hc : l.cohortsOK) (hd : DomainAlong ops l) (hk : ∀ op ∈ ops, op.keepsCohorts = true)
    (hr : RoundingAlong ops l) : CohResult (runOps ops l) := by
  induction ops generalizing l with
  | nil => exact ⟨hinv, hu, hc⟩
  | cons op rest ih =>
    simp only [runOps]
    cases h1 : op.apply l with
    | error e => exact landOp_error op l e hinv hc hd.1 h1
    | ok l1 =>
      have st := landOp_step op l l1 hinv hu hd.1 h1
      have hc1 := landOp_cohorts op l l1 hinv hu hc hd.1 (hk op (List.mem_cons_self ..)) hr.1 h1
      exact ih l1 st.inv st.uniform hc1 (hd.2 l1 h1)
        (fun o ho => hk o (List.mem_cons_of_mem _ ho)) (hr.2 l1 h1)

theorem gens_result (gens : List OpGen) (l : Land) (hinv : l.inv) (hu : l.uniform)
    (hc : l.cohortsOK) (hd : GensDomainAlong gens l) (hk : ∀ gen ∈ gens, KeepsCohortsGen gen)
    (hr : GensRoundingAlong gens l) : CohResult (runGens gens l) := by
  induction gens generalizing l with
  | nil => exact ⟨hinv, hu, hc⟩
  | cons gen rest ih =>
    have h0 := history_result (gen l) l hinv hu hc hd.1 (hk gen (List.mem_cons_self ..) l) hr.1
    simp only [runGens]
    cases h1 : runOps (gen l) l with
    | error e => rw [h1] at h0; exact h0
    | ok m =>
      obtain ⟨a1, a2, a3⟩ := h0.of_ok h1
      exact ih m a1 a2 a3 (hd.2 m h1) (fun g hg => hk g (List.mem_cons_of_mem _ hg)) (hr.2 m h1)

theorem actionGen_keepsCohorts (inp : StepInputs) (step : Nat) (a : ActionKind)
    (ha : a ≠ .overpopulation) : KeepsCohortsGen (actionGen inp step a) := by
  intro x op hop
  cases a with
  | overpopulation => exact absurd rfl ha
  | soilNext | spreadRate | quarantine => simp only [actionGen] at hop; cases hop
  | spread | stepForward | movement | mortality =>
    simp only [actionGen, List.mem_map] at hop
    obtain ⟨_, _, rfl⟩ := hop
    rfl
  | lethal =>
    simp only [actionGen] at hop
    obtain ⟨pos, k, o, ho, rfl⟩ := mem_cellOpsOver hop
    split at ho
    · injection ho with ho; subst ho; rfl
    · cases ho
  | survival =>
    simp only [actionGen] at hop
    obtain ⟨pos, k, o, ho, rfl⟩ := mem_cellOpsOver hop
    injection ho with ho; subst ho; rfl
  | treatments =>
    simp only [actionGen, List.mem_flatMap] at hop
    obtain ⟨⟨finish, pest, app, coefs⟩, _, hop⟩ := hop
    obtain ⟨pos, k, o, ho, rfl⟩ := mem_cellOpsOver hop
    injection ho with ho; subst ho
    simp only [LandOp.keepsCohorts]
    split
    · rfl
    · split <;> rfl

theorem stepGens_keepsCohorts (cfg : StepCfg) (inp : StepInputs) (step : Nat)
    (hov : cfg.useOverpop = false) : ∀ gen ∈ stepGens cfg inp step, KeepsCohortsGen gen := by
  intro gen hg
  simp only [stepGens, List.mem_map] at hg
  obtain ⟨a, ha, rfl⟩ := hg
  have hr : cfg.runs step a.1 = true :=
    (act_plan_iff cfg step a.1).mp (List.mem_map.mpr ⟨a, ha, rfl⟩)
  apply actionGen_keepsCohorts
  intro he
  rw [he] at hr
  simp only [StepCfg.runs, hov, Bool.and_false] at hr
  cases hr

theorem run_result (cfg : StepCfg) (inps : List StepInputs) (first : Nat) (l : Land)
    (hov : cfg.useOverpop = false) (hinv : l.inv) (hu : l.uniform) (hc : l.cohortsOK)
    (hd : RunDomainAlong cfg inps first l) (hr : RunRoundingAlong cfg inps first l) :
    CohResult (runModel cfg inps first l) := by
  induction inps generalizing first l with
  | nil => exact ⟨hinv, hu, hc⟩
  | cons inp rest ih =>
    have h0 := gens_result (stepGens cfg inp first) l hinv hu hc hd.1
      (stepGens_keepsCohorts cfg inp first hov) hr.1
    cases h1 : runStepHosts cfg inp first l with
    | error e =>
      rw [runModel_cons_error cfg inp rest first l e h1]
      have h0' : CohResult (runStepHosts cfg inp first l) := h0
      rw [h1] at h0'; exact h0'
    | ok m =>
      rw [runModel_cons_ok cfg inp rest first l m h1]
      obtain ⟨a1, a2, a3⟩ := h0.of_ok h1
      exact ih (first + 1) m a1 a2 a3 (hd.2 m h1) (hr.2 m h1)

theorem runRoundingAlong_append_left (cfg : StepCfg) (a b : List StepInputs) (first : Nat) (l : Land)
    (hr : RunRoundingAlong cfg (a ++ b) first l) : RunRoundingAlong cfg a first l := by
  induction a generalizing first l with
  | nil => trivial
  | cons inp rest ih => exact ⟨hr.1, fun m hm => ih (first + 1) m (hr.2 m hm)⟩

theorem runRoundingAlong_append_right (cfg : StepCfg) (a b : List StepInputs) (first : Nat)
    (l m : Land) (hr : RunRoundingAlong cfg (a ++ b) first l) (h : runModel cfg a first l = .ok m) :
    RunRoundingAlong cfg b (first + a.length) m := by
  induction a generalizing first l with
  | nil => simp only [runModel, Except.ok.injEq] at h; subst h; exact hr
  | cons inp rest ih =>
    obtain ⟨x, hx, hrest⟩ := runModel_cons_inv cfg inp rest first l m h
    have := ih (first + 1) x (hr.2 x hx) hrest
    rw [List.length_cons]
    have he : first + 1 + rest.length = first + (rest.length + 1) := by omega
    rw [← he]; exact this

theorem history_mortality_only_ok (ops : List LandOp) (l : Land) (hinv : l.inv) (hu : l.uniform)
    (hc : l.cohortsOK) (hd : DomainAlong ops l) (hmo : ∀ op ∈ ops, op.isMortality = true) :
    ∃ l', runOps ops l = .ok l' ∧ l'.inv ∧ l'.uniform ∧ l'.cohortsOK := by
  induction ops generalizing l with
  | nil => exact ⟨l, rfl, hinv, hu, hc⟩
  | cons op rest ih =>
    obtain ⟨k, rate, lag, rfl⟩ := (LandOp.isMortality_iff op).mp (hmo op (List.mem_cons_self ..))
    obtain ⟨l1, h1⟩ := landOp_mortality_ok k rate lag l hinv hc hd.1
    have st := landOp_step _ l l1 hinv hu hd.1 h1
    have hc1 := landOp_cohorts _ l l1 hinv hu hc hd.1 rfl (fun _ _ => trivial) h1
    obtain ⟨l', h2, h3⟩ := ih l1 st.inv st.uniform hc1 (hd.2 l1 h1)
      (fun o ho => hmo o (List.mem_cons_of_mem _ ho))
    exact ⟨l', by simp only [runOps, h1, bind, Except.bind]; exact h2, h3⟩

theorem actionGen_mortality_isMortality (inp : StepInputs) (step : Nat) :
    MortalityGen (actionGen inp step .mortality) := by
  intro x op hop
  simp only [actionGen, List.mem_map] at hop
  obtain ⟨k, _, rfl⟩ := hop
  rfl

theorem gens_mortality_ok (gpre gpost : List OpGen) (g : OpGen) (l m : Land) (hinv : l.inv)
    (hu : l.uniform) (hc : l.cohortsOK) (hd : GensDomainAlong (gpre ++ g :: gpost) l)
    (hk : ∀ gen ∈ gpre, KeepsCohortsGen gen) (hr : GensRoundingAlong (gpre ++ g :: gpost) l)
    (hg : MortalityGen g) (hm : runGens gpre l = .ok m) :
    ∃ m', runOps (g m) m = .ok m' := by
  induction gpre generalizing l with
  | nil =>
    simp only [runGens, Except.ok.injEq] at hm; subst hm
    obtain ⟨m', h1, _⟩ := history_mortality_only_ok (g l) l hinv hu hc hd.1 (hg l)
    exact ⟨m', h1⟩
  | cons gen rest ih =>
    simp only [runGens, bind, Except.bind] at hm
    cases h1 : runOps (gen l) l with
    | error e => rw [h1] at hm; cases hm
    | ok x =>
      rw [h1] at hm
      obtain ⟨a1, a2, a3⟩ := (history_result (gen l) l hinv hu hc hd.1
        (hk gen (List.mem_cons_self ..) l) hr.1).of_ok h1
      exact ih x a1 a2 a3 (hd.2 x h1) (fun g' hg' => hk g' (List.mem_cons_of_mem _ hg'))
        (hr.2 x h1) hm

instance instDecidableCellOpRoundingOK : (op : CellOp) → (c : Cell) → Decidable (op.roundingOK c)
  | .simpleTreat coef .ratio, c => inferInstanceAs (Decidable (roundingAgrees rceil coef c = true))
  | .pesticideTreat coef .ratio, c => inferInstanceAs (Decidable (roundingAgrees rfloor coef c = true))
  | .simpleTreat _ .allInfected, _ | .pesticideTreat _ .allInfected, _ | .add _, _
  | .dispTo _ _ _ _ _, _ | .pestsFrom _, _ | .pestsTo _, _ | .pesticideEnd _, _
  | .survival _ _ _, _ | .lethal _, _ | .mortality _ _, _ | .stepForward _ _ _, _ =>
    inferInstanceAs (Decidable True)

/-- "`P` now, and `Q` at whatever `r` yields" is decided by looking at `r`: the shape of the
    conditions taken along a run. -/
def decAlong {α : Type} {P : Prop} [Decidable P] (r : Except ErrKind α) (Q : α → Prop)
    (dQ : ∀ a, Decidable (Q a)) : Decidable (P ∧ ∀ a, r = .ok a → Q a) :=
  match r with
  | .ok a =>
    have := dQ a
    decidable_of_iff (P ∧ Q a)
      ⟨fun h => ⟨h.1, fun _ e => Except.ok.inj e ▸ h.2⟩, fun h => ⟨h.1, h.2 a rfl⟩⟩
  | .error _ => decidable_of_iff P ⟨fun h => ⟨h, fun _ e => nomatch e⟩, fun h => h.1⟩

instance decLandOpRoundingOK : (op : LandOp) → (l : Land) → Decidable (op.roundingOK l)
  | .at k op, l =>
    match h : l[k]? with
    | none => isTrue (fun c hc => by rw [h] at hc; cases hc)
    | some c => decidable_of_iff (op.roundingOK c)
        ⟨fun hr c' hc' => by rw [h] at hc'; cases hc'; exact hr, fun hr => hr c h⟩
  | .move _ _ _ _ _ _, _ => isTrue trivial

instance decRoundingAlong : (ops : List LandOp) → (l : Land) → Decidable (RoundingAlong ops l)
  | [], _ => isTrue trivial
  | op :: rest, l => decAlong (op.apply l) (RoundingAlong rest) (decRoundingAlong rest)

instance decGensRoundingAlong :
    (gens : List OpGen) → (l : Land) → Decidable (GensRoundingAlong gens l)
  | [], _ => isTrue trivial
  | gen :: rest, l =>
    decAlong (runOps (gen l) l) (GensRoundingAlong rest) (decGensRoundingAlong rest)

instance decRunRoundingAlong (cfg : StepCfg) : (inps : List StepInputs) → (step : Nat) →
    (l : Land) → Decidable (RunRoundingAlong cfg inps step l)
  | [], _, _ => isTrue trivial
  | inp :: rest, step, l =>
    decAlong (runStepHosts cfg inp step l) (RunRoundingAlong cfg rest (step + 1))
      (decRunRoundingAlong cfg rest (step + 1))

instance (l : Land) : Decidable l.cohortsOK :=
  inferInstanceAs (Decidable (∀ c ∈ l, c.mortOK = true))

/-- No operation of the history is a ratio treatment. -/
def LandOp.noRatioTreat : LandOp → Bool
  | .at _ (.simpleTreat _ .ratio) => false
  | .at _ (.pesticideTreat _ .ratio) => false
  | _ => true

theorem LandOp.roundingOK_of_noRatio (op : LandOp) (l : Land) (h : op.noRatioTreat = true) :
    op.roundingOK l := by
  cases op with
  | move a b count d dE dM => trivial
  | «at» k o =>
    intro c _
    cases o with
    | simpleTreat coef app => cases app with
      | ratio => cases h
      | allInfected => trivial
    | pesticideTreat coef app => cases app with
      | ratio => cases h
      | allInfected => trivial
    | _ => trivial

theorem roundingAlong_of_noRatio (ops : List LandOp) (l : Land)
    (h : ∀ op ∈ ops, op.noRatioTreat = true) : RoundingAlong ops l := by
  induction ops generalizing l with
  | nil => trivial
  | cons op rest ih =>
    exact ⟨LandOp.roundingOK_of_noRatio op l (h op (List.mem_cons_self ..)),
      fun l' _ => ih l' (fun o ho => h o (List.mem_cons_of_mem _ ho))⟩

end Pops
