/-
  Lemmas for `Model::run_step` with several hosts (Props/C16Model.lean): pointwise relations over
  hosts and cells, the step from one landing (`atMostOneSpec`) to the aggregate spread predicate,
  sums over hosts and cells, per-host histories.
-/
import PopsModel.Model.MModelPred
import PopsModel.Lemmas.Multi
import PopsModel.Lemmas.OffSeason
namespace Pops.MM

/-- Propositional form of `hostSpreadOK`. -/
def HostSpread (a b : Cell) : Prop :=
  (sLost a b = 0 ∨ (0 < sLost a b ∧ sLost a b ≤ a.s)) ∧ eiGained a b = sLost a b ∧
  b.r = a.r ∧ b.died = a.died ∧ b.th = a.th

theorem hostSpreadOK_iff (a b : Cell) : hostSpreadOK a b = true ↔ HostSpread a b := by
  unfold hostSpreadOK HostSpread
  simp only [Bool.and_eq_true, Bool.or_eq_true, decide_eq_true_eq]
  constructor
  · rintro ⟨⟨⟨⟨h1, h2⟩, h3⟩, h4⟩, h5⟩; exact ⟨h1, h2, h3, h4, h5⟩
  · rintro ⟨h1, h2, h3, h4, h5⟩; exact ⟨⟨⟨⟨h1, h2⟩, h3⟩, h4⟩, h5⟩

theorem HostSpread.refl (a : Cell) : HostSpread a a := by
  unfold HostSpread sLost eiGained
  refine ⟨.inl (by omega), by omega, rfl, rfl, rfl⟩

theorem sLost_add (a b c : Cell) : sLost a c = sLost a b + sLost b c := by
  unfold sLost; omega

theorem eiGained_add (a b c : Cell) : eiGained a c = eiGained a b + eiGained b c := by
  unfold eiGained; omega

theorem HostSpread.trans {a b c : Cell} (h1 : HostSpread a b) (h2 : HostSpread b c) : HostSpread a c := by
  obtain ⟨p1, p2, p3, p4, p5⟩ := h1
  obtain ⟨q1, q2, q3, q4, q5⟩ := h2
  refine ⟨?_, by rw [eiGained_add a b c, sLost_add a b c, p2, q2], q3.trans p3, q4.trans p4, q5.trans p5⟩
  -- what `b` can still lose is what `a` had, less what was lost on the way to `b`
  have hb : sLost a b = a.s - b.s := rfl
  rw [sLost_add a b c]
  clear p2 p3 p4 p5 q2 q3 q4 q5
  omega

theorem HostSpread.landed (mt : ModelType) (c : Cell) (hs : 0 < c.s) : HostSpread c (landed mt c) := by
  unfold HostSpread sLost eiGained Pops.landed
  cases mt <;> exact ⟨.inr (by simp only; omega), by simp only; omega, rfl, rfl, rfl⟩

def CellSpread (a b : List Cell) : Prop := Pw HostSpread a b

theorem sum_lost_eq_gained {a b : List Cell} (h : CellSpread a b) :
    sumL (List.zipWith sLost a b) = sumL (List.zipWith eiGained a b) := by
  induction h with
  | nil => rfl
  | cons hxy _ ih =>
    simp only [List.zipWith_cons_cons, sumL_cons]
    have := hxy.2.1
    omega

theorem cellSpreadOK_iff (a b : List Cell) : cellSpreadOK a b = true ↔ CellSpread a b := by
  unfold cellSpreadOK CellSpread
  have hb := pw_iff_bool HostSpread hostSpreadOK hostSpreadOK_iff a b
  rw [Bool.and_eq_true, hb]
  constructor
  · exact fun h => h.1
  · intro h
    exact ⟨h, by simp only [decide_eq_true_eq]; exact sum_lost_eq_gained h⟩

theorem CellSpread.refl (a : List Cell) : CellSpread a a := Pw.refl HostSpread.refl a

theorem CellSpread.trans {a b c : List Cell} (h1 : CellSpread a b) (h2 : CellSpread b c) : CellSpread a c :=
  Pw.trans (R := HostSpread) (fun _ _ _ h h' => HostSpread.trans h h') h1 h2

theorem cellSpread_of_atMostOne {ps : List HostParams} {pre post : List Cell} {r : Int}
    (h : atMostOneSpec ps pre post r = true) : CellSpread pre post := by
  unfold atMostOneSpec at h
  simp only [Bool.or_eq_true, Bool.and_eq_true, decide_eq_true_eq, List.any_eq_true, List.mem_range,
    beq_iff_eq] at h
  rcases h with ⟨_, he⟩ | ⟨_, hh, hlt, ⟨hs, hland⟩, hset⟩
  · rw [he]; exact CellSpread.refl pre
  · rw [hset]
    have hk : pre[hh]? = some (pre[hh]!) := act_getElem?_eq_some_getElem! hlt
    refine Pw.set HostSpread.refl hk ?_
    -- the changed host carries exactly one landing
    unfold landingSpec at hland
    simp only [if_true] at hland
    have : post[hh]! = landed (ps[hh]!).mt (pre[hh]!) := by
      unfold landed
      cases hm : (ps[hh]!).mt <;> simp only [hm, beq_iff_eq] at hland <;> exact hland
    rw [this]
    exact HostSpread.landed _ _ hs

def LandSpread (a b : CLand) : Prop := Pw CellSpread a b

theorem landSpreadOK_iff (a b : CLand) : landSpreadOK a b = true ↔ LandSpread a b :=
  pw_iff_bool CellSpread cellSpreadOK cellSpreadOK_iff a b

theorem LandSpread.refl (a : CLand) : LandSpread a a := Pw.refl CellSpread.refl a

theorem LandSpread.trans {a b c : CLand} (h1 : LandSpread a b) (h2 : LandSpread b c) : LandSpread a c :=
  Pw.trans (R := CellSpread) (fun _ _ _ h h' => CellSpread.trans h h') h1 h2

theorem LandSpread.set {l : CLand} {k : Nat} {c c' : List Cell} (hk : l[k]? = some c) (hc : CellSpread c c') :
    LandSpread l (l.set k c') := Pw.set CellSpread.refl hk hc

/-! Per cell and per landscape the hosts consumed are sums of a distance `d` over two lists position
  by position (`sLost` over hosts, `cellLost` over cells); three facts about such sums serve both. -/

theorem sumL_zipWith_self {α : Type} (d : α → α → Int) (hd : ∀ x, d x x = 0) (l : List α) :
    sumL (List.zipWith d l l) = 0 := by
  induction l with
  | nil => rfl
  | cons x xs ih => rw [List.zipWith_cons_cons, sumL_cons, ih, hd]; rfl

theorem sumL_zipWith_trans {α : Type} {R : α → α → Prop} (d : α → α → Int)
    (hd : ∀ x y z, R x y → R y z → d x z = d x y + d y z) {a b c : List α} (h1 : Pw R a b) (h2 : Pw R b c) :
    sumL (List.zipWith d a c) = sumL (List.zipWith d a b) + sumL (List.zipWith d b c) := by
  induction h1 generalizing c with
  | nil => cases h2; rfl
  | cons hxy _ ih =>
    cases h2 with
    | cons hyz h2' => simp only [List.zipWith_cons_cons, sumL_cons, ih h2', hd _ _ _ hxy hyz]; omega

theorem sumL_zipWith_set {α : Type} (d : α → α → Int) (hd : ∀ x, d x x = 0) {l : List α} {k : Nat} {c : α}
    (hk : l[k]? = some c) (c' : α) : sumL (List.zipWith d l (l.set k c')) = d c c' := by
  induction l generalizing k with
  | nil => simp at hk
  | cons x xs ih =>
    cases k with
    | zero =>
      simp only [List.getElem?_cons_zero, Option.some.injEq] at hk; subst hk
      rw [List.set_cons_zero, List.zipWith_cons_cons, sumL_cons, sumL_zipWith_self d hd, Int.add_zero]
    | succ k =>
      simp only [List.getElem?_cons_succ] at hk
      rw [List.set_cons_succ, List.zipWith_cons_cons, sumL_cons, ih hk, hd, Int.zero_add]

def cellLost (a b : List Cell) : Int := sumL (List.zipWith sLost a b)

theorem sLost_self (a : Cell) : sLost a a = 0 := Int.sub_self _

theorem cellLost_refl (a : List Cell) : cellLost a a = 0 := sumL_zipWith_self sLost sLost_self a

theorem cellLost_trans {a b c : List Cell} (h1 : CellSpread a b) (h2 : CellSpread b c) :
    cellLost a c = cellLost a b + cellLost b c :=
  sumL_zipWith_trans sLost (fun x y z _ _ => sLost_add x y z) h1 h2

theorem sLostTotal_refl (a : CLand) : sLostTotal a a = 0 := sumL_zipWith_self cellLost cellLost_refl a

theorem sLostTotal_trans {a b c : CLand} (h1 : LandSpread a b) (h2 : LandSpread b c) :
    sLostTotal a c = sLostTotal a b + sLostTotal b c :=
  sumL_zipWith_trans cellLost (fun _ _ _ => cellLost_trans) h1 h2

theorem sLostTotal_set {l : CLand} {k : Nat} {c c' : List Cell} (hk : l[k]? = some c) :
    sLostTotal l (l.set k c') = cellLost c c' :=
  sumL_zipWith_set cellLost cellLost_refl hk c'

theorem sLost_landed (mt : ModelType) (c : Cell) : sLost c (landed mt c) = 1 := by
  unfold sLost landed
  cases mt <;> simp only <;> omega

theorem cellLost_set_landed (mt : ModelType) {cells : List Cell} {h : Nat} (hlt : h < cells.length) :
    cellLost cells (cells.set h (landed mt (cells[h]!))) = 1 :=
  (sumL_zipWith_set sLost sLost_self (act_getElem?_eq_some_getElem! hlt) _).trans (sLost_landed mt _)

theorem sumL_map_add {α : Type} (l : List α) (f g : α → Int) :
    sumL (l.map fun x => f x + g x) = sumL (l.map f) + sumL (l.map g) := by
  induction l with
  | nil => rfl
  | cons x xs ih => simp only [List.map_cons, sumL_cons, ih]; omega

theorem sumL_map_zero {α : Type} (l : List α) : sumL (l.map fun _ => (0 : Int)) = 0 := by
  induction l with
  | nil => rfl
  | cons x xs ih => simp only [List.map_cons, sumL_cons, ih]; omega

theorem sumL_ledger {α : Type} (l : List α) (h1 h0 d1 d0 rem : α → Int)
    (h : ∀ r ∈ l, h1 r = h0 r - (d1 r - d0 r) - rem r ∧ 0 ≤ rem r ∧ d0 r ≤ d1 r ∧ h1 r ≤ h0 r) :
    sumL (l.map h1) = sumL (l.map h0) - (sumL (l.map d1) - sumL (l.map d0)) - sumL (l.map rem) ∧
    0 ≤ sumL (l.map rem) ∧ sumL (l.map d0) ≤ sumL (l.map d1) ∧ sumL (l.map h1) ≤ sumL (l.map h0) := by
  induction l with
  | nil => simp
  | cons r rest ih =>
    obtain ⟨a1, a2, a3, a4⟩ := h r List.mem_cons_self
    obtain ⟨b1, b2, b3, b4⟩ := ih (fun x hx => h x (List.mem_cons_of_mem _ hx))
    simp only [List.map_cons, sumL_cons]
    refine ⟨?_, Int.add_nonneg a2 b2, Int.add_le_add a3 b3, Int.add_le_add a4 b4⟩
    rw [a1, b1]
    clear a1 a2 a3 a4 b1 b2 b3 b4 ih h
    omega

theorem MLand.hosts_map {α : Type} (l : List α) (f : α → Land) :
    MLand.hosts (l.map f) = sumL (l.map fun r => (f r).hosts) := by
  unfold MLand.hosts; rw [List.map_map]; rfl

theorem MLand.died_map {α : Type} (l : List α) (f : α → Land) :
    MLand.died (l.map f) = sumL (l.map fun r => (f r).died) := by
  unfold MLand.died; rw [List.map_map]; rfl

theorem map_range_getElem! (l : Land) (f : Cell → Int) :
    (List.range l.length).map (fun k => f (l[k]!)) = l.map f := by
  apply List.ext_getElem
  · simp
  · intro i h1 h2
    have hi : i < l.length := by simpa using h2
    simp only [List.getElem_map, List.getElem_range]
    congr 1
    simp [getElem!_def, List.getElem?_eq_getElem hi]

theorem cellsAtM_cons (l : Land) (m : MLand) (k : Nat) : cellsAtM (l :: m) k = l[k]! :: cellsAtM m k := rfl

/-- Summation over cells and over hosts commute (all rasters have `n` cells). -/
theorem sum_cells_hosts (m : MLand) (n : Nat) (f : Cell → Int) (hlen : ∀ l ∈ m, l.length = n) :
    sumL ((List.range n).map fun k => sumL ((cellsAtM m k).map f)) = sumL (m.map fun l => sumL (l.map f)) := by
  induction m with
  | nil => simp only [cellsAtM, List.map_nil, sumL_nil]; exact sumL_map_zero _
  | cons l rest ih =>
    have hl : l.length = n := hlen l (List.mem_cons_self)
    have hr := ih (fun x hx => hlen x (List.mem_cons_of_mem _ hx))
    simp only [cellsAtM_cons, List.map_cons, sumL_cons]
    rw [sumL_map_add (List.range n) (fun k => f (l[k]!)) (fun k => sumL ((cellsAtM rest k).map f)), hr, ← hl,
      map_range_getElem! l f]

theorem getElem!_map_range (g : Nat → Int) {n k : Nat} (hk : k < n) : ((List.range n).map g)[k]! = g k := by
  rw [getElem!_pos _ k (by simpa using hk)]; simp

theorem poolInfected_getElem (m : MLand) {n k : Nat} (hk : k < n) :
    (poolInfected m n)[k]! = sumL (m.map fun l => (l[k]!).i) := by
  rw [poolInfected, getElem!_map_range _ hk, multiInfectedAt, cellsAtM, List.map_map]; rfl

theorem poolTotalHosts_getElem (m : MLand) {n k : Nat} (hk : k < n) :
    (poolTotalHosts m n)[k]! = sumL (m.map fun l => (l[k]!).s + (l[k]!).i) := by
  rw [poolTotalHosts, getElem!_map_range _ hk, multiTotalHostsAt, cellsAtM, List.map_map]; rfl

theorem poolSumsOK_self (m : MLand) (n : Nat) : poolSumsOK m (poolInfected m n) (poolTotalHosts m n) = true := by
  unfold poolSumsOK
  have hl1 : (poolInfected m n).length = n := by simp [poolInfected]
  have hl2 : (poolTotalHosts m n).length = n := by simp [poolTotalHosts]
  simp only [hl1, hl2, beq_self_eq_true, Bool.true_and, List.all_eq_true, List.mem_range]
  intro k hk
  rw [poolInfected, poolTotalHosts, getElem!_map_range _ hk, getElem!_map_range _ hk]
  exact mh_sumsSpec _

theorem landOp_length {op : LandOp} {l l' : Land} (h : op.apply l = .ok l') : l'.length = l.length := by
  cases op with
  | «at» k op =>
    simp only [LandOp.apply] at h
    cases hk : l[k]? with
    | none => rw [hk] at h; cases h; rfl
    | some c =>
      simp only [hk] at h
      cases hc : op.apply c with
      | error e => rw [hc] at h; cases h
      | ok c' => rw [hc] at h; cases h; exact List.length_set
  | move a b count d dE dM =>
    simp only [LandOp.apply] at h
    by_cases hab : a = b
    · rw [if_pos hab] at h; cases h; rfl
    · -- whatever the two lookups give, the result is `l` or `l` with two cells replaced
      rw [if_neg hab] at h
      cases ha : l[a]? <;> cases hb : l[b]? <;> rw [ha, hb] at h <;> cases h <;> simp

theorem runOps_length {ops : List LandOp} {l l' : Land} (h : runOps ops l = .ok l') : l'.length = l.length := by
  induction ops generalizing l with
  | nil => simp only [runOps, Except.ok.injEq] at h; rw [← h]
  | cons op rest ih =>
    simp only [runOps, bind, Except.bind] at h
    cases h1 : op.apply l with
    | error e => rw [h1] at h; cases h
    | ok x => rw [h1] at h; rw [ih h, landOp_length h1]

/-- One host's share of `modelMortality`: its own table row, then its own history. -/
def hostMortalityAt (t : PestHostTable) (suitIdx : List Nat) (h : Nat) (l : Land) : Except ErrKind Land :=
  match t.mortalityRate h, t.mortalityTimeLag h with
  | .ok rate, .ok lag => runOps (hostMortalityOps suitIdx rate lag l) l
  | .error e, _ => .error e
  | _, .error e => .error e

theorem modelMortality_eq (t : PestHostTable) (suitIdx : List Nat) (h : Nat) (m : MLand) :
    modelMortality t suitIdx h m = forFrom (hostMortalityAt t suitIdx) h m := by
  induction m generalizing h with
  | nil => rfl
  | cons l rest ih =>
    simp only [modelMortality, forFrom, hostMortalityAt, ih, bind, Except.bind]
    cases t.mortalityRate h with
    | error e => rfl
    | ok rate =>
      cases t.mortalityTimeLag h with
      | error e => rfl
      | ok lag =>
        simp only []
        cases runOps (hostMortalityOps suitIdx rate lag l) l with
        | error e => rfl
        | ok l' => cases forFrom (hostMortalityAt t suitIdx) (h + 1) rest <;> rfl

theorem hostMortalityAt_ok {t : PestHostTable} {suitIdx : List Nat} {h : Nat} {l l' : Land}
    (hm : hostMortalityAt t suitIdx h l = .ok l') :
    ∃ rate lag, t.rate[h]? = some rate ∧ t.lag[h]? = some lag ∧
      runOps (hostMortalityOps suitIdx rate lag l) l = .ok l' := by
  unfold hostMortalityAt at hm
  cases hr : t.mortalityRate h with
  | error e => cases hl : t.mortalityTimeLag h <;> rw [hr, hl] at hm <;> cases hm
  | ok rate =>
    cases hl : t.mortalityTimeLag h with
    | error e => rw [hr, hl] at hm; cases hm
    | ok lag => rw [hr, hl] at hm; exact ⟨rate, lag, atOrRange_ok hr, atOrRange_ok hl, hm⟩

end Pops.MM
