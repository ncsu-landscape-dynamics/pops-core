/-
  For Props/C08: step membership by year, month, day (the terms of the firing rules), counting in
  prefixes of a schedule, `create_schedules` read backwards.
-/
import PopsModel.Lemmas.Calendar
import PopsModel.Lemmas.ListFacts
namespace Pops
open Date

theorem bounded_of_md (y mo da : Int) (h1 : 1 ≤ mo) (h2 : mo ≤ 12) (h3 : 1 ≤ da) (h4 : da ≤ 31) :
    (⟨y, mo, da⟩ : Date).Bounded := ⟨h1, h2, h3, h4⟩

theorem contains_iff_lex (st : Step) (x : Date) (hx : x.Bounded) (hs : st.s.Bounded) (he : st.e.Bounded) :
    st.contains x = true ↔
      (st.s.y < x.y ∨ (st.s.y = x.y ∧ (st.s.m < x.m ∨ (st.s.m = x.m ∧ st.s.d ≤ x.d)))) ∧
      (x.y < st.e.y ∨ (x.y = st.e.y ∧ (x.m < st.e.m ∨ (x.m = st.e.m ∧ x.d ≤ st.e.d)))) := by
  rw [contains_iff_ord_bounded st x hx hs he, ord_le_iff_lex hs hx, ord_le_iff_lex hx he]

theorem countTrue_nil : countTrue [] = 0 := rfl
theorem countTrue_cons (b : Bool) (l : List Bool) : countTrue (b :: l) = (if b then 1 else 0) + countTrue l := by
  cases b <;> simp [countTrue] <;> omega

theorem countTrue_take_mono (l : List Bool) {j k : Nat} (h : j ≤ k) :
    countTrue (l.take j) ≤ countTrue (l.take k) :=
  ((List.take_sublist_take_left h).filter id).length_le

theorem countTrue_take_le (l : List Bool) (k : Nat) : countTrue (l.take k) ≤ countTrue l :=
  ((List.take_sublist k l).filter id).length_le

theorem countTrue_take_succ (l : List Bool) (k : Nat) (hk : k < l.length) :
    countTrue (l.take (k+1)) = countTrue (l.take k) + (if l[k]'hk then 1 else 0) := by
  rw [List.take_succ_eq_append_getElem hk, countTrue, List.filter_append, List.length_append]
  cases l[k] <;> rfl

theorem countTrue_surj (l : List Bool) (j : Nat) (hj : j < countTrue l) :
    ∃ (i : Nat) (hi : i < l.length), l[i]'hi = true ∧ countTrue (l.take i) = j := by
  induction l generalizing j with
  | nil => simp [countTrue] at hj
  | cons b l ih =>
    rw [countTrue_cons] at hj
    cases b with
    | true =>
      cases j with
      | zero => exact ⟨0, by simp, by simp, by simp [countTrue]⟩
      | succ j' =>
        obtain ⟨i, hi, h1, h2⟩ := ih j' (by simp at hj; omega)
        exact ⟨i + 1, by simp; omega, by simpa using h1, by simp [countTrue_cons, h2]; omega⟩
    | false =>
      obtain ⟨i, hi, h1, h2⟩ := ih j (by simpa using hj)
      exact ⟨i + 1, by simp; omega, by simpa using h1, by simp [countTrue_cons, h2]⟩


theorem optSched_ok {use : Bool} {x : Except ErrKind (List Bool)} {r : Option (List Bool)}
    (h : optSched use x = .ok r) :
    (use = true → ∃ m, x = .ok m ∧ r = some m) ∧ (use = false → r = none) := by
  cases use
  · cases h; exact ⟨fun hh => Bool.noConfusion hh, fun _ => rfl⟩
  · obtain ⟨m, hm, hr⟩ := except_bind_ok (f := fun m => pure (some m)) h
    cases hr; exact ⟨fun _ => ⟨m, hm, rfl⟩, fun hh => Bool.noConfusion hh⟩

theorem createSchedules_ok {c : CalCfg} {s : Schedules} (h : createSchedules c = .ok s) :
    ∃ sc : Scheduler, Scheduler.make c.start c.end_ c.unit c.n = .ok sc ∧ s.steps = sc.steps ∧
      s.spread = scheduleSpread sc.steps c.seasonStart c.seasonEnd ∧
      scheduleFromString sc c.outFreq c.outN = .ok s.output ∧
      optSched c.useMortality (scheduleFromString sc c.mortFreq c.mortN) = .ok s.mortality ∧
      s.lethal = (if c.useLethal then some (scheduleYearly sc.steps c.lethalMonth 1) else none) ∧
      s.survival = (if c.useSurvival then some (scheduleYearly sc.steps c.survMonth c.survDay) else none) ∧
      optSched c.useRates (scheduleFromString sc c.ratesFreq c.ratesN) = .ok s.rates ∧
      optSched c.useQuarantine (scheduleFromString sc c.quarFreq c.quarN) = .ok s.quarantine ∧
      (c.weatherSize = 0 → s.weather = none) := by
  obtain ⟨sc, hsc, h⟩ := except_bind_ok h
  obtain ⟨out, hout, h⟩ := except_bind_ok h
  obtain ⟨mo, hmo, h⟩ := except_bind_ok h
  obtain ⟨ra, hra, h⟩ := except_bind_ok h
  obtain ⟨qu, hqu, h⟩ := except_bind_ok h
  by_cases hw : c.weatherSize ≠ 0
  · simp only [if_pos hw] at h
    obtain ⟨w, -, h⟩ := except_bind_ok h
    cases h
    exact ⟨sc, hsc, rfl, rfl, hout, hmo, rfl, rfl, hra, hqu, fun hz => absurd hz hw⟩
  · simp only [if_neg hw] at h
    cases h
    exact ⟨sc, hsc, rfl, rfl, hout, hmo, rfl, rfl, hra, hqu, fun _ => rfl⟩

end Pops
