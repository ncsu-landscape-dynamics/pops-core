/-
  Lemmas for Props/C04Pest.lean (`c04p_`: C04, pest rasters and soils). `generate` is two writing
  loops over the suitable cells paired with their counts (`c04p_generateGo_eq`); a landing from the
  soil is a kernel-driven landing in a raster of one row (`c04p_landInCell_as_landOne`); `disperse`
  with soils is followed suitable cell by suitable cell (`c04p_disperseGoSoil_facts`).
-/
import PopsModel.Model.Soil
import PopsModel.Lemmas.Actions
import PopsModel.Lemmas.ListFacts
namespace Pops

theorem c04p_generateGo_cons (g : Grid) (soilPct : Option Rat) (r c : Int) (rest : List (Int × Int)) (x : Int)
    (xs : List Int) (p : PestState) (acc : List Int) :
    generateGo g soilPct ((r, c) :: rest) (x :: xs) p acc =
      generateGo g soilPct rest xs
        { p with disp := p.disp.set (g.idx r c) (dispersingShare soilPct x), est := p.est.set (g.idx r c) 0 }
        (acc ++ [soilHanded soilPct x]) := by
  by_cases h : x > 0
  · simp only [generateGo, dispersingShare, soilHanded, h, if_true]
  · simp only [generateGo, dispersingShare, soilHanded, h, if_false]

theorem c04p_generateGo_nil_left (g : Grid) (soilPct : Option Rat) (gen : List Int) (p : PestState) (acc : List Int) :
    generateGo g soilPct [] gen p acc = (p, acc) := by
  unfold generateGo; rfl

theorem c04p_generateGo_nil_right (g : Grid) (soilPct : Option Rat) (suit : List (Int × Int)) (p : PestState) (acc : List Int) :
    generateGo g soilPct suit [] p acc = (p, acc) := by
  cases suit <;> (unfold generateGo; rfl)

theorem c04p_shares_pos (soilPct : Option Rat) {x : Int} (h : 0 < x) :
    soilHanded soilPct x = soilShare soilPct x ∧ dispersingShare soilPct x = x - soilShare soilPct x :=
  ⟨if_pos h, if_pos h⟩

theorem c04p_shares_nonpos (soilPct : Option Rat) {x : Int} (h : ¬ 0 < x) :
    soilHanded soilPct x = 0 ∧ dispersingShare soilPct x = 0 :=
  ⟨if_neg h, if_neg h⟩

theorem c04p_dispersingShare_nonneg (soilPct : Option Rat)
    (hpct : ∀ pct, soilPct = some pct → 0 ≤ pct ∧ pct ≤ 1) (x : Int) : 0 ≤ dispersingShare soilPct x := by
  by_cases h : 0 < x
  · rw [(c04p_shares_pos soilPct h).2]
    cases soilPct with
    | none => exact Int.sub_nonneg_of_le (Int.le_of_lt h)
    | some pct =>
      obtain ⟨h0, h1⟩ := hpct pct rfl
      exact Int.sub_nonneg_of_le (act_soilShare_facts pct x h0 h1 (Int.le_of_lt h)).2.1
  · rw [(c04p_shares_nonpos soilPct h).2]
    exact Int.le_refl 0

theorem c04p_generateGo_eq (g : Grid) (soilPct : Option Rat) (suit : List (Int × Int)) (gen : List Int)
    (p : PestState) (acc : List Int) :
    generateGo g soilPct suit gen p acc =
      ({ p with
          disp := (suit.zip gen).foldl (fun l q => l.set (g.idx q.1.1 q.1.2) (dispersingShare soilPct q.2)) p.disp,
          est := (suit.zip gen).foldl (fun l q => l.set (g.idx q.1.1 q.1.2) 0) p.est },
       acc ++ (suit.zip gen).map fun q => soilHanded soilPct q.2) := by
  induction suit generalizing gen p acc with
  | nil => rw [c04p_generateGo_nil_left, List.zip_nil_left, List.map_nil, List.append_nil]; rfl
  | cons rc rest ih =>
    cases gen with
    | nil => rw [c04p_generateGo_nil_right, List.zip_nil_right, List.map_nil, List.append_nil]; rfl
    | cons x xs =>
      rw [c04p_generateGo_cons, ih, List.zip_cons_cons, List.map_cons, List.append_assoc]
      rfl

theorem c04p_generateGo_facts (g : Grid) (soilPct : Option Rat) (suit : List (Int × Int)) (gen : List Int)
    (p : PestState) (acc : List Int) (hlen : gen.length = suit.length) :
    (generateGo g soilPct suit gen p acc).2 = acc ++ gen.map (soilHanded soilPct) ∧
    (generateGo g soilPct suit gen p acc).1.outside = p.outside ∧
    (generateGo g soilPct suit gen p acc).1.disp.length = p.disp.length ∧
    (generateGo g soilPct suit gen p acc).1.est.length = p.est.length ∧
    (∀ k : Nat, k ∉ suit.map (fun rc => g.idx rc.1 rc.2) →
      (generateGo g soilPct suit gen p acc).1.disp[k]? = p.disp[k]? ∧
      (generateGo g soilPct suit gen p acc).1.est[k]? = p.est[k]?) ∧
    (∀ k : Nat, k ∈ suit.map (fun rc => g.idx rc.1 rc.2) → (generateGo g soilPct suit gen p acc).1.est[k]! = 0) ∧
    ((∀ x, 0 ≤ dispersingShare soilPct x) → ∀ k : Nat, k ∈ suit.map (fun rc => g.idx rc.1 rc.2) →
      0 ≤ (generateGo g soilPct suit gen p acc).1.disp[k]!) ∧
    ((suit.map (fun rc => g.idx rc.1 rc.2)).Nodup → ∀ (rc : Int × Int) (x : Int), (rc, x) ∈ suit.zip gen →
      (generateGo g soilPct suit gen p acc).1.disp[g.idx rc.1 rc.2]! =
        if g.idx rc.1 rc.2 < p.disp.length then dispersingShare soilPct x else 0) := by
  have hk : (suit.zip gen).map (fun q => g.idx q.1.1 q.1.2) = suit.map fun rc => g.idx rc.1 rc.2 := by
    conv => rhs; rw [← List.map_fst_zip (l₂ := gen) (Nat.le_of_eq hlen.symm), List.map_map]
    rfl
  rw [c04p_generateGo_eq]
  dsimp only
  refine ⟨?_, rfl, setFold_length _ _ _ _, setFold_length _ _ _ _,
    fun k hk' => ⟨setFold_frame _ _ _ _ k (hk ▸ hk'), setFold_frame _ _ _ _ k (hk ▸ hk')⟩, ?_, ?_, ?_⟩
  · conv => rhs; rw [← List.map_snd_zip (l₁ := suit) (Nat.le_of_eq hlen), List.map_map]
    rfl
  · intro k hk'
    obtain ⟨_, _, _, h⟩ := setFold_hit _ _ (suit.zip gen) p.est k (hk ▸ hk')
    rw [List.getElem!_eq_getElem?_getD, h]
    split <;> rfl
  · intro hsh k hk'
    obtain ⟨q, _, _, h⟩ := setFold_hit _ _ (suit.zip gen) p.disp k (hk ▸ hk')
    rw [List.getElem!_eq_getElem?_getD, h]
    split
    · exact hsh q.2
    · exact Int.le_refl 0
  · intro hnd rc x hx
    rw [List.getElem!_eq_getElem?_getD, setFold_hit_nodup _ _ (suit.zip gen) p.disp (hk ▸ hnd) (rc, x) hx]
    split <;> rfl

theorem c04p_soilDisperserTo_eq (cohorts : List Int) (w : Rat) (sto : Bool) (pEst u : Rat) :
    soilDisperserTo cohorts w sto pEst u =
      addLast cohorts (if (if sto then u else 1 - pEst) < w then 1 else 0) := by
  unfold soilDisperserTo
  by_cases hc : (if sto then u else 1 - pEst) < w
  · rw [if_pos hc, if_pos hc]
  · rw [if_neg hc, if_neg hc, addLast_zero]

theorem c04p_soilArrive_zero (sc : SoilCfg) (soil : List (List Int)) (k : Nat) (n : Int) (us : List Rat) (h : n ≤ 0) :
    soilArrive sc soil k n us = .ok (soil, us) := by
  unfold soilArrive; rw [if_pos h]

theorem c04p_generateSoilGo_nil_left (g : Grid) (pct : Rat) (sc : SoilCfg) (gen : List Int) (p : PestState)
    (soil : List (List Int)) (us : List Rat) :
    generateSoilGo g pct sc [] gen p soil us = .ok (p, soil, us) := by
  unfold generateSoilGo; rfl

theorem c04p_generateSoilGo_nil_right (g : Grid) (pct : Rat) (sc : SoilCfg) (suit : List (Int × Int)) (p : PestState)
    (soil : List (List Int)) (us : List Rat) :
    generateSoilGo g pct sc suit [] p soil us = .ok (p, soil, us) := by
  cases suit <;> (unfold generateSoilGo; rfl)

/-- `acc`, the shares collected so far, does not influence the rasters; it is arbitrary here because
    the soil-free loop appends to it at every cell. -/
theorem c04p_generateSoilGo_eq (g : Grid) (pct : Rat) (sc : SoilCfg) (suit : List (Int × Int)) (gen : List Int)
    (p : PestState) (soil : List (List Int)) (us : List Rat) (acc : List Int) :
    generateSoilGo g pct sc suit gen p soil us =
      match soilArriveAll sc (List.zip (suit.map fun rc => g.idx rc.1 rc.2) (gen.map (soilHanded (some pct)))) soil us with
      | .error e => .error e
      | .ok (soil', us') => .ok ((generateGo g (some pct) suit gen p acc).1, soil', us') := by
  induction suit generalizing gen p soil us acc with
  | nil =>
    rw [c04p_generateSoilGo_nil_left, c04p_generateGo_nil_left]
    simp only [List.map_nil, List.zip_nil_left, soilArriveAll]
  | cons rc0 rest ih =>
    obtain ⟨r, c⟩ := rc0
    cases gen with
    | nil =>
      rw [c04p_generateSoilGo_nil_right, c04p_generateGo_nil_right]
      simp only [List.map_nil, List.zip_nil_right, soilArriveAll]
    | cons x xs =>
      rw [c04p_generateGo_cons]
      simp only [List.map_cons, List.zip_cons_cons, soilArriveAll]
      unfold generateSoilGo
      by_cases hx : x > 0
      · simp only [hx, if_true]
        rw [(c04p_shares_pos (some pct) hx).1, (c04p_shares_pos (some pct) hx).2,
          show soilShare (some pct) x = lround (pct * x) from rfl]
        cases hs : soilArrive sc soil (g.idx r c) (lround (pct * x)) us with
        | error e => rfl
        | ok q =>
          obtain ⟨soil', us'⟩ := q
          exact ih xs _ soil' us' _
      · simp only [hx, if_false]
        rw [(c04p_shares_nonpos (some pct) hx).1, (c04p_shares_nonpos (some pct) hx).2,
          c04p_soilArrive_zero sc soil _ 0 us (Int.le_refl 0)]
        exact ih xs _ soil us _

theorem c04p_landOne_inside (g : Grid) (env : DisperseEnv) (cells : List Cell) (p : PestState) (tr tc : Int)
    (us : List Rat) (ho : g.isOutside tr tc = false) :
    landOne g env cells p (tr, tc) us =
      match landInCell env cells (g.idx tr tc) us with
      | .error e => .error e
      | .ok (cells', ok, us') => .ok (cells', p, ok, us') := by
  simp only [landOne, landInCell, ho, Bool.false_eq_true, if_false]
  split <;> rename_i hw <;> simp only [hw]

/-- A landing in the cell with index `k` is a kernel-driven landing whose target is the cell `k` of
    a raster with one row. -/
theorem c04p_landInCell_as_landOne (env : DisperseEnv) (cells cells' : List Cell) (k : Nat) (us us' : List Rat)
    (ok : Bool) (p : PestState) (h : landInCell env cells k us = .ok (cells', ok, us')) :
    ∃ (g : Grid) (r c : Int), g.idx r c = k ∧ g.isOutside r c = false ∧
      landOne g env cells p (r, c) us = .ok (cells', p, ok, us') := by
  have hi : (⟨1, k + 1⟩ : Grid).idx 0 k = k := by simp only [Grid.idx, Int.zero_mul, Int.zero_add, Int.toNat_natCast]
  have ho : (⟨1, k + 1⟩ : Grid).isOutside 0 k = false := by
    simp only [Grid.isOutside, Bool.or_eq_false_iff, decide_eq_false_iff_not]
    omega
  exact ⟨⟨1, k + 1⟩, 0, k, hi, ho, by rw [c04p_landOne_inside _ _ _ _ _ _ _ ho, hi, h]⟩

theorem c04p_landInCell_facts (env : DisperseEnv) (cells cells' : List Cell) (k : Nat) (us us' : List Rat) (ok : Bool)
    (h : landInCell env cells k us = .ok (cells', ok, us')) :
    (ok = false ∧ cells' = cells) ∨
    (ok = true ∧ k < cells.length ∧ 0 < (cells[k]!).s ∧ cells' = cells.set k ((cells[k]!).addDisperserAt env.mt).1) := by
  obtain ⟨g, r, c, hi, ho, hl⟩ := c04p_landInCell_as_landOne env cells cells' k us us' ok default h
  have := ((act_landOne_facts g env cells cells' _ _ r c us us' ok hl).2 ho).2
  rwa [hi] at this

theorem c04p_landInCell_total (env : DisperseEnv) (cells cells' : List Cell) (k : Nat) (us us' : List Rat) (ok : Bool)
    (h : landInCell env cells k us = .ok (cells', ok, us')) :
    cells'.length = cells.length ∧
    sumL (cells.map (·.s)) - sumL (cells'.map (·.s)) = if ok then 1 else 0 := by
  obtain ⟨g, r, c, _, _, hl⟩ := c04p_landInCell_as_landOne env cells cells' k us us' ok default h
  exact (act_landOne_total g env cells cells' _ _ (r, c) us us' ok hl).2.2

theorem c04p_soilLandCell_zero (env : DisperseEnv) (k : Nat) (cells : List Cell) (us : List Rat) :
    soilLandCell env k 0 cells us = .ok (cells, 0, us) := by
  simp only [soilLandCell]

theorem c04p_soilLandCell_succ_inv (env : DisperseEnv) (k n : Nat) (cells cells' : List Cell) (us us' : List Rat) (m : Nat)
    (h : soilLandCell env k (n + 1) cells us = .ok (cells', m, us')) :
    ∃ cells1 ok us1 m1, landInCell env cells k us = .ok (cells1, ok, us1) ∧
      soilLandCell env k n cells1 us1 = .ok (cells', m1, us') ∧ m = (if ok then 1 else 0) + m1 := by
  simp only [soilLandCell] at h
  split at h
  · cases h
  · rename_i hl
    split at h
    · cases h
    · rename_i hr
      cases h
      exact ⟨_, _, _, _, hl, hr, rfl⟩

theorem c04p_soilLandCell_facts (env : DisperseEnv) (k n : Nat) (cells cells' : List Cell) (us us' : List Rat) (m : Nat)
    (h : soilLandCell env k n cells us = .ok (cells', m, us')) :
    m ≤ n ∧ cells'.length = cells.length ∧ sumL (cells.map (·.s)) - sumL (cells'.map (·.s)) = (m : Int) ∧
    (∀ j : Nat, j ≠ k → cells'[j]? = cells[j]?) := by
  induction n generalizing cells us m with
  | zero =>
    rw [c04p_soilLandCell_zero] at h
    injection h with h; injection h with h1 h; injection h with h2 h3
    subst h1 h2
    exact ⟨Nat.le_refl _, rfl, by simp, fun _ _ => rfl⟩
  | succ n ih =>
    obtain ⟨cells1, ok, us1, m1, hl, hr, hm⟩ := c04p_soilLandCell_succ_inv env k n cells cells' us us' m h
    obtain ⟨l1, l2⟩ := c04p_landInCell_total env cells cells1 k us us1 ok hl
    obtain ⟨r1, r2, r3, r4⟩ := ih cells1 us1 m1 hr
    have hfr : ∀ j : Nat, j ≠ k → cells1[j]? = cells[j]? := by
      intro j hj
      rcases c04p_landInCell_facts env cells cells1 k us us1 ok hl with ⟨_, b2⟩ | ⟨_, _, _, b4⟩
      · rw [b2]
      · rw [b4]; exact List.getElem?_set_ne (Ne.symm hj)
    subst hm
    refine ⟨?_, by rw [r2, l1], (sub_add_sub_eq l2 r3).trans ?_, fun j hj => by rw [r4 j hj, hfr j hj]⟩
    · rw [Nat.add_comm]
      exact Nat.add_le_add r1 (by cases ok <;> decide)
    · cases ok <;> rfl

/-- Counting one establishment at `origin`; nothing is written when `origin` is outside the raster. -/
theorem c04p_count_facts (est : List Int) (origin : Nat) :
    (est.set origin (est[origin]! + 1)).length = est.length ∧
    (∀ k : Nat, k ≠ origin → (est.set origin (est[origin]! + 1))[k]? = est[k]?) ∧
    est[origin]! ≤ (est.set origin (est[origin]! + 1))[origin]! ∧
    (est.set origin (est[origin]! + 1))[origin]! ≤ est[origin]! + 1 := by
  refine ⟨List.length_set, fun k hk => List.getElem?_set_ne (Ne.symm hk), ?_⟩
  by_cases h : origin < est.length
  · rw [act_getElem!_set_self _ _ h]
    exact ⟨Int.le_add_of_nonneg_right (by decide), Int.le_refl _⟩
  · rw [List.set_eq_of_length_le (Nat.le_of_not_lt h)]
    exact ⟨Int.le_refl _, Int.le_add_of_nonneg_right (by decide)⟩

theorem c04p_disperseCell_est (g : Grid) (env : DisperseEnv) (origin n : Nat) (cells cells' : List Cell)
    (p p' : PestState) (ts ts' : List (Int × Int)) (us us' : List Rat)
    (h : disperseCell g env origin n cells p ts us = .ok (cells', p', ts', us')) :
    p'.disp = p.disp ∧ p'.est.length = p.est.length ∧ cells'.length = cells.length ∧
    (∀ k : Nat, k ≠ origin → p'.est[k]? = p.est[k]?) ∧
    p.est[origin]! ≤ p'.est[origin]! ∧ p'.est[origin]! ≤ p.est[origin]! + (n : Int) := by
  induction n generalizing cells p ts us with
  | zero =>
    rw [act_disperseCell_zero] at h
    cases h
    exact ⟨rfl, rfl, rfl, fun _ _ => rfl, Int.le_refl _, Int.le_add_of_nonneg_right (Int.natCast_nonneg _)⟩
  | succ n ih =>
    cases ts with
    | nil =>
      rw [act_disperseCell_nil] at h
      cases h
      exact ⟨rfl, rfl, rfl, fun _ _ => rfl, Int.le_refl _, Int.le_add_of_nonneg_right (Int.natCast_nonneg _)⟩
    | cons t ts1 =>
      cases hl : landOne g env cells p t us with
      | error e => rw [act_disperseCell_step_err g env origin n cells p t ts1 us e hl] at h; cases h
      | ok r =>
        obtain ⟨cells1, p1, ok, us1⟩ := r
        rw [act_disperseCell_step_ok g env origin n cells p t ts1 us cells1 p1 ok us1 hl] at h
        obtain ⟨l1, l2, l3, _⟩ := act_landOne_total g env cells cells1 p p1 t us us1 ok hl
        obtain ⟨a1, a2, a3, a4, a5, a6⟩ := ih cells1 _ ts1 us1 h
        rw [l3] at a3
        rw [Int.natCast_add, Int.natCast_one, ← Int.add_assoc]
        cases ok with
        | false =>
          simp only [Bool.false_eq_true, if_false] at a1 a2 a4 a5 a6
          rw [l1] at a1
          rw [l2] at a2 a4 a5 a6
          exact ⟨a1, a2, a3, a4, a5, Int.le_trans a6 (Int.le_add_of_nonneg_right (by decide))⟩
        | true =>
          simp only [if_true] at a1 a2 a4 a5 a6
          obtain ⟨c1, c2, c3, c4⟩ := c04p_count_facts p1.est origin
          rw [l1] at a1
          rw [l2] at a2 a4 a5 a6 c1 c2 c3 c4
          exact ⟨a1, a2.trans c1, a3, fun k hk => (a4 k hk).trans (c2 k hk), Int.le_trans c3 a5,
            Int.le_trans a6 (Int.add_right_comm _ _ _ ▸ Int.add_le_add_right c4 _)⟩

/-- The established counter of an origin outside the raster is never written. -/
theorem c04p_disperseCell_oob (g : Grid) (env : DisperseEnv) (origin n : Nat) (cells cells' : List Cell)
    (p p' : PestState) (ts ts' : List (Int × Int)) (us us' : List Rat)
    (ho : p.est.length ≤ origin)
    (h : disperseCell g env origin n cells p ts us = .ok (cells', p', ts', us')) :
    p'.est = p.est ∧ p'.disp = p.disp := by
  obtain ⟨hdisp, hlen, _, hframe, _⟩ := c04p_disperseCell_est g env origin n cells cells' p p' ts ts' us us' h
  refine ⟨List.ext_getElem? fun k => ?_, hdisp⟩
  by_cases hk : k = origin
  · subst hk
    rw [List.getElem?_eq_none (by rw [hlen]; exact ho), List.getElem?_eq_none ho]
  · exact hframe k hk

theorem c04p_disperseGoSoil_nil (g : Grid) (env : DisperseEnv) (released : List Nat) (cells : List Cell) (p : PestState)
    (ts : List (Int × Int)) (us : List Rat) :
    disperseGoSoil g env [] released cells p ts us = .ok (cells, p, ts, us, 0) := by
  simp only [disperseGoSoil]

theorem c04p_disperseGoSoil_cons_inv (g : Grid) (env : DisperseEnv) (r c : Int) (rest : List (Int × Int))
    (released : List Nat) (cells cells' : List Cell) (p p' : PestState) (ts ts' : List (Int × Int))
    (us us' : List Rat) (m : Nat)
    (h : disperseGoSoil g env ((r, c) :: rest) released cells p ts us = .ok (cells', p', ts', us', m)) :
    ∃ cells1 p1 ts1 us1 cells2 m1 us2 m2,
      disperseCell g env (g.idx r c) (p.disp[g.idx r c]!).toNat cells p ts us = .ok (cells1, p1, ts1, us1) ∧
      soilLandCell env (g.idx r c) (released.headD 0) cells1 us1 = .ok (cells2, m1, us2) ∧
      disperseGoSoil g env rest released.tail cells2 p1 ts1 us2 = .ok (cells', p', ts', us', m2) ∧
      m = m1 + m2 := by
  simp only [disperseGoSoil] at h
  split at h
  · cases h
  · rename_i hc
    split at h
    · cases h
    · rename_i hs
      split at h
      · cases h
      · rename_i hr
        cases h
        exact ⟨_, _, _, _, _, _, _, _, hc, hs, hr, rfl⟩

theorem c04p_disperseGoSoil_no_release (g : Grid) (env : DisperseEnv) (suit : List (Int × Int)) (cells : List Cell)
    (p : PestState) (ts : List (Int × Int)) (us : List Rat) :
    disperseGoSoil g env suit [] cells p ts us =
      match disperseGo g env suit cells p ts us with
      | .error e => .error e
      | .ok (cells', p', ts', us') => .ok (cells', p', ts', us', 0) := by
  induction suit generalizing cells p ts us with
  | nil => simp only [disperseGoSoil, act_disperseGo_nil]
  | cons rc rest ih =>
    obtain ⟨r, c⟩ := rc
    cases hc : disperseCell g env (g.idx r c) (p.disp[g.idx r c]!).toNat cells p ts us with
    | error e =>
      rw [act_disperseGo_step_err g env r c rest cells p ts us e hc]
      simp only [disperseGoSoil, hc]
    | ok q =>
      obtain ⟨cells1, p1, ts1, us1⟩ := q
      rw [act_disperseGo_step_ok g env r c rest cells p ts us cells1 p1 ts1 us1 hc]
      simp only [disperseGoSoil, hc, List.headD_nil, List.tail_nil, soilLandCell]
      rw [ih]
      cases disperseGo g env rest cells1 p1 ts1 us1 with
      | error e => rfl
      | ok q2 => simp only [Nat.zero_add]

theorem c04p_disperseGoSoil_facts (g : Grid) (env : DisperseEnv) (suit : List (Int × Int)) (released : List Nat)
    (cells cells' : List Cell) (p p' : PestState) (ts ts' : List (Int × Int)) (us us' : List Rat) (m : Nat)
    (h : disperseGoSoil g env suit released cells p ts us = .ok (cells', p', ts', us', m)) :
    p'.disp = p.disp ∧ p'.est.length = p.est.length ∧ cells'.length = cells.length ∧
    (∀ k : Nat, p.est[k]! ≤ p'.est[k]!) ∧
    (∀ k : Nat, k ∉ suit.map (fun rc => g.idx rc.1 rc.2) → p'.est[k]? = p.est[k]?) ∧
    ((suit.map (fun rc => g.idx rc.1 rc.2)).Nodup → ∀ k : Nat, k ∈ suit.map (fun rc => g.idx rc.1 rc.2) →
      p'.est[k]! ≤ p.est[k]! + ((p.disp[k]!).toNat : Int)) ∧
    m ≤ (released.take suit.length).sum ∧
    ((∀ rc ∈ suit, g.idx rc.1 rc.2 < p.est.length) →
      sumL (cells.map (·.s)) - sumL (cells'.map (·.s)) = sumL p'.est - sumL p.est + (m : Int)) := by
  induction suit generalizing released cells p ts us m with
  | nil =>
    rw [c04p_disperseGoSoil_nil] at h
    cases h
    exact ⟨rfl, rfl, rfl, fun _ => Int.le_refl _, fun _ _ => rfl, fun _ k hk => absurd hk List.not_mem_nil,
      Nat.zero_le _, fun _ => by rw [Int.sub_self, Int.sub_self]; rfl⟩
  | cons rc rest ih =>
    obtain ⟨r, c⟩ := rc
    obtain ⟨cells1, p1, ts1, us1, cells2, m1, us2, m2, hc, hs, hr, hm⟩ :=
      c04p_disperseGoSoil_cons_inv g env r c rest released cells cells' p p' ts ts' us us' m h
    obtain ⟨c1, c2, c3, c4, c5, c6⟩ := c04p_disperseCell_est g env _ _ cells cells1 p p1 ts ts1 us us1 hc
    obtain ⟨s1, s2, s3, _⟩ := c04p_soilLandCell_facts env _ _ cells1 cells2 us1 us2 m1 hs
    obtain ⟨a1, a2, a3, a4, a5, a6, a7, a8⟩ := ih released.tail cells2 p1 ts1 us2 m2 hr
    have hstep : ∀ k : Nat, p.est[k]! ≤ p1.est[k]! := by
      intro k
      by_cases hk : k = g.idx r c
      · subst hk; exact c5
      · rw [getElem!_congr (c4 k hk)]; exact Int.le_refl _
    refine ⟨by rw [a1, c1], by rw [a2, c2], by rw [a3, s2, c3], fun k => Int.le_trans (hstep k) (a4 k), ?_, ?_, ?_, ?_⟩
    · intro k hk
      rw [List.map_cons, List.mem_cons, not_or] at hk
      rw [a5 k hk.2, c4 k hk.1]
    · intro hnd k hk
      rw [List.map_cons, List.nodup_cons] at hnd
      by_cases hkr : k ∈ rest.map (fun rc => g.idx rc.1 rc.2)
      · have hne : k ≠ g.idx r c := fun e => hnd.1 (e ▸ hkr)
        have := a6 hnd.2 k hkr
        rw [getElem!_congr (c4 k hne), c1] at this
        exact this
      · rcases List.mem_cons.mp hk with rfl | hk
        · rw [getElem!_congr (a5 _ hkr)]
          exact c6
        · exact absurd hk hkr
    · rw [hm, List.length_cons, sum_take_succ]
      exact Nat.add_le_add s1 a7
    · intro hsz
      have ho : g.idx r c < p.est.length := hsz (r, c) List.mem_cons_self
      obtain ⟨k, _, k2, k3, _⟩ := act_disperseCell_facts g env _ _ cells cells1 p p1 ts ts1 us us1 ho hc
      have hsum : sumL p1.est = sumL p.est + (k : Int) := by
        rw [k2, sumL_set _ _ _ ho, ← Int.add_assoc, Int.sub_add_cancel]
      rw [sub_add_sub_eq (sub_add_sub_eq k3 s3) (a8 fun rc hrc => by rw [c2]; exact hsz rc (List.mem_cons_of_mem _ hrc)),
        hsum, hm, Int.natCast_add]
      omega

theorem c04p_soilNext_length (l : List Int) : (soilNext l).length = l.length := by
  cases l with
  | nil => rfl
  | cons x xs => rw [act_soilNext_cons]; simp

theorem c04p_soilRun_length (draws : List (List Int)) (cohorts : List Int)
    (hd : ∀ d ∈ draws, d.length = cohorts.length) : (soilRun draws cohorts).length = cohorts.length := by
  induction draws generalizing cohorts with
  | nil => rfl
  | cons d ds ih =>
    have hl : (soilNext (soilRelease cohorts d)).length = cohorts.length := by
      rw [c04p_soilNext_length]; exact length_subL (hd d (List.mem_cons_self ..))
    simp only [soilRun]
    rw [ih _ (fun d' hd' => by rw [hl]; exact hd d' (List.mem_cons_of_mem _ hd')), hl]

theorem c04p_soilRun_exact (draws : List (List Int)) (cohorts : List Int)
    (hd : ∀ d ∈ draws, d.length = cohorts.length) (pos : Nat) (h1 : draws.length ≤ pos) (h2 : pos < cohorts.length) :
    (soilRun draws cohorts)[pos - draws.length]! = cohorts[pos]! - releasedFrom draws pos := by
  induction draws generalizing cohorts pos with
  | nil => simp only [soilRun, releasedFrom, List.length_nil, Nat.sub_zero, Int.sub_zero]
  | cons d ds ih =>
    cases pos with
    | zero => exact absurd h1 (Nat.not_succ_le_zero _)
    | succ pos =>
      have hdl := hd d List.mem_cons_self
      have hl : (soilNext (soilRelease cohorts d)).length = cohorts.length := by
        rw [c04p_soilNext_length]; exact length_subL hdl
      -- one step: the draw is taken at position `pos + 1`, then the cohort moves to `pos`
      have hstep : (soilNext (soilRelease cohorts d))[pos]! = cohorts[pos + 1]! - d[pos + 1]! := by
        rw [act_soilNext_getElem!]
        exact getElem!_subL cohorts d (pos + 1) hdl
      rw [List.length_cons, Nat.add_sub_add_right]
      show (soilRun ds (soilNext (soilRelease cohorts d)))[pos - ds.length]! =
        cohorts[pos + 1]! - (d[pos + 1]! + releasedFrom ds pos)
      rw [ih _ (fun d' hd' => by rw [hl]; exact hd d' (List.mem_cons_of_mem _ hd')) pos (Nat.le_of_succ_le_succ h1)
        (by rw [hl]; exact Nat.lt_of_succ_lt h2), hstep, Int.sub_sub]

theorem c04p_iter_soilNext_get! (j : Nat) (cohorts : List Int) (k : Nat) (h : k + j < cohorts.length) :
    (iter soilNext j cohorts)[k]! = cohorts[k + j]! := by
  induction j generalizing cohorts with
  | zero => rfl
  | succ j ih =>
    simp only [iter]
    rw [ih (soilNext cohorts) (by rw [c04p_soilNext_length]; omega), act_soilNext_getElem!]
    rfl

end Pops
