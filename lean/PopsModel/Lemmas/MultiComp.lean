/-
  Lemmas for C16 (several hosts) on the tables (`mc_`: competency): the complete table is a
  `std::map` filled in row order, so a lookup finds the last matching row; the partial table's loop
  computes a running maximum over the eligible rows; then competency-scaled dispersers and the two
  table parsers.
-/
import PopsModel.Model.MultiPred
namespace Pops

theorem mc_fold_lookup (rows : List CompRow) (p : List Bool) (acc : Option Rat) :
    rows.foldl (fun acc r => if r.presence = p then some r.competency else acc) acc =
      ((rows.reverse.find? fun r => r.presence == p).map (·.competency)).or acc := by
  induction rows generalizing acc with
  | nil => simp
  | cons r rs ih =>
    simp only [List.foldl_cons, List.reverse_cons, List.find?_append]
    rw [ih]
    cases hf : rs.reverse.find? (fun r => r.presence == p) with
    | some x => simp
    | none =>
      by_cases hr : r.presence = p
      · simp [hr]
      · simp [hr]

theorem mc_completeLookup_spec (rows : List CompRow) (p : List Bool) :
    completeLookup rows p =
      match (rows.reverse.find? fun r => r.presence == p) with
      | some r => .ok r.competency
      | none => .error .out_of_range := by
  unfold completeLookup
  rw [mc_fold_lookup]
  cases rows.reverse.find? (fun r => r.presence == p) <;> simp

theorem mc_find_none {rows : List CompRow} {p : List Bool} (h : ∀ r ∈ rows, r.presence ≠ p) :
    rows.reverse.find? (fun r => r.presence == p) = none := by
  rw [List.find?_eq_none]
  intro x hx
  simpa using h x (by simpa using hx)

theorem mc_completeLookup_row (pre : List CompRow) {post : List CompRow} {r : CompRow}
    (hlast : ∀ r' ∈ post, r'.presence ≠ r.presence) :
    completeLookup (pre ++ r :: post) r.presence = .ok r.competency := by
  rw [mc_completeLookup_spec]
  have : (pre ++ r :: post).reverse = post.reverse ++ (r :: pre.reverse) := by simp
  rw [this, List.find?_append, mc_find_none hlast]
  simp

theorem mc_completeLookup_missing {rows : List CompRow} {p : List Bool} (h : ∀ r ∈ rows, r.presence ≠ p) :
    completeLookup rows p = .error .out_of_range := by
  rw [mc_completeLookup_spec, mc_find_none h]

theorem mc_max_cases (a y : Rat) : (a ≤ y ∧ max a y = y) ∨ (y ≤ a ∧ max a y = a) := by
  by_cases h : a ≤ y
  · exact .inl ⟨h, if_pos h⟩
  · exact .inr ⟨Rat.le_total.resolve_left h, if_neg h⟩

theorem mc_max_eq_left {a b : Rat} (h : b ≤ a) : max a b = a := by
  rcases mc_max_cases a b with ⟨h', e⟩ | ⟨_, e⟩
  · rw [e]; exact Rat.le_antisymm h h'
  · exact e

theorem mc_max_eq_right {a b : Rat} (h : ¬ b ≤ a) : max a b = b :=
  if_pos (Rat.le_of_lt (Rat.not_le.mp h))

theorem mc_step_fit {presence : List Bool} {h : Nat} (acc : Rat) {r : CompRow}
    (hf : r.presence.getD h false = true → r.presence.length = presence.length) :
    findCompetencyStep presence h acc r =
      .ok (if rowEligible presence h r then max acc r.competency else acc) := by
  unfold findCompetencyStep rowEligible
  by_cases hc : r.presence.getD h false = true
  · have hlen := hf hc
    have hne : ¬ presence.length ≠ r.presence.length := by omega
    simp only [hc, Bool.true_eq_false, if_false, hne, Bool.true_and]
    by_cases hle : r.competency ≤ acc
    · simp only [hle, if_true]
      have : max acc r.competency = acc := mc_max_eq_left hle
      cases requiredPresent r.presence presence <;> simp [this]
    · simp only [hle, if_false]
      have : max acc r.competency = r.competency := mc_max_eq_right hle
      cases requiredPresent r.presence presence <;> simp [this]
  · simp only [Bool.eq_false_iff.mpr hc, if_true, Bool.false_and, Bool.false_eq_true, if_false]

theorem mc_step_unfit {presence : List Bool} {h : Nat} (acc : Rat) {r : CompRow}
    (hc : r.presence.getD h false = true) (hlen : r.presence.length ≠ presence.length) :
    findCompetencyStep presence h acc r = .error .invalid_argument := by
  unfold findCompetencyStep
  have hne : presence.length ≠ r.presence.length := by omega
  simp only [hc, Bool.true_eq_false, if_false]
  rw [if_pos hne]

theorem mc_from_fit (presence : List Bool) (h : Nat) (acc : Rat) (rows : List CompRow)
    (hf : ∀ r ∈ rows, r.presence.getD h false = true → r.presence.length = presence.length) :
    findCompetencyFrom presence h acc rows =
      .ok (((rows.filter (rowEligible presence h)).map (·.competency)).foldl max acc) := by
  induction rows generalizing acc with
  | nil => simp [findCompetencyFrom]
  | cons r rs ih =>
    simp only [findCompetencyFrom]
    rw [mc_step_fit acc (hf r (by simp))]
    simp only
    rw [ih _ (fun r' hr' => hf r' (by simp [hr']))]
    by_cases he : rowEligible presence h r = true
    · simp [he]
    · simp [he]

theorem mc_from_unfit (presence : List Bool) (h : Nat) (acc : Rat) (rows : List CompRow)
    (hu : ∃ r ∈ rows, r.presence.getD h false = true ∧ r.presence.length ≠ presence.length) :
    findCompetencyFrom presence h acc rows = .error .invalid_argument := by
  induction rows generalizing acc with
  | nil => obtain ⟨r, hr, _⟩ := hu; simp at hr
  | cons r rs ih =>
    simp only [findCompetencyFrom]
    by_cases hfit : r.presence.getD h false = true → r.presence.length = presence.length
    · rw [mc_step_fit acc hfit]
      simp only
      apply ih
      obtain ⟨r', hr', h1, h2⟩ := hu
      simp only [List.mem_cons] at hr'
      rcases hr' with rfl | hr'
      · exact absurd (hfit h1) h2
      · exact ⟨r', hr', h1, h2⟩
    · obtain ⟨hc, hl⟩ := Decidable.not_imp_iff_and_not.mp hfit
      rw [mc_step_unfit acc hc hl]

theorem mc_foldmax (l : List Rat) (a : Rat) :
    a ≤ l.foldl max a ∧ (∀ x ∈ l, x ≤ l.foldl max a) ∧ (l.foldl max a = a ∨ l.foldl max a ∈ l) := by
  induction l generalizing a with
  | nil => simp
  | cons y ys ih =>
    obtain ⟨h1, h2, h3⟩ := ih (max a y)
    simp only [List.foldl_cons, List.mem_cons]
    rcases mc_max_cases a y with ⟨hle, hm⟩ | ⟨hle, hm⟩ <;> rw [hm] at h1 h2 h3 ⊢
    · refine ⟨Rat.le_trans hle h1, ?_, .inr h3⟩
      rintro x (rfl | hx)
      · exact h1
      · exact h2 x hx
    · refine ⟨h1, ?_, h3.imp id .inr⟩
      rintro x (rfl | hx)
      · exact Rat.le_trans hle h1
      · exact h2 x hx

theorem mc_rowsFit_iff (rows : List CompRow) (presence : List Bool) (h : Nat) :
    rowsFit rows presence h = true ↔
      ∀ r ∈ rows, r.presence.getD h false = true → r.presence.length = presence.length := by
  unfold rowsFit
  simp only [List.all_eq_true, Bool.or_eq_true, Bool.not_eq_true', beq_iff_eq]
  constructor
  · intro hh r hr hc
    rcases hh r hr with h1 | h1
    · rw [h1] at hc; cases hc
    · exact h1
  · intro hh r hr
    by_cases hc : r.presence.getD h false = true
    · exact .inr (hh r hr hc)
    · left; simpa using hc

theorem mc_maxEligible_spec (rows : List CompRow) (presence : List Bool) (h : Nat) :
    0 ≤ maxEligible rows presence h ∧
    (∀ r ∈ rows, rowEligible presence h r = true → r.competency ≤ maxEligible rows presence h) ∧
    (maxEligible rows presence h = 0 ∨
      ∃ r ∈ rows, rowEligible presence h r = true ∧ r.competency = maxEligible rows presence h) := by
  unfold maxEligible
  obtain ⟨h1, h2, h3⟩ := mc_foldmax ((rows.filter (rowEligible presence h)).map (·.competency)) 0
  refine ⟨h1, fun r hr he => h2 _ (List.mem_map.mpr ⟨r, List.mem_filter.mpr ⟨hr, he⟩, rfl⟩), h3.imp id fun hm => ?_⟩
  obtain ⟨r, hr, hv⟩ := List.mem_map.mp hm
  exact ⟨r, (List.mem_filter.mp hr).1, (List.mem_filter.mp hr).2, hv⟩

theorem mc_isMaxEligible (rows : List CompRow) (presence : List Bool) (h : Nat) :
    isMaxEligible rows presence h (maxEligible rows presence h) = true := by
  obtain ⟨h0, hub, hatt⟩ := mc_maxEligible_spec rows presence h
  unfold isMaxEligible
  simp only [Bool.and_eq_true, decide_eq_true_eq, List.all_eq_true, Bool.or_eq_true, Bool.not_eq_true',
    List.any_eq_true]
  refine ⟨⟨h0, fun r hr => ?_⟩, hatt⟩
  cases he : rowEligible presence h r with
  | false => exact .inl rfl
  | true => exact .inr (hub r hr he)

theorem mc_competencyAt_spec (t : CompetencyTable) (presence : List Bool) (h : Nat) :
    competencySpec t presence h =
      match t.competencyAt presence h with
      | .ok k => some k
      | .error _ => none := by
  cases t with
  | complete rows =>
    simp only [competencySpec, CompetencyTable.competencyAt]
    rw [mc_completeLookup_spec]
    cases rows.reverse.find? (fun r => r.presence == presence) <;> rfl
  | part rows =>
    simp only [competencySpec, CompetencyTable.competencyAt, findCompetency]
    by_cases hf : rowsFit rows presence h = true
    · rw [mc_from_fit presence h 0 rows ((mc_rowsFit_iff rows presence h).1 hf)]
      simp only [hf, if_true]; rfl
    · have hu : ∃ r ∈ rows, r.presence.getD h false = true ∧ r.presence.length ≠ presence.length := by
        refine Classical.byContradiction fun hn => hf ((mc_rowsFit_iff rows presence h).2 fun r hr hc => ?_)
        exact Decidable.byContradiction fun hl => hn ⟨r, hr, hc, hl⟩
      rw [mc_from_unfit presence h 0 rows hu]
      simp [hf]

theorem mc_hostDispersers_spec (env : MEnv) (presence : List Bool) (h : Nat) (p : HostParams) (c : Cell) :
    hostDispersersSpec env presence h p c =
      match hostDispersersFrom env presence h p c with
      | .ok v => some v
      | .error _ => none := by
  unfold hostDispersersSpec hostDispersersFrom
  by_cases hi : c.i ≤ 0
  · simp only [hi, if_true]
  · simp only [hi, if_false]
    cases hc : env.comp with
    | none => simp only [bind, Except.bind, pure, Except.pure, Cell.dispersersFromDet, hi, if_false]
    | some t =>
      simp only [bind, Except.bind, pure, Except.pure]
      rw [mc_competencyAt_spec]
      cases t.competencyAt presence h with
      | error x => rfl
      | ok k => simp only [Option.map, Cell.dispersersFromDet, hi, if_false]

theorem mc_dispersersLoop_spec (env : MEnv) (presence : List Bool) (k : Nat) (ps : List HostParams) (cells : List Cell) :
    dispersersSpecFrom env presence k ps cells =
      match dispersersFromLoop env presence k ps cells with
      | .ok v => some v
      | .error _ => none := by
  induction ps generalizing k cells with
  | nil => simp [dispersersSpecFrom, dispersersFromLoop]
  | cons p ps ih =>
    cases cells with
    | nil => simp [dispersersSpecFrom, dispersersFromLoop]
    | cons c rest =>
      simp only [dispersersSpecFrom, dispersersFromLoop, bind, Except.bind, Option.bind]
      rw [mc_hostDispersers_spec, ih]
      cases hostDispersersFrom env presence k p c with
      | error x => rfl
      | ok a =>
        cases dispersersFromLoop env presence (k + 1) ps rest with
        | error x => rfl
        | ok b => rfl

/-- A row `Config::read_pest_host_table` accepts: three values, susceptibility in [0, 1]. -/
def phtRowOK (row : List Rat) : Bool :=
  decide (3 ≤ row.length) && decide (0 ≤ row.getD 0 0) && decide (row.getD 0 0 ≤ 1)

theorem mc_readPht (values : List (List Rat)) :
    ((readPestHostTable values).2 = none ↔ values.all phtRowOK = true) ∧
    (∀ e, (readPestHostTable values).2 = some e → e = .invalid_argument) := by
  induction values with
  | nil => simp [readPestHostTable]
  | cons row rest ih =>
    obtain ⟨i1, i2⟩ := ih
    match row with
    | [] | [_] | [_, _] =>
      -- fewer than three values: rejected by the parser (`rfl`) and by `phtRowOK` (`rfl`)
      exact ⟨⟨nofun, fun h => Bool.noConfusion ((Bool.and_eq_true _ _).mp h).1⟩,
        fun e he => (Option.some.inj he).symm⟩
    | a :: b :: c :: tl =>
      simp only [readPestHostTable]
      by_cases hbad : a < 0 ∨ a > 1
      · simp only [hbad, if_true]
        refine ⟨⟨nofun, fun h => ?_⟩, by simp⟩
        simp only [List.all_cons, phtRowOK, List.getD_cons_zero, Bool.and_eq_true, decide_eq_true_eq] at h
        rcases hbad with hb | hb
        · exact absurd h.1.1.2 (Rat.not_le.mpr hb)
        · exact absurd h.1.2 (Rat.not_le.mpr hb)
      · simp only [hbad, if_false]
        have h0 : 0 ≤ a := Rat.not_lt.mp fun h => hbad (.inl h)
        have h1 : a ≤ 1 := Rat.not_lt.mp fun h => hbad (.inr h)
        refine ⟨?_, i2⟩
        rw [i1]
        simp [phtRowOK, h0, h1]

theorem mc_readCompRows_tail (n : Nat) (values : List (List Rat)) :
    ((readCompetencyRows (some n) values).2 = none ↔ (∀ row ∈ values, 2 ≤ row.length ∧ row.length = n)) ∧
    (∀ e, (readCompetencyRows (some n) values).2 = some e → e = .invalid_argument) := by
  induction values generalizing n with
  | nil => simp [readCompetencyRows]
  | cons row rest ih =>
    simp only [readCompetencyRows]
    by_cases hm : row.length = n
    · subst hm
      obtain ⟨i1, i2⟩ := ih row.length
      by_cases h2 : row.length < 2
      · simp only [ne_eq, not_true_eq_false, decide_false, Bool.false_eq_true, if_false, h2, if_true]
        exact ⟨⟨nofun, fun h => absurd (h row (by simp)).1 (by omega)⟩, by simp⟩
      · simp only [ne_eq, not_true_eq_false, decide_false, Bool.false_eq_true, if_false, h2]
        refine ⟨?_, i2⟩
        rw [i1]
        simp only [List.mem_cons, forall_eq_or_imp]
        exact ⟨fun h => ⟨⟨by omega, trivial⟩, h⟩, fun h => h.2⟩
    · have : decide (row.length ≠ n) = true := by simpa using hm
      simp only [this, if_true]
      exact ⟨⟨nofun, fun h => absurd (h row (by simp)).2 hm⟩, by simp⟩

theorem mc_readCompRows_none (row : List Rat) (rest : List (List Rat)) :
    readCompetencyRows none (row :: rest) = readCompetencyRows (some row.length) (row :: rest) := by
  simp only [readCompetencyRows, ne_eq, not_true_eq_false, decide_false]

theorem mc_readComp (values : List (List Rat)) :
    ((readCompetencyTable values).2 = none ↔
      (∀ row ∈ values, 2 ≤ row.length ∧ row.length = (values.headD []).length)) ∧
    (∀ e, (readCompetencyTable values).2 = some e → e = .invalid_argument) := by
  unfold readCompetencyTable
  cases values with
  | nil => simp [readCompetencyRows]
  | cons row rest =>
    rw [mc_readCompRows_none]
    exact mc_readCompRows_tail row.length (row :: rest)

end Pops
