/-
  Helper lemmas for Props/C05Guard.lean (`guard_`: on the domain where the C++ `step_forward` is
  defined): `addLast` on a non-empty list, written with `dropLast` / `getLast!`.
-/
import PopsModel.Lemmas.HostMortality
namespace Pops

/-- On a non-empty list `v.back() += k` changes exactly the last element. -/
theorem guard_addLast_eq (l : List Int) (k : Int) (h : l ≠ []) :
    addLast l k = l.dropLast ++ [l.getLast! + k] := by
  obtain ⟨xs, x, rfl⟩ := (List.eq_nil_or_concat l).resolve_left h
  rw [List.concat_eq_append, addLast_concat, List.dropLast_concat,
    List.getLast!_eq_getLast?_getD, List.getLast?_concat]
  rfl

/-- The mortality cohorts after one latency step, on the C++ domain (`mort ≠ []`). -/
theorem guard_stepForward_mort (latency step : Nat) (c : Cell) (hm : c.mort ≠ []) :
    (c.stepForward .sei latency step).mort =
      if step ≥ latency then c.mort.dropLast ++ [c.mort.getLast! + c.e.headD 0] else c.mort := by
  unfold Cell.stepForward
  by_cases hs : step ≥ latency
  · simp only [hs, if_true]
    cases he : c.e with
    | nil =>
      have h := guard_addLast_eq c.mort 0 hm
      rw [addLast_zero] at h
      simpa only [List.headD_nil] using h
    | cons o rest =>
      simp only [List.headD_cons]
      exact guard_addLast_eq c.mort o hm
  · simp only [hs, if_false]

/-- `i = sum mort` is preserved by the latency step on the C++ domain. On an empty tracker the
    model would add the matured hosts to `i` only (the hypothesis `hm` is needed). -/
theorem guard_stepForward_mortOK (latency step : Nat) (c : Cell) (hm : c.mort ≠ [])
    (hok : c.mortOK = true) : (c.stepForward .sei latency step).mortOK = true := by
  have hok' := (mortOK_iff c).mp hok
  rw [mortOK_iff]
  unfold Cell.stepForward
  by_cases hs : step ≥ latency
  · simp only [hs, if_true]
    cases he : c.e with
    | nil => exact hok'
    | cons o rest =>
      show c.i + o = sumL (addLast c.mort o)
      rw [sumL_addLast _ hm, hok']
  · simp only [hs, if_false]; exact hok'

end Pops
