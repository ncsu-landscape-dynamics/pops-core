/-
  Facts about `rfloor`, `rceil`, `lround` on exact rationals: values on integers, sign, monotonicity,
  symmetry and precision of `lround`, and the bounds of a share `c * r` with `r` in [0,1].
-/
import PopsModel.Model.Basic
namespace Pops

theorem intCast_nonneg {n : Int} (h : 0 ≤ n) : (0 : Rat) ≤ (n : Rat) := Rat.intCast_nonneg.mpr h

theorem rfloor_nonneg {q : Rat} (h : 0 ≤ q) : 0 ≤ rfloor q := by
  unfold rfloor; exact Rat.le_floor_iff.mpr (by simpa using h)

theorem rceil_nonneg {q : Rat} (h : 0 ≤ q) : 0 ≤ rceil q := by
  unfold rceil
  rw [Rat.ceil_eq_neg_floor_neg]
  have h1 : (-q).floor < 1 := Rat.floor_lt_iff.mpr (by grind)
  omega

theorem rceil_le_of_le {q : Rat} {n : Int} (h : q ≤ (n : Rat)) : rceil q ≤ n := by
  unfold rceil; exact Rat.ceil_le_iff.mpr h

theorem rceil_mono {a b : Rat} (h : a ≤ b) : rceil a ≤ rceil b := by
  unfold rceil
  exact Rat.ceil_le_iff.mpr (Rat.le_trans h Rat.le_ceil)

theorem rfloor_mono {a b : Rat} (h : a ≤ b) : rfloor a ≤ rfloor b := by
  unfold rfloor; exact Rat.floor_monotone h

theorem rceil_int (n : Int) : rceil (n : Rat) = n := by unfold rceil; exact Rat.ceil_intCast n
theorem rfloor_int (n : Int) : rfloor (n : Rat) = n := by unfold rfloor; exact Rat.floor_intCast n
theorem rfloor_le_of_le {q : Rat} {n : Int} (h : q ≤ (n : Rat)) : rfloor q ≤ n :=
  rfloor_int n ▸ rfloor_mono h
theorem rceil_zero : rceil (0 : Rat) = 0 := rceil_int 0
theorem rfloor_zero : rfloor (0 : Rat) = 0 := rfloor_int 0

theorem lround_of_nonneg {q : Rat} (h : 0 ≤ q) : lround q = (q + 1/2).floor := if_pos h

theorem lround_nonneg {q : Rat} (h : 0 ≤ q) : 0 ≤ lround q := by
  rw [lround_of_nonneg h]
  exact Rat.le_floor_iff.mpr (Rat.add_nonneg h (by decide +kernel))

theorem lround_le_of_le {q : Rat} {n : Int} (h0 : 0 ≤ q) (h : q ≤ (n : Rat)) : lround q ≤ n := by
  rw [lround_of_nonneg h0]
  have h1 : (q + 1/2).floor < n + 1 := Rat.floor_lt_iff.mpr (by grind)
  omega

theorem lround_int (n : Int) (h : 0 ≤ n) : lround (n : Rat) = n := by
  have h0 : (0 : Rat) ≤ (n : Rat) := intCast_nonneg h
  have a := lround_le_of_le h0 (Rat.le_refl (a := (n : Rat)))
  rw [lround_of_nonneg h0] at a ⊢
  have : n ≤ ((n : Rat) + 1/2).floor := Rat.le_floor_iff.mpr (by grind)
  omega

theorem lround_zero : lround 0 = 0 := lround_int 0 (Int.le_refl 0)

/-- `lround` is odd: rounding is symmetric about zero (halves away from zero on both sides). -/
theorem lround_neg (q : Rat) : lround (-q) = -lround q := by
  by_cases hq : q = 0
  · subst hq; rw [Rat.neg_zero, lround_zero]; rfl
  unfold lround
  by_cases h1 : 0 ≤ q <;> by_cases h2 : 0 ≤ -q
  · exfalso; apply hq; grind
  · rw [if_pos h1, if_neg h2, Rat.neg_neg]
  · rw [if_neg h1, if_pos h2]; omega
  · exfalso; grind

theorem lround_intCast (m : Int) : lround (m : Rat) = m := by
  by_cases h : 0 ≤ m
  · exact lround_int m h
  · have := lround_int (-m) (by omega)
    rw [Rat.intCast_neg, lround_neg] at this; omega

theorem lround_close (q : Rat) : (lround q : Rat) - q ≤ 1 / 2 ∧ q - (lround q : Rat) ≤ 1 / 2 := by
  unfold lround
  by_cases h : 0 ≤ q
  · rw [if_pos h]
    have h1 := Rat.floor_le (q + 1 / 2)
    have h2 := Rat.lt_floor_add_one (q + 1 / 2)
    rw [Rat.intCast_add] at h2; simp only [Rat.intCast_one] at h2
    constructor <;> grind
  · rw [if_neg h]
    have h1 := Rat.floor_le (-q + 1 / 2)
    have h2 := Rat.lt_floor_add_one (-q + 1 / 2)
    rw [Rat.intCast_add] at h2; simp only [Rat.intCast_one] at h2
    rw [Rat.intCast_neg]
    constructor <;> grind

theorem lround_nonpos {q : Rat} (h : q ≤ 0) : lround q ≤ 0 := by
  have := lround_nonneg (q := -q) (by grind)
  rw [lround_neg] at this; omega

theorem rceil_eq_one {q : Rat} (h0 : 0 < q) (h1 : q ≤ 1) : rceil q = 1 := by
  unfold rceil
  have a : q.ceil ≤ 1 := Rat.ceil_le_iff.mpr (by simpa using h1)
  have b : ¬ q.ceil ≤ 0 := fun h => by
    have := Rat.ceil_le_iff.mp h
    simp at this
    grind
  omega

theorem share_bounds {c : Int} {r : Rat} (hc : 0 ≤ c) (h0 : 0 ≤ r) (h1 : r ≤ 1) :
    0 ≤ (c : Rat) * r ∧ (c : Rat) * r ≤ (c : Rat) := by
  have hc' : (0 : Rat) ≤ (c : Rat) := intCast_nonneg hc
  refine ⟨Rat.mul_nonneg hc' h0, ?_⟩
  have := Rat.mul_le_mul_of_nonneg_left h1 hc'
  grind

theorem rceil_share {c : Int} {r : Rat} (hc : 0 ≤ c) (h0 : 0 ≤ r) (h1 : r ≤ 1) :
    0 ≤ rceil ((c : Rat) * r) ∧ rceil ((c : Rat) * r) ≤ c := by
  obtain ⟨a, b⟩ := share_bounds hc h0 h1
  exact ⟨rceil_nonneg a, rceil_le_of_le b⟩

theorem rfloor_share {c : Int} {r : Rat} (hc : 0 ≤ c) (h0 : 0 ≤ r) (h1 : r ≤ 1) :
    0 ≤ rfloor ((c : Rat) * r) ∧ rfloor ((c : Rat) * r) ≤ c := by
  obtain ⟨a, b⟩ := share_bounds hc h0 h1
  exact ⟨rfloor_nonneg a, rfloor_le_of_le b⟩

theorem lround_share {c : Int} {r : Rat} (hc : 0 ≤ c) (h0 : 0 ≤ r) (h1 : r ≤ 1) :
    0 ≤ lround ((c : Rat) * r) ∧ lround ((c : Rat) * r) ≤ c := by
  obtain ⟨a, b⟩ := share_bounds hc h0 h1
  exact ⟨lround_nonneg a, lround_le_of_le a b⟩

/-- What the shares need of the rounding (`rceil` for removal, `rfloor` for the pesticide): it fixes
    the integers and keeps a share of a count within the count. -/
structure mech_Rounds (rnd : Rat → Int) : Prop where
  int : ∀ n : Int, rnd (n : Rat) = n
  share : ∀ {c : Int} {r : Rat}, 0 ≤ c → 0 ≤ r → r ≤ 1 → 0 ≤ rnd ((c : Rat) * r) ∧ rnd ((c : Rat) * r) ≤ c

theorem mech_rounds_ceil : mech_Rounds rceil := ⟨rceil_int, rceil_share⟩
theorem mech_rounds_floor : mech_Rounds rfloor := ⟨rfloor_int, rfloor_share⟩

theorem mech_Rounds.zero {rnd : Rat → Int} (h : mech_Rounds rnd) : rnd 0 = 0 := by
  have := h.int 0; simpa using this

theorem share_zero (c : Int) : (c : Rat) * 0 = 0 := Rat.mul_zero _
theorem share_one (c : Int) : (c : Rat) * 1 = (c : Rat) := Rat.mul_one _

end Pops
