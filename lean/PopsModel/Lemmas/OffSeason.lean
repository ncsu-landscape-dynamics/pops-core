/-
  Helper lemmas for C05 "off-season frame": in a model step that is not a spread step, every
  exposed cohort of every cell can only shrink, the cohort vector keeps its length and infected
  does not grow.
-/
import PopsModel.Model.RunStep
import PopsModel.Lemmas.HostHistory
import PopsModel.Lemmas.Actions
namespace Pops

/-- `Pw R a b`: `a` and `b` have the same length and `R a[k] b[k]` at every position. -/
inductive Pw {α : Type} (R : α → α → Prop) : List α → List α → Prop where
  | nil : Pw R [] []
  | cons {x y : α} {xs ys : List α} : R x y → Pw R xs ys → Pw R (x :: xs) (y :: ys)

theorem Pw.refl {α : Type} {R : α → α → Prop} (hr : ∀ x, R x x) : ∀ l : List α, Pw R l l
  | [] => Pw.nil
  | x :: xs => Pw.cons (hr x) (Pw.refl hr xs)

theorem Pw.trans {α : Type} {R : α → α → Prop} (ht : ∀ x y z, R x y → R y z → R x z)
    {a b c : List α} (h1 : Pw R a b) (h2 : Pw R b c) : Pw R a c := by
  induction h1 generalizing c with
  | nil => cases h2; exact Pw.nil
  | cons hxy _ ih =>
    cases h2 with
    | cons hyz h2' => exact Pw.cons (ht _ _ _ hxy hyz) (ih h2')

theorem Pw.length_eq {α : Type} {R : α → α → Prop} {a b : List α} (h : Pw R a b) :
    b.length = a.length := by
  induction h with
  | nil => rfl
  | cons _ _ ih => simp [ih]

theorem Pw.set {α : Type} {R : α → α → Prop} (hr : ∀ x, R x x) {l : List α} {k : Nat} {c c' : α}
    (hk : l[k]? = some c) (hc : R c c') : Pw R l (l.set k c') := by
  induction l generalizing k with
  | nil => simp at hk
  | cons x xs ih =>
    cases k with
    | zero =>
      simp only [List.getElem?_cons_zero, Option.some.injEq] at hk; subst hk
      simp only [List.set_cons_zero]
      exact Pw.cons hc (Pw.refl hr xs)
    | succ k =>
      simp only [List.getElem?_cons_succ] at hk
      simp only [List.set_cons_succ]
      exact Pw.cons (hr x) (ih hk)

/-- The executable form used by `exposedFrozen` and `offSeasonFrame`. -/
theorem pw_iff_bool {α : Type} (R : α → α → Prop) (r : α → α → Bool)
    (hr : ∀ x y, r x y = true ↔ R x y) (a b : List α) :
    (decide (b.length = a.length) && (List.zip a b).all (fun p => r p.1 p.2)) = true ↔ Pw R a b := by
  induction a generalizing b with
  | nil =>
    cases b with
    | nil => simp only [List.length_nil, decide_true, List.zip_nil_left, List.all_nil, Bool.and_self,
        true_iff]; exact Pw.nil
    | cons y ys =>
      constructor
      · intro h; simp at h
      · intro h; cases h
  | cons x xs ih =>
    cases b with
    | nil =>
      constructor
      · intro h; simp at h
      · intro h; cases h
    | cons y ys =>
      have := ih ys
      simp only [Bool.and_eq_true, decide_eq_true_eq] at this
      simp only [List.length_cons, List.zip_cons_cons, List.all_cons, Bool.and_eq_true,
        decide_eq_true_eq, Nat.add_right_cancel_iff]
      constructor
      · intro ⟨h1, h2, h3⟩
        exact Pw.cons ((hr x y).mp h2) (this.mp ⟨h1, h3⟩)
      · intro h
        cases h with
        | cons hxy h' =>
          obtain ⟨a1, a2⟩ := this.mpr h'
          exact ⟨a1, (hr x y).mpr hxy, a2⟩

/-- No cohort grows (pointwise, same length). -/
abbrev Shrinks (a b : List Int) : Prop := Pw (fun x y : Int => y ≤ x) a b

theorem Shrinks.refl (a : List Int) : Shrinks a a :=
  Pw.refl (R := fun x y : Int => y ≤ x) (fun x => Int.le_refl x) a

theorem Shrinks.trans {a b c : List Int} (h1 : Shrinks a b) (h2 : Shrinks b c) : Shrinks a c :=
  Pw.trans (R := fun x y : Int => y ≤ x) (fun _ _ _ hxy hyz => Int.le_trans hyz hxy) h1 h2

theorem Dom.shrinks {a d : List Int} (h : Dom a d) : Shrinks a (subL a d) := by
  induction h with
  | nil => exact Pw.nil
  | cons hxy _ ih =>
    simp only [subL, List.zipWith_cons_cons] at *
    exact Pw.cons (by omega) ih

/-- Exposed cohorts frozen: none grows, the vector keeps its length, infected does not grow. -/
structure Frozen (c c' : Cell) : Prop where
  e : Shrinks c.e c'.e
  i : c'.i ≤ c.i

theorem Frozen.refl (c : Cell) : Frozen c c := ⟨Shrinks.refl _, Int.le_refl _⟩

theorem Frozen.trans {a b c : Cell} (h1 : Frozen a b) (h2 : Frozen b c) : Frozen a c :=
  ⟨h1.e.trans h2.e, Int.le_trans h2.i h1.i⟩

theorem Frozen.of_eq {c c' : Cell} (he : c'.e = c.e) (hi : c'.i ≤ c.i) : Frozen c c' :=
  ⟨by rw [he]; exact Shrinks.refl _, hi⟩

theorem exposedFrozen_iff (c c' : Cell) : exposedFrozen c c' = true ↔ Frozen c c' := by
  have h := pw_iff_bool (fun x y : Int => y ≤ x) (fun x y => decide (y ≤ x))
    (fun x y => by simp only [decide_eq_true_eq]) c.e c'.e
  unfold exposedFrozen
  rw [Bool.and_eq_true, h, decide_eq_true_eq]
  exact ⟨fun ⟨a, b⟩ => ⟨a, b⟩, fun ⟨a, b⟩ => ⟨a, b⟩⟩

theorem exposedFrozen_refl (c : Cell) : exposedFrozen c c = true :=
  (exposedFrozen_iff c c).mpr (Frozen.refl c)

theorem exposedFrozen_trans {a b c : Cell} (h1 : exposedFrozen a b = true)
    (h2 : exposedFrozen b c = true) : exposedFrozen a c = true :=
  (exposedFrozen_iff a c).mpr (((exposedFrozen_iff a b).mp h1).trans ((exposedFrozen_iff b c).mp h2))

/-- Landscapes: the Prop form of `offSeasonFrame`. -/
abbrev FrozenL (l l' : Land) : Prop := Pw Frozen l l'

theorem offSeasonFrame_iff (l l' : Land) : offSeasonFrame l l' = true ↔ FrozenL l l' :=
  pw_iff_bool Frozen exposedFrozen exposedFrozen_iff l l'

theorem FrozenL.refl (l : Land) : FrozenL l l := Pw.refl Frozen.refl l

theorem FrozenL.trans {a b c : Land} (h1 : FrozenL a b) (h2 : FrozenL b c) : FrozenL a c :=
  Pw.trans (R := Frozen) (fun _ _ _ h1 h2 => Frozen.trans h1 h2) h1 h2

/-- Operations generated by lethal temperature, survival rate, treatments and mortality. -/
def CellOp.offSeason : CellOp → Bool
  | .simpleTreat _ _ => true
  | .pesticideTreat _ _ => true
  | .pesticideEnd _ => true
  | .survival _ _ _ => true
  | .lethal _ => true
  | .mortality _ _ => true
  | _ => false

def LandOp.offSeason : LandOp → Bool
  | .at _ op => op.offSeason
  | .move _ _ _ _ _ _ => false

/-- Actions whose generators only produce such operations. -/
def ActionKind.offSeason : ActionKind → Bool
  | .spread => false
  | .stepForward => false
  | .overpopulation => false
  | .movement => false
  | _ => true

theorem removeInfected_frozen (c : Cell) (count : Int) (draw : List Int) (hc : 0 ≤ count) :
    Frozen c (c.removeInfected count draw) := by
  unfold Cell.removeInfected
  exact Frozen.of_eq rfl (by carith)

theorem removeExposed_frozen (c : Cell) (count : Int) (draw : List Int)
    (hv : count > 0 → Dom c.e draw) : Frozen c (c.removeExposed count draw) := by
  unfold Cell.removeExposed
  refine ⟨?_, Int.le_refl _⟩
  dsimp only
  split
  · rename_i hp; exact (hv hp).shrinks
  · exact Shrinks.refl _

/-- What a successful `completelyRemove` leaves of the classes a removal treatment touches: the
    susceptible amount is taken only when positive, the infected amount only when positive (the two
    guards of `completely_remove_hosts_at`), the exposed amounts always. -/
theorem completelyRemove_ok {c c' : Cell} {sR iR : Int} {eR mR : List Int}
    (h : c.completelyRemove sR eR iR mR = .ok c') :
    eR.length = c.e.length ∧ c'.s = c.s - (if sR > 0 then sR else 0) ∧ c'.e = subL c.e eR ∧
    c'.i = c.i - (if iR ≤ 0 then 0 else iR) ∧ c'.r = c.r := by
  obtain ⟨hl, rfl⟩ := completelyRemove_inv h
  by_cases hi : iR ≤ 0
  · rw [if_pos hi, if_pos hi]; exact ⟨hl, rfl, rfl, (Int.sub_zero _).symm, rfl⟩
  · rw [if_neg hi, if_neg hi]; exact ⟨hl, rfl, rfl, rfl, rfl⟩

theorem completelyRemove_frozen {c c' : Cell} {sR iR : Int} {eR mR : List Int} (hE : Dom c.e eR)
    (h : c.completelyRemove sR eR iR mR = .ok c') : Frozen c c' := by
  obtain ⟨_, _, he, hi, _⟩ := completelyRemove_ok h
  refine ⟨by rw [he]; exact hE.shrinks, ?_⟩
  rw [hi]
  apply Int.sub_le_self
  split
  · exact Int.le_refl 0
  · exact Int.le_of_lt (Int.not_le.mp ‹_›)

theorem makeResistant_frozen {c c' : Cell} {sR iR : Int} {eR mR : List Int} (hE : Dom c.e eR)
    (hI : 0 ≤ iR) (h : c.makeResistant sR eR iR mR = .ok c') : Frozen c c' := by
  obtain rfl := makeResistant_eq h
  exact ⟨hE.shrinks, Int.sub_le_self _ hI⟩

theorem cellOp_frozen (op : CellOp) (c c' : Cell) (hop : op.offSeason = true) (hd : op.inDomain c)
    (hn : c.nonNeg = true) (h : op.apply c = .ok c') : Frozen c c' := by
  have nn := (nonNeg_iff c).mp hn
  cases op with
  | add mt => cases hop
  | dispTo mt env sto pEst u => cases hop
  | pestsFrom k => cases hop
  | pestsTo k => cases hop
  | stepForward mt l s => cases hop
  | simpleTreat coef app =>
    exact completelyRemove_frozen (dom_map nn.e (rceil_treated hd.1 hd.2 app)) h
  | pesticideTreat coef app =>
    exact makeResistant_frozen (dom_map nn.e (rfloor_treated hd.1 hd.2 app))
      (rfloor_treated hd.1 hd.2 app c.i nn.i).1 h
  | pesticideEnd coef =>
    cases h
    unfold Cell.pesticideEnd
    split
    · exact Frozen.of_eq rfl (Int.le_refl _)
    · exact Frozen.refl c
  | survival ratio dI dE =>
    cases h
    obtain ⟨h0, h1, hv⟩ := hd
    split
    · rename_i hlt
      exact (removeInfected_frozen c _ dI (ratioRemovedInfected_bounds c nn.i h0 h1).1).trans
        (removeExposed_frozen _ _ dE fun _ => (hv hlt).2.dom)
    · exact Frozen.refl c
  | lethal d =>
    cases h
    exact removeInfected_frozen c c.i d nn.i
  | mortality rate lag =>
    simp only [CellOp.apply] at h
    cases ha : c.applyMortality rate lag with
    | error e => rw [ha] at h; cases h
    | ok c1 =>
      rw [ha] at h
      simp only [Except.map] at h
      injection h with h; subst h
      have hr := applyMortality_rel hd.1 hd.2.1 lag c c1 nn.mort nn.i nn.th ha
      unfold Cell.stepForwardMortality
      have := hr.di; have := hr.dd
      exact Frozen.of_eq hr.e (by carith)

theorem LandOp.apply_at_ok {k : Nat} {op : CellOp} {l l' : Land}
    (h : (LandOp.at k op).apply l = .ok l') :
    (l[k]? = none ∧ l' = l) ∨
      ∃ c c', l[k]? = some c ∧ op.apply c = .ok c' ∧ l' = l.set k c' := by
  simp only [LandOp.apply] at h
  cases hk : l[k]? with
  | none => rw [hk] at h; injection h with h; exact .inl ⟨rfl, h.symm⟩
  | some c =>
    rw [hk] at h; dsimp only at h
    cases hc : op.apply c with
    | error e => rw [hc] at h; cases h
    | ok c' => rw [hc] at h; injection h with h; exact .inr ⟨c, c', rfl, hc, h.symm⟩

/-- No uniformity is needed: the operations of a non-spread step act on one cell. -/
theorem landOp_frozen (op : LandOp) (l l' : Land) (hop : op.offSeason = true) (hinv : l.inv)
    (hd : op.inDomain l) (h : op.apply l = .ok l') : FrozenL l l' ∧ l'.inv := by
  cases op with
  | move a b count d dE dM => cases hop
  | «at» k op =>
    rcases LandOp.apply_at_ok h with ⟨_, rfl⟩ | ⟨c, c', hk, hc, rfl⟩
    · exact ⟨FrozenL.refl _, hinv⟩
    · have hg : c.Good := (land_inv_iff l).mp hinv c (List.mem_of_getElem? hk)
      have fr := cellOp_frozen op c c' hop (hd c hk) hg.nonNeg hc
      exact ⟨Pw.set Frozen.refl hk fr, Land.inv_set hinv k (cellOp_facts op c c' (hd c hk) hg hc).good⟩

theorem history_frozen (ops : List LandOp) (l l' : Land) (hop : ∀ op ∈ ops, op.offSeason = true)
    (hinv : l.inv) (hd : DomainAlong ops l) (h : runOps ops l = .ok l') : FrozenL l l' ∧ l'.inv := by
  induction ops generalizing l with
  | nil => cases h; exact ⟨FrozenL.refl _, hinv⟩
  | cons op rest ih =>
    obtain ⟨l1, h1, h⟩ := except_bind_ok h
    obtain ⟨f1, i1⟩ := landOp_frozen op l l1 (hop op List.mem_cons_self) hinv hd.1 h1
    obtain ⟨f2, i2⟩ := ih l1 (fun o ho => hop o (List.mem_cons_of_mem _ ho)) i1 (hd.2 l1 h1) h
    exact ⟨f1.trans f2, i2⟩

/-- Generators that only ever produce operations of a non-spread step. -/
def OffSeasonGen (gen : OpGen) : Prop := ∀ x : Land, ∀ op ∈ gen x, op.offSeason = true

theorem gens_frozen (gens : List OpGen) (l l' : Land) (hop : ∀ gen ∈ gens, OffSeasonGen gen)
    (hinv : l.inv) (hd : GensDomainAlong gens l) (h : runGens gens l = .ok l') :
    FrozenL l l' ∧ l'.inv := by
  induction gens generalizing l with
  | nil => cases h; exact ⟨FrozenL.refl _, hinv⟩
  | cons gen rest ih =>
    obtain ⟨m, h1, h⟩ := except_bind_ok h
    obtain ⟨f1, i1⟩ := history_frozen (gen l) l m (hop gen List.mem_cons_self l) hinv hd.1 h1
    obtain ⟨f2, i2⟩ := ih m (fun g hg => hop g (List.mem_cons_of_mem _ hg)) i1 (hd.2 m h1) h
    exact ⟨f1.trans f2, i2⟩

/-- A domain hypothesis stated at every consistent landscape gives the one along the run, which is
    what `C01_generators` takes. -/
theorem gensDomainAlong_of_forall (gens : List OpGen) (l : Land) (hinv : l.inv) (hu : l.uniform)
    (hd : ∀ gen ∈ gens, ∀ x : Land, x.inv → x.uniform → DomainAlong (gen x) x) :
    GensDomainAlong gens l := by
  induction gens generalizing l with
  | nil => trivial
  | cons gen rest ih =>
    have hdg := hd gen (by simp) l hinv hu
    refine ⟨hdg, fun m h1 => ?_⟩
    obtain ⟨b1, b2⟩ := history_inv (gen l) l m hinv hu hdg h1
    exact ih m b1 b2 (fun g hg => hd g (by simp [hg]))

theorem mem_cellOpsOver {inp : StepInputs} {f : Nat → Nat → Option CellOp} {op : LandOp}
    (h : op ∈ cellOpsOver inp f) : ∃ pos k o, f pos k = some o ∧ op = .at k o := by
  simp only [cellOpsOver, List.mem_filterMap] at h
  obtain ⟨⟨pos, rc⟩, _, h⟩ := h
  simp only [Option.map_eq_some_iff] at h
  obtain ⟨o, ho, rfl⟩ := h
  exact ⟨pos, _, o, ho, rfl⟩

theorem cellOpsOver_offSeason {inp : StepInputs} {f : Nat → Nat → Option CellOp}
    (hf : ∀ pos k o, f pos k = some o → o.offSeason = true) :
    ∀ op ∈ cellOpsOver inp f, op.offSeason = true := by
  intro op hop
  obtain ⟨pos, k, o, ho, rfl⟩ := mem_cellOpsOver hop
  exact hf pos k o ho

theorem actionGen_offSeason (inp : StepInputs) (step : Nat) (a : ActionKind)
    (ha : a.offSeason = true) : OffSeasonGen (actionGen inp step a) := by
  intro x op hop
  cases a with
  | spread => cases ha
  | stepForward => cases ha
  | overpopulation => cases ha
  | movement => cases ha
  | soilNext => cases hop
  | spreadRate => cases hop
  | quarantine => cases hop
  | lethal =>
    simp only [actionGen] at hop
    refine cellOpsOver_offSeason (fun pos k o ho => ?_) op hop
    split at ho
    · injection ho with ho; subst ho; rfl
    · cases ho
  | survival =>
    simp only [actionGen] at hop
    refine cellOpsOver_offSeason (fun pos k o ho => ?_) op hop
    injection ho with ho; subst ho; rfl
  | treatments =>
    obtain ⟨⟨finish, pest, app, coefs⟩, _, hop⟩ := List.mem_flatMap.mp hop
    refine cellOpsOver_offSeason (fun pos k o ho => ?_) op hop
    injection ho with ho; subst ho
    cases finish
    · cases pest <;> rfl
    · rfl
  | mortality =>
    obtain ⟨k, _, rfl⟩ := List.mem_map.mp hop
    rfl

theorem runs_offSeason (cfg : StepCfg) (step : Nat) (a : ActionKind)
    (hns : schedAt cfg.spreadSched step = false) (hr : cfg.runs step a = true) :
    a.offSeason = true := by
  cases a <;> first | rfl | (simp only [StepCfg.runs, hns, Bool.false_and] at hr; cases hr)

theorem stepGens_offSeason (cfg : StepCfg) (inp : StepInputs) (step : Nat)
    (hns : schedAt cfg.spreadSched step = false) :
    ∀ gen ∈ stepGens cfg inp step, OffSeasonGen gen := by
  intro gen hg
  simp only [stepGens, List.mem_map] at hg
  obtain ⟨a, ha, rfl⟩ := hg
  have hr : cfg.runs step a.1 = true :=
    (act_plan_iff cfg step a.1).mp (List.mem_map.mpr ⟨a, ha, rfl⟩)
  exact actionGen_offSeason inp step a.1 (runs_offSeason cfg step a.1 hns hr)

/-- A history all of whose operations have a state-independent domain (treatment coefficients,
    mortality rate and lag) is in its domain at every landscape. -/
theorem domainAlong_of_static (ops : List LandOp) (h : ∀ op ∈ ops, ∀ x : Land, op.inDomain x)
    (l : Land) : DomainAlong ops l := by
  induction ops generalizing l with
  | nil => trivial
  | cons op rest ih =>
    exact ⟨h op (by simp) l, fun l' _ => ih (fun o ho => h o (by simp [ho])) l'⟩

/-- A domain hypothesis quantified over all consistent landscapes and all actions cannot hold for
    an SEI model: the latency step indexes the cohort vectors, and a consistent landscape may have
    empty ones. Hence `C01_generators`, `C01_model_step` and the step theorems of C05 take the
    domain along the run (`GensDomainAlong`). -/
theorem uniform_domain_unsat_sei (inp : StepInputs) (step : Nat) (hmt : inp.mt = .sei) :
    ¬ (∀ a : ActionKind, ∀ x : Land, x.inv → x.uniform → DomainAlong (actionGen inp step a x) x) := by
  intro hd
  have h := hd .stepForward [⟨0, [], 0, 0, 0, [], 0, 0⟩]
    (by intro c hc; simp only [List.mem_singleton] at hc; subst hc; exact ⟨rfl, rfl⟩)
    (by intro a ha b hb; simp only [List.mem_singleton] at ha hb; subst ha; subst hb; exact ⟨rfl, rfl⟩)
  have h1 := h.1 ⟨0, [], 0, 0, 0, [], 0, 0⟩ rfl hmt
  exact h1.1 rfl

end Pops
