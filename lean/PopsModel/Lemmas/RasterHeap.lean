/-
  Lemmas about the raster heap machine (Model/RasterHeap.lean).

  The invariant survives a new record for an allocated buffer (`inv_updBuf`) and a rebinding of
  variables to pointers that are accounted for (`inv_rebind`). `Steps` lists the state an in-scope
  operation reaches (`step_rel` evaluates `Heap.step` for each); the frame and effect lemmas
  reason about `Steps` only, and `Steps.inv` puts the two changes together.
-/
import PopsModel.Model.RasterHeap
namespace Pops
namespace Heap
variable {α : Type}

@[simp] theorem upd_same {β : Type} (f : Nat → β) (k : Nat) (v : β) : upd f k v k = v := by simp [upd]
theorem upd_ne {β : Type} (f : Nat → β) {k j : Nat} (v : β) (h : j ≠ k) : upd f k v j = f j := by simp [upd, h]

theorem upd_upd {β : Type} (f : Nat → β) (k : Nat) (v w : β) : upd (upd f k v) k w = upd f k w := by
  funext j; by_cases e : j = k <;> simp [upd, e]

@[simp] theorem setSlot_bufs (h : Heap α) (s : Nat) (o : Option RObj) : (h.setSlot s o).bufs = h.bufs := rfl
@[simp] theorem setSlot_next (h : Heap α) (s : Nat) (o : Option RObj) : (h.setSlot s o).next = h.next := rfl
@[simp] theorem setSlot_nExt (h : Heap α) (s : Nat) (o : Option RObj) : (h.setSlot s o).nExt = h.nExt := rfl
@[simp] theorem setSlot_same (h : Heap α) (s : Nat) (o : Option RObj) : (h.setSlot s o).slots s = o := by
  simp [setSlot]
theorem setSlot_ne (h : Heap α) {s s' : Nat} (o : Option RObj) (hne : s' ≠ s) :
    (h.setSlot s o).slots s' = h.slots s' := by simp [setSlot, upd_ne _ _ hne]


/-- Where the pointer `b` of the object `o'` that variable `u` holds in a new binding `sl` comes
    from: taken over, with shape size and ownership flag, from variable `src u` of the old binding;
    or a non-owning pointer into a caller array that is large enough; or a buffer allocated since,
    large enough and held by `u` alone. -/
inductive Source (h : Heap α) (bufs' : Nat → Buf α) (next' : Nat) (sl : Nat → Option RObj) (src : Nat → Nat)
    (u : Nat) (o' : RObj) (b : Nat) : Prop
  | taken (o : RObj) : h.slots (src u) = some o → o.data = some b → o'.size = o.size → o'.owns = o.owns →
      Source h bufs' next' sl src u o' b
  | wrapped (cells : List α) : o'.owns = false → b < h.nExt → h.bufs b = .live cells → o'.size ≤ cells.length →
      Source h bufs' next' sl src u o' b
  | fresh (cells : List α) : h.next ≤ b → b < next' → bufs' b = .live cells → o'.size ≤ cells.length →
      (∀ u' o'', u' ≠ u → sl u' = some o'' → o''.data ≠ some b) → Source h bufs' next' sl src u o' b

theorem kept {h : Heap α} {bufs' : Nat → Buf α} {next' : Nat} {sl : Nat → Option RObj} {u : Nat} {o' : RObj}
    {b : Nat} (h1 : h.slots u = some o') (h2 : o'.data = some b) : Source h bufs' next' sl id u o' b :=
  .taken o' h1 h2 rfl rfl

/-- Rebinding variables, possibly to buffers allocated on the way, keeps the invariant when every
    pointer of the new binding has a `Source`. `back` undoes `src`: so no two variables take from
    the same one, and an owner stays the only variable pointing to its buffer. -/
theorem inv_rebind {h : Heap α} (hi : Inv h) {bufs' : Nat → Buf α} {next' : Nat} {sl : Nat → Option RObj}
    (hn : h.next ≤ next') (hold : ∀ b, b < h.next → bufs' b = h.bufs b)
    (hfresh : ∀ b, next' ≤ b → bufs' b = .unalloc) (src back : Nat → Nat) (hback : ∀ u, back (src u) = u)
    (hsrc : ∀ u o' b, sl u = some o' → o'.data = some b → Source h bufs' next' sl src u o' b) :
    Inv ⟨bufs', next', h.nExt, sl⟩ := by
  have hle := hi.ext_le
  refine ⟨Nat.le_trans hle hn, hfresh, fun e he => ?_, ?_, ?_⟩
  · obtain ⟨cells, hc⟩ := hi.ext_live e he
    exact ⟨cells, (hold e (Nat.lt_of_lt_of_le he hle)).trans hc⟩
  · intro u o' b h1 h2
    cases hsrc u o' b h1 h2 with
    | taken o g1 g2 g3 _ =>
      obtain ⟨k1, cells, k2, k3⟩ := hi.no_dangling _ o b g1 g2
      exact ⟨Nat.lt_of_lt_of_le k1 hn, cells, (hold b k1).trans k2, g3 ▸ k3⟩
    | wrapped cells _ g2 g3 g4 =>
      have : b < h.next := Nat.lt_of_lt_of_le g2 hle
      exact ⟨Nat.lt_of_lt_of_le this hn, cells, (hold b this).trans g3, g4⟩
    | fresh cells _ g2 g3 g4 _ => exact ⟨g2, cells, g3, g4⟩
  · intro u o' b h1 h2 h3
    cases hsrc u o' b h1 h2 with
    | taken o g1 g2 _ g4 =>
      obtain ⟨k1, k2⟩ := hi.owner_excl _ o b g1 g2 (g4 ▸ h3)
      refine ⟨k1, fun u' o'' hne h1' h2' => ?_⟩
      cases hsrc u' o'' b h1' h2' with
      | taken o2 m1 m2 => exact k2 _ o2 (fun e => hne (by rw [← hback u', e, hback])) m1 m2
      | wrapped _ _ m2 => omega
      | fresh _ m1 => have := (hi.no_dangling _ o b g1 g2).1; omega
    | wrapped _ g1 => rw [g1] at h3; cases h3
    | fresh _ g1 _ _ _ g5 => exact ⟨Nat.le_trans hle g1, g5⟩

theorem inv_reslot {h : Heap α} (hi : Inv h) {sl : Nat → Option RObj} (src back : Nat → Nat)
    (hback : ∀ u, back (src u) = u)
    (hsrc : ∀ u o' b, sl u = some o' → o'.data = some b → Source h h.bufs h.next sl src u o' b) :
    Inv { h with slots := sl } :=
  inv_rebind hi (Nat.le_refl _) (fun _ _ => rfl) hi.fresh src back hback hsrc

theorem inv_clear {h : Heap α} (hi : Inv h) (s : Nat) : Inv (h.setSlot s none) := by
  refine inv_reslot hi id id (fun _ => rfl) fun u o' b h1 h2 => ?_
  by_cases e : u = s
  · subst e; simp at h1
  · rw [upd_ne _ _ e] at h1; exact kept h1 h2

/-- The wrapping constructor on a caller array that is large enough. -/
theorem inv_wrap {h : Heap α} {s : Nat} (hi : Inv (h.setSlot s none)) {e r c : Nat}
    (he : e < h.nExt) (hl : r * c ≤ h.extLen e) :
    Inv (h.setSlot s (some ⟨r, c, some e, false⟩)) := by
  refine inv_reslot hi id id (fun _ => rfl) fun u o' b h1 h2 => ?_
  by_cases e1 : u = s
  · subst e1
    simp only [upd_same, Option.some.injEq] at h1; subst h1; cases h2
    obtain ⟨cells, hc⟩ := hi.ext_live e he
    exact .wrapped cells rfl he hc (by simpa [extLen, show h.bufs e = .live cells from hc, RObj.size] using hl)
  · rw [upd_ne _ _ e1] at h1; exact kept (by rw [setSlot_ne _ _ e1]; exact h1) h2

/-- Move: variable `s` (dealt with) takes the pointer and flag of `t`, `t` keeps its shape with a
    null pointer. -/
theorem inv_transfer {h : Heap α} {s t : Nat} (hi : Inv (h.setSlot s none)) (hne : t ≠ s) {o : RObj}
    (ht : h.slots t = some o) :
    Inv ((h.setSlot s (some ⟨o.rows, o.cols, o.data, o.owns⟩)).setSlot t (some { o with data := none })) := by
  let swap : Nat → Nat := fun u => if u = s then t else if u = t then s else u
  refine inv_reslot hi swap swap (fun u => ?_) fun u o' b h1 h2 => ?_
  · by_cases e1 : u = s
    · simp [swap, e1, hne]
    · by_cases e2 : u = t
      · simp [swap, e2, hne]
      · simp [swap, e1, e2]
  · by_cases e1 : u = t
    · subst e1; simp only [upd_same, Option.some.injEq] at h1; subst h1; cases h2
    · rw [upd_ne _ _ e1] at h1
      by_cases e2 : u = s
      · subst e2; simp only [setSlot_same, Option.some.injEq] at h1; subst h1
        exact .taken o (by simp only [swap, if_pos]; rw [setSlot_ne _ _ hne]; exact ht) h2 rfl rfl
      · refine .taken o' ?_ h2 rfl rfl
        simp only [swap, if_neg e2, if_neg e1]
        rw [setSlot_ne _ _ e2] at h1 ⊢; exact h1

theorem inv_updBuf {h : Heap α} (hi : Inv h) {b : Nat} {cells : List α} (hb : h.bufs b = .live cells)
    {buf' : Buf α} (hext : b < h.nExt → ∃ cells', buf' = .live cells')
    (hptr : ∀ u o, h.slots u = some o → o.data = some b → ∃ cells', buf' = .live cells' ∧ o.size ≤ cells'.length) :
    Inv { h with bufs := upd h.bufs b buf' } := by
  refine ⟨hi.ext_le, fun b' hb' => ?_, fun e he => ?_, fun u o p h1 h2 => ?_, hi.owner_excl⟩
  · have : b' ≠ b := by
      intro e; subst e; have := hi.fresh b' hb'; rw [this] at hb; cases hb
    simp only [upd_ne _ _ this]; exact hi.fresh b' hb'
  · by_cases e' : e = b
    · subst e'; simpa using hext he
    · simp only [upd_ne _ _ e']; exact hi.ext_live e he
  · refine ⟨(hi.no_dangling u o p h1 h2).1, ?_⟩
    by_cases e' : p = b
    · subst e'; simpa using hptr u o h1 h2
    · simp only [upd_ne _ _ e']; exact (hi.no_dangling u o p h1 h2).2

theorem inv_setBuf {h : Heap α} (hi : Inv h) {b : Nat} {cells cells' : List α}
    (hb : h.bufs b = .live cells) (hl : cells'.length = cells.length) :
    Inv { h with bufs := upd h.bufs b (.live cells') } :=
  inv_updBuf hi hb (fun _ => ⟨_, rfl⟩) fun u o h1 h2 => by
    obtain ⟨_, c0, g2, g3⟩ := hi.no_dangling u o b h1 h2
    rw [hb] at g2; cases g2
    exact ⟨_, rfl, hl ▸ g3⟩

theorem inv_free {h : Heap α} (hi : Inv h) {b : Nat} {cells : List α} (hb : h.bufs b = .live cells)
    (he : h.nExt ≤ b) (hu : ∀ u o, h.slots u = some o → o.data ≠ some b) :
    Inv { h with bufs := upd h.bufs b .freed } :=
  inv_updBuf hi hb (fun h' => absurd h' (Nat.not_lt.mpr he)) fun u o h1 h2 => absurd h2 (hu u o h1)

/-- `new Number[n]` into a variable whose previous content has been dealt with. -/
theorem inv_allocInto {h : Heap α} {s : Nat} (hi : Inv (h.setSlot s none)) (r c : Nat)
    (cells : List α) (owns : Bool) (hl : r * c ≤ cells.length) :
    Inv (h.allocInto s r c cells owns) := by
  refine inv_rebind hi (Nat.le_succ _) (fun b hb => upd_ne _ _ (Nat.ne_of_lt hb))
    (fun b hb => ?_) id id (fun _ => rfl) fun u o' b h1 h2 => ?_
  · rw [upd_ne _ _ (Nat.ne_of_gt hb)]; exact hi.fresh b (Nat.le_of_succ_le hb)
  · by_cases e : u = s
    · subst e
      simp only [upd_same, Option.some.injEq] at h1; subst h1; cases h2
      refine .fresh cells (Nat.le_refl _) (Nat.lt_succ_self _) (upd_same ..) hl fun u' o'' hne h1' h2' => ?_
      -- every pointer of the old binding is below `h.next`
      rw [upd_ne _ _ hne] at h1'
      have := (hi.no_dangling u' o'' _ (by rw [setSlot_ne _ _ hne]; exact h1') h2').1
      exact Nat.lt_irrefl _ this
    · rw [upd_ne _ _ e] at h1; exact kept (by rw [setSlot_ne _ _ e]; exact h1) h2

theorem release_frame {h h1 : Heap α} {o : RObj} (hr : h.release o = .ok h1) :
    h1.slots = h.slots ∧ h1.next = h.next ∧ h1.nExt = h.nExt ∧
    ∀ p, h1.bufs p = h.bufs p ∨ (o.data = some p ∧ o.owns = true) := by
  unfold release at hr
  cases hd : o.data with
  | none => simp only [hd] at hr; cases hr; exact ⟨rfl, rfl, rfl, fun _ => .inl rfl⟩
  | some b =>
    simp only [hd] at hr
    by_cases ho : o.owns = true
    · simp only [ho, if_true, free] at hr
      split at hr
      · split at hr
        · cases hr
        · cases hr
          refine ⟨rfl, rfl, rfl, fun p => ?_⟩
          by_cases e : p = b
          · subst e; exact .inr ⟨rfl, ho⟩
          · exact .inl (by simp only [upd_ne _ _ e])
      · cases hr
      · cases hr
    · simp only [ho] at hr; cases hr; exact ⟨rfl, rfl, rfl, fun _ => .inl rfl⟩

theorem inv_release {h : Heap α} (hi : Inv h) {s : Nat} {o : RObj} (hs : h.slots s = some o) :
    ∃ h1, h.release o = .ok h1 ∧ Inv (h1.setSlot s none) := by
  unfold release
  cases hd : o.data with
  | none => exact ⟨h, rfl, inv_clear hi s⟩
  | some b =>
    by_cases ho : o.owns = true
    · obtain ⟨_, cells, g2, _⟩ := hi.no_dangling s o b hs hd
      obtain ⟨g4, g5⟩ := hi.owner_excl s o b hs hd ho
      have : ¬ b < h.nExt := by omega
      simp only [ho, if_true, free, g2, this, if_false]
      refine ⟨_, rfl, inv_free (inv_clear hi s) g2 g4 fun u o' h1 => ?_⟩
      by_cases e : u = s
      · subst e; simp at h1
      · exact g5 u o' e (setSlot_ne h none e ▸ h1)
    · simp only [ho]; exact ⟨h, rfl, inv_clear hi s⟩


theorem hasData_iff {h : Heap α} {s : Nat} :
    h.hasData s = true ↔ ∃ o b, h.slots s = some o ∧ o.data = some b := by
  unfold hasData
  cases hs : h.slots s with
  | none => simp
  | some o =>
    cases hd : o.data with
    | none => simp [hd]
    | some b => simp [hd]

theorem occupied_iff {h : Heap α} {s : Nat} : h.occupied s = true ↔ ∃ o, h.slots s = some o := by
  unfold occupied; cases h.slots s <;> simp

theorem not_occupied_iff {h : Heap α} {s : Nat} : (!h.occupied s) = true ↔ h.slots s = none := by
  unfold occupied; cases h.slots s <;> simp

/-- Variable `a` holds the object `o`, whose data pointer `b` leads to the live buffer `cells`,
    which covers the shape of `o`. -/
structure Holds (h : Heap α) (a : Nat) (o : RObj) (b : Nat) (cells : List α) : Prop where
  slot : h.slots a = some o
  data : o.data = some b
  live : h.bufs b = .live cells
  fits : o.size ≤ cells.length

theorem operand {h : Heap α} (hi : Inv h) {a : Nat} (ha : h.hasData a = true) :
    ∃ o b cells, Holds h a o b cells := by
  obtain ⟨o, b, h1, h2⟩ := hasData_iff.mp ha
  obtain ⟨_, cells, g2, g3⟩ := hi.no_dangling a o b h1 h2
  exact ⟨o, b, cells, h1, h2, g2, g3⟩

theorem read_live {h : Heap α} {b n : Nat} {cells : List α} (hb : h.bufs b = .live cells)
    (hn : n ≤ cells.length) : h.read b n = .ok (cells.take n) := by
  simp [read, hb, hn]

theorem Holds.read {h : Heap α} {a : Nat} {o : RObj} {b : Nat} {cells : List α} (hh : Holds h a o b cells) :
    h.read b o.size = .ok (cells.take o.size) :=
  read_live hh.live hh.fits

theorem store_live {h : Heap α} {b : Nat} {cells new : List α} (hb : h.bufs b = .live cells)
    (hn : new.length ≤ cells.length) :
    h.store b new = .ok { h with bufs := upd h.bufs b (.live (new ++ cells.drop new.length)) } := by
  simp [store, hb, hn]

theorem poke_live {h : Heap α} {b i : Nat} {cells : List α} (v : α) (hb : h.bufs b = .live cells)
    (hi : i < cells.length) :
    h.poke b i v = .ok { h with bufs := upd h.bufs b (.live (cells.set i v)) } := by
  simp [poke, hb, hi]

/-- `Raster out(image); out.for_each(...)`: overwriting all of the buffer just allocated is
    allocating it with the new contents. -/
theorem allocInto_store (h : Heap α) (d r c : Nat) (cells new : List α) (w : Bool)
    (hl : new.length = cells.length) :
    (h.allocInto d r c cells w).store h.next new = .ok (h.allocInto d r c new w) := by
  rw [store_live (cells := cells) (by simp [allocInto]) (by omega)]
  simp [allocInto, upd_upd, hl]

theorem length_map_take_le {β : Type} (f : α → β) {cells : List α} {n : Nat} (g : n ≤ cells.length) :
    ((cells.take n).map f).length ≤ cells.length := by
  rw [List.length_map, List.length_take_of_le g]; exact g

theorem length_zipWith_take_le {β γ : Type} (f : α → β → γ) {cells : List α} {cells2 : List β} {n : Nat}
    (g : n ≤ cells.length) (g2 : n ≤ cells2.length) :
    (List.zipWith f (cells.take n) (cells2.take n)).length ≤ cells.length := by
  rw [List.length_zipWith, List.length_take_of_le g, List.length_take_of_le g2, Nat.min_self]; exact g

theorem length_overwrite {new cells : List α} (g : new.length ≤ cells.length) :
    (new ++ cells.drop new.length).length = cells.length := by
  rw [List.length_append, List.length_drop]; omega

theorem index_lt {r c rows cols n : Nat} (hr : r < rows) (hc : c < cols) (hn : rows * cols ≤ n) :
    r * cols + c < n := by
  have : (r + 1) * cols ≤ rows * cols := Nat.mul_le_mul_right cols (by omega)
  rw [Nat.add_mul] at this
  omega

theorem same_size {o o2 : RObj} (h : ¬ (o.cols ≠ o2.cols ∨ o.rows ≠ o2.rows)) : o.size = o2.size := by
  have : o.cols = o2.cols ∧ o.rows = o2.rows := by omega
  simp [RObj.size, this.1, this.2]


def storeOf (h : Heap α) (b : Nat) (cells new : List α) : Heap α :=
  { h with bufs := upd h.bufs b (.live (new ++ cells.drop new.length)) }

def pokeOf (h : Heap α) (b : Nat) (cells : List α) (i : Nat) (v : α) : Heap α :=
  { h with bufs := upd h.bufs b (.live (cells.set i v)) }

def moveOf (h : Heap α) (s t : Nat) (o : RObj) : Heap α :=
  (h.setSlot s (some ⟨o.rows, o.cols, o.data, o.owns⟩)).setSlot t (some { o with data := none })

/-- The state reached by an in-scope operation from an invariant state, case by case. The two
    throwing cases carry their operands as well: the effect lemmas say what the operands show. -/
inductive Steps (h : Heap α) : HOp α → Heap α → Prop
  | construct (s r c : Nat) (v : α) :
      Steps h (.construct s r c v) (h.allocInto s r c (List.replicate (r * c) v) true)
  | wrap (s e r c : Nat) : e < h.nExt → r * c ≤ h.extLen e →
      Steps h (.wrap s e r c) (h.setSlot s (some ⟨r, c, some e, false⟩))
  | copyCtor (s t : Nat) (o : RObj) (b : Nat) (cells : List α) : Holds h t o b cells →
      Steps h (.copyCtor s t) (h.allocInto s o.rows o.cols (cells.take o.size) true)
  | moveCtor (s t : Nat) (o : RObj) : t ≠ s → h.slots t = some o →
      Steps h (.moveCtor s t) (h.moveOf s t o)
  | copySelf (s : Nat) : Steps h (.copyAssign s s) h
  | moveSelf (s : Nat) : Steps h (.moveAssign s s) h
  | copyAssign (s t : Nat) (me o : RObj) (b : Nat) (cells : List α) (h1 : Heap α) :
      s ≠ t → h.slots s = some me → h.release me = .ok h1 → Holds h t o b cells →
      Steps h (.copyAssign s t) (h1.allocInto s o.rows o.cols (cells.take o.size) me.owns)
  | moveAssign (s t : Nat) (me o : RObj) (h1 : Heap α) :
      s ≠ t → h.slots s = some me → h.slots t = some o → h.release me = .ok h1 →
      Steps h (.moveAssign s t) (h1.moveOf s t o)
  | write (s r c : Nat) (v : α) (o : RObj) (b : Nat) (cells : List α) :
      Holds h s o b cells → r < o.rows → c < o.cols →
      Steps h (.write s r c v) (h.pokeOf b cells (r * o.cols + c) v)
  | destroy (s : Nat) (o : RObj) (h1 : Heap α) : h.slots s = some o → h.release o = .ok h1 →
      Steps h (.destroy s) (h1.setSlot s none)
  | extWrite (e i : Nat) (v : α) (cells : List α) : e < h.nExt → h.bufs e = .live cells → i < cells.length →
      Steps h (.extWrite e i v) (h.pokeOf e cells i v)
  | mapInPlace (s : Nat) (f : α → α) (o : RObj) (b : Nat) (cells : List α) : Holds h s o b cells →
      Steps h (.mapInPlace s f) (h.storeOf b cells ((cells.take o.size).map f))
  | zipThrow (s t : Nat) (f : α → α → α) (o o2 : RObj) (b b2 : Nat) (cells cells2 : List α) :
      Holds h s o b cells → Holds h t o2 b2 cells2 → (o.cols ≠ o2.cols ∨ o.rows ≠ o2.rows) →
      Steps h (.zipInPlace s t f) h
  | zipInPlace (s t : Nat) (f : α → α → α) (o o2 : RObj) (b b2 : Nat) (cells cells2 : List α) :
      Holds h s o b cells → Holds h t o2 b2 cells2 → ¬ (o.cols ≠ o2.cols ∨ o.rows ≠ o2.rows) →
      Steps h (.zipInPlace s t f) (h.storeOf b cells (List.zipWith f (cells.take o.size) (cells2.take o.size)))
  | mapNew (d a : Nat) (f : α → α) (o : RObj) (b : Nat) (cells : List α) : Holds h a o b cells →
      Steps h (.mapNew d a f) (h.allocInto d o.rows o.cols ((cells.take o.size).map f) true)
  | zipNewThrow (d a b : Nat) (f : α → α → α) (o o2 : RObj) (p p2 : Nat) (cells cells2 : List α) :
      Holds h a o p cells → Holds h b o2 p2 cells2 → (o.cols ≠ o2.cols ∨ o.rows ≠ o2.rows) →
      Steps h (.zipNew d a b f) h
  | zipNew (d a b : Nat) (f : α → α → α) (o o2 : RObj) (p p2 : Nat) (cells cells2 : List α) :
      Holds h a o p cells → Holds h b o2 p2 cells2 → ¬ (o.cols ≠ o2.cols ∨ o.rows ≠ o2.rows) →
      Steps h (.zipNew d a b f)
        (h.allocInto d o.rows o.cols (List.zipWith f (cells.take o.size) (cells2.take o.size)) true)
  | powNew (d a : Nat) (f : α → α) (o : RObj) (b : Nat) (cells : List α) : Holds h a o b cells →
      Steps h (.powNew d a f) (h.allocInto d o.rows o.cols ((cells.take o.size).map f) true)

/-- A buffer of another variable survives the `delete[]` in an assignment to `s`. -/
theorem release_keeps {h h1 : Heap α} (hi : Inv h) {s t : Nat} {me o : RObj} {b : Nat} (hne : s ≠ t)
    (hs : h.slots s = some me) (ht : h.slots t = some o) (hd : o.data = some b)
    (hr : h.release me = .ok h1) : h1.bufs b = h.bufs b := by
  rcases (release_frame hr).2.2.2 b with g | ⟨g1, g2⟩
  · exact g
  · exact absurd hd ((hi.owner_excl s me b hs g1 g2).2 t o (Ne.symm hne) ht)

theorem step_rel {h : Heap α} (hi : Inv h) (op : HOp α) (hs : h.inScope op = true) :
    ∃ h', h.step op = .ok h' ∧ Steps h op h' := by
  cases op with
  | construct s r c v => exact ⟨_, rfl, .construct s r c v⟩
  | wrap s e r c =>
    simp only [inScope, Bool.and_eq_true, decide_eq_true_eq] at hs
    exact ⟨_, rfl, .wrap s e r c hs.1.2 hs.2⟩
  | copyCtor s t =>
    simp only [inScope, Bool.and_eq_true] at hs
    obtain ⟨o, b, cells, ht⟩ := operand hi hs.2
    exact ⟨_, by simp only [step, obj, ht.slot, ptr, ht.data, ht.read, bind, Except.bind] <;> rfl,
      .copyCtor s t o b cells ht⟩
  | moveCtor s t =>
    simp only [inScope, Bool.and_eq_true] at hs
    obtain ⟨o, h1⟩ := occupied_iff.mp hs.2
    have hn := not_occupied_iff.mp hs.1
    have hne : t ≠ s := by intro e; subst e; rw [hn] at h1; cases h1
    exact ⟨_, by simp only [step, obj, h1, bind, Except.bind] <;> rfl, .moveCtor s t o hne h1⟩
  | copyAssign s t =>
    simp only [inScope, Bool.and_eq_true] at hs
    obtain ⟨me, h0⟩ := occupied_iff.mp hs.1
    obtain ⟨o, b, cells, ht⟩ := operand hi hs.2
    by_cases e : s = t
    · subst e; exact ⟨h, by simp [step], .copySelf s⟩
    · obtain ⟨h1', r1, _⟩ := inv_release hi h0
      -- the copy reads after the `delete[]`
      have g2' : h1'.bufs b = .live cells := by rw [release_keeps hi e h0 ht.slot ht.data r1]; exact ht.live
      exact ⟨_, by simp only [step, e, obj, h0, ht.slot, ptr, ht.data, r1, read_live g2' ht.fits, bind, Except.bind] <;> rfl,
        .copyAssign s t me o b cells h1' e h0 r1 ht⟩
  | moveAssign s t =>
    simp only [inScope, Bool.and_eq_true] at hs
    obtain ⟨me, h0⟩ := occupied_iff.mp hs.1
    obtain ⟨o, h1⟩ := occupied_iff.mp hs.2
    by_cases e : s = t
    · subst e; exact ⟨h, by simp [step], .moveSelf s⟩
    · obtain ⟨h1', r1, _⟩ := inv_release hi h0
      exact ⟨_, by simp only [step, e, obj, h0, h1, r1, bind, Except.bind] <;> rfl, .moveAssign s t me o h1' e h0 h1 r1⟩
  | write s r c v =>
    simp only [inScope] at hs
    cases h0 : h.slots s with
    | none => simp [h0] at hs
    | some o =>
      simp only [h0, Bool.and_eq_true, decide_eq_true_eq, Option.isSome_iff_exists] at hs
      obtain ⟨⟨⟨b, h2⟩, hr⟩, hc⟩ := hs
      obtain ⟨_, cells, g2, g3⟩ := hi.no_dangling s o b h0 h2
      have hlt : r * o.cols + c < cells.length := index_lt hr hc g3
      exact ⟨_, by simp only [step, obj, h0, ptr, h2, poke_live v g2 hlt, bind, Except.bind] <;> rfl,
        .write s r c v o b cells ⟨h0, h2, g2, g3⟩ hr hc⟩
  | destroy s =>
    simp only [inScope] at hs
    obtain ⟨o, h0⟩ := occupied_iff.mp hs
    obtain ⟨h1', r1, _⟩ := inv_release hi h0
    exact ⟨_, by simp only [step, obj, h0, r1, bind, Except.bind] <;> rfl, .destroy s o h1' h0 r1⟩
  | extWrite e i v =>
    simp only [inScope, Bool.and_eq_true, decide_eq_true_eq] at hs
    obtain ⟨cells, hc⟩ := hi.ext_live e hs.1
    have hl : i < cells.length := by simpa [extLen, hc] using hs.2
    exact ⟨_, by simp only [step]; exact poke_live v hc hl, .extWrite e i v cells hs.1 hc hl⟩
  | mapInPlace s f =>
    simp only [inScope] at hs
    obtain ⟨o, b, cells, hh⟩ := operand hi hs
    have hl := length_map_take_le f hh.fits
    exact ⟨_, by simp only [step, obj, hh.slot, ptr, hh.data, hh.read, bind, Except.bind]; exact store_live hh.live hl,
      .mapInPlace s f o b cells hh⟩
  | zipInPlace s t f =>
    simp only [inScope, Bool.and_eq_true] at hs
    obtain ⟨o, b, cells, hh⟩ := operand hi hs.1
    obtain ⟨o2, b2, cells2, hh2⟩ := operand hi hs.2
    by_cases hsh : o.cols ≠ o2.cols ∨ o.rows ≠ o2.rows
    · exact ⟨h, by simp only [step, obj, hh.slot, hh2.slot, bind, Except.bind, hsh, if_true],
        .zipThrow s t f o o2 b b2 cells cells2 hh hh2 hsh⟩
    · have k3 : o.size ≤ cells2.length := same_size hsh ▸ hh2.fits
      have hl := length_zipWith_take_le f hh.fits k3
      exact ⟨_, by simp only [step, obj, hh.slot, hh2.slot, ptr, hh.data, hh2.data, hh.read, read_live hh2.live k3,
          bind, Except.bind, hsh, if_false]; exact store_live hh.live hl,
        .zipInPlace s t f o o2 b b2 cells cells2 hh hh2 hsh⟩
  | mapNew d a f =>
    simp only [inScope, Bool.and_eq_true] at hs
    obtain ⟨o, b, cells, hh⟩ := operand hi hs.2
    exact ⟨_, by simp only [step, obj, hh.slot, ptr, hh.data, hh.read, bind, Except.bind] <;> rfl,
      .mapNew d a f o b cells hh⟩
  | zipNew d a b f =>
    simp only [inScope, Bool.and_eq_true] at hs
    obtain ⟨o, p, cells, hh⟩ := operand hi hs.1.2
    obtain ⟨o2, p2, cells2, hh2⟩ := operand hi hs.2
    by_cases hsh : o.cols ≠ o2.cols ∨ o.rows ≠ o2.rows
    · exact ⟨h, by simp only [step, obj, hh.slot, hh2.slot, bind, Except.bind, hsh, if_true],
        .zipNewThrow d a b f o o2 p p2 cells cells2 hh hh2 hsh⟩
    · have k3 : o.size ≤ cells2.length := same_size hsh ▸ hh2.fits
      exact ⟨_, by simp only [step, obj, hh.slot, hh2.slot, ptr, hh.data, hh2.data, hh.read, read_live hh2.live k3,
          bind, Except.bind, hsh, if_false] <;> rfl,
        .zipNew d a b f o o2 p p2 cells cells2 hh hh2 hsh⟩
  | powNew d a f =>
    simp only [inScope, Bool.and_eq_true] at hs
    obtain ⟨o, b, cells, hh⟩ := operand hi hs.2
    exact ⟨_, by simp only [step, obj, hh.slot, ptr, hh.data, hh.read, bind, Except.bind]
                 exact allocInto_store h d _ _ _ _ true (by simp),
      .powNew d a f o b cells hh⟩

theorem take_covers {o : RObj} {cells : List α} (g : o.size ≤ cells.length) :
    o.rows * o.cols ≤ (cells.take o.size).length := by
  rw [List.length_take_of_le g]; exact Nat.le_refl _

theorem Steps.inv {h h' : Heap α} (hi : Inv h) {op : HOp α} (st : Steps h op h') : Inv h' := by
  -- the released heap of an assignment or destructor, ready for rebinding `s`
  have rel : ∀ {s me h1}, h.slots s = some me → h.release me = .ok h1 → Inv (h1.setSlot s none) := by
    intro s me h1 hs hr
    obtain ⟨h2, r1, r2⟩ := inv_release hi hs
    rw [hr] at r1; cases r1; exact r2
  cases st with
  | construct s r c v => exact inv_allocInto (inv_clear hi s) r c _ true (by simp)
  | wrap s e r c he hl => exact inv_wrap (inv_clear hi s) he hl
  | copyCtor s t o b cells ht => exact inv_allocInto (inv_clear hi s) _ _ _ true (take_covers ht.fits)
  | moveCtor s t o hne ht => exact inv_transfer (inv_clear hi s) hne ht
  | copySelf | moveSelf | zipThrow | zipNewThrow => exact hi
  | copyAssign s t me o b cells h1 _ hs hr ht => exact inv_allocInto (rel hs hr) _ _ _ _ (take_covers ht.fits)
  | moveAssign s t me o h1 hne hs ht hr =>
    exact inv_transfer (rel hs hr) (Ne.symm hne) ((release_frame hr).1 ▸ ht)
  | write s r c v o b cells hh => exact inv_setBuf hi hh.live (by simp)
  | extWrite e i v cells _ hb => exact inv_setBuf hi hb (by simp)
  | destroy s o h1 hs hr => exact rel hs hr
  | mapInPlace s f o b cells hh =>
    exact inv_setBuf hi hh.live (length_overwrite (length_map_take_le f hh.fits))
  | zipInPlace s t f o o2 b b2 cells cells2 hh hh2 g =>
    exact inv_setBuf hi hh.live (length_overwrite (length_zipWith_take_le f hh.fits (same_size g ▸ hh2.fits)))
  | mapNew d a f o b cells hh | powNew d a f o b cells hh =>
    exact inv_allocInto (inv_clear hi d) _ _ _ true (by rw [List.length_map]; exact take_covers hh.fits)
  | zipNew d a b f o o2 p p2 cells cells2 hh hh2 g =>
    exact inv_allocInto (inv_clear hi d) _ _ _ true
      (by rw [List.length_zipWith, List.length_take_of_le hh.fits,
            List.length_take_of_le (same_size g ▸ hh2.fits), Nat.min_self]
          exact Nat.le_refl _)

theorem steps_of_step {h h' : Heap α} (hi : Inv h) {op : HOp α} (hs : h.inScope op = true)
    (he : h.step op = .ok h') : Steps h op h' := by
  obtain ⟨h2, e2, st⟩ := step_rel hi op hs
  rw [he] at e2; cases e2; exact st

theorem inv_of_step {h h' : Heap α} (hi : Inv h) {op : HOp α} (hs : h.inScope op = true)
    (he : h.step op = .ok h') : Inv h' :=
  (steps_of_step hi hs he).inv hi

theorem inv_init (exts : List (List α)) : Inv (init exts) := by
  refine ⟨Nat.le_refl _, ?_, ?_, ?_, ?_⟩
  · intro b hb
    simp only [init] at hb ⊢
    rw [List.getElem?_eq_none hb]
  · intro e he
    simp only [init] at he ⊢
    rw [List.getElem?_eq_getElem he]; exact ⟨_, rfl⟩
  · intro s o b h1; simp [init] at h1
  · intro s o b h1; simp [init] at h1

theorem run_cons {h h' : Heap α} {op : HOp α} {ops : List (HOp α)} (hr : h.run (op :: ops) = .ok h') :
    h.inScope op = true ∧ ∃ h1, h.step op = .ok h1 ∧ h1.run ops = .ok h' := by
  simp only [run] at hr
  by_cases hs : h.inScope op = true
  · simp only [hs, if_true] at hr
    cases he : h.step op with
    | ok h1 => rw [he] at hr; exact ⟨hs, h1, rfl, hr⟩
    | error f => rw [he] at hr; cases hr
  · simp [hs] at hr

/-- A run from an invariant state ends in an invariant state or stops at an out-of-scope call;
    no other fault is possible. -/
theorem run_ok {h : Heap α} (hi : Inv h) (ops : List (HOp α)) :
    (∃ h', h.run ops = .ok h' ∧ Inv h') ∨ h.run ops = .error .illScoped := by
  induction ops generalizing h with
  | nil => exact .inl ⟨h, rfl, hi⟩
  | cons op ops ih =>
    simp only [run]
    by_cases hs : h.inScope op = true
    · obtain ⟨h', e1, st⟩ := step_rel hi op hs
      simp only [hs, if_true, e1]
      exact ih (st.inv hi)
    · simp [hs]

theorem run_no_fault {h : Heap α} (hi : Inv h) (ops : List (HOp α)) {f : Fault} (hf : f ≠ .illScoped) :
    h.run ops ≠ .error f := by
  intro e
  rcases run_ok hi ops with ⟨h', e', _⟩ | e' <;> rw [e'] at e <;> cases e
  exact hf rfl

theorem inv_of_run {h h' : Heap α} (hi : Inv h) {ops : List (HOp α)} (hr : h.run ops = .ok h') : Inv h' := by
  rcases run_ok hi ops with ⟨h2, e2, i2⟩ | e
  · rw [hr] at e2; cases e2; exact i2
  · rw [hr] at e; cases e

end Heap

/-! ### The states a completing run passes through (for the audit Props/NonVacuous/Multi.lean, which
    evaluates one concrete run and names its intermediate states) -/

/-- The state a run ends in (the empty heap when it faults; only used on runs that complete). -/
def Heap.okOr {α : Type} (x : Except Fault (Heap α)) : Heap α :=
  match x with
  | .ok h => h
  | .error _ => {}

theorem Heap.run_append_ok {α : Type} {h h' : Heap α} {a b : List (HOp α)} (hr : h.run (a ++ b) = .ok h') :
    ∃ h1, h.run a = .ok h1 ∧ h1.run b = .ok h' := by
  induction a generalizing h with
  | nil => exact ⟨h, rfl, hr⟩
  | cons op a ih =>
    obtain ⟨hs, h1, e1, r1⟩ := Heap.run_cons hr
    obtain ⟨h2, e2, r2⟩ := ih r1
    exact ⟨h2, by simp only [Heap.run, hs, if_true, e1]; exact e2, r2⟩

theorem Heap.run_take {α : Type} {h h' : Heap α} {ops : List (HOp α)} (hr : h.run ops = .ok h') (k : Nat) :
    h.run (ops.take k) = .ok (Heap.okOr (h.run (ops.take k))) := by
  rw [← List.take_append_drop k ops] at hr
  obtain ⟨h1, e1, _⟩ := Heap.run_append_ok hr
  rw [e1]; rfl

/-- The states a completing run passes through, `okOr (h.run (ops.take k))` after `k` operations,
    are linked by the run itself: from the `k`-th, the next `m` operations lead to the `k + m`-th. -/
theorem Heap.run_segment {α : Type} {h h' : Heap α} {ops : List (HOp α)} (hr : h.run ops = .ok h') (k m : Nat) :
    (Heap.okOr (h.run (ops.take k))).run ((ops.drop k).take m) = .ok (Heap.okOr (h.run (ops.take (k + m)))) := by
  have e := Heap.run_take hr (k + m)
  generalize Heap.okOr (h.run (ops.take (k + m))) = X at e ⊢
  rw [List.take_add] at e
  obtain ⟨h1, e1, e2⟩ := Heap.run_append_ok e
  rw [e1]; exact e2

theorem Heap.run_drop {α : Type} {h h' : Heap α} {ops : List (HOp α)} (hr : h.run ops = .ok h') (k : Nat) :
    (Heap.okOr (h.run (ops.take k))).run (ops.drop k) = .ok h' := by
  rw [← List.take_append_drop k ops] at hr
  obtain ⟨h1, e1, e2⟩ := Heap.run_append_ok hr
  rw [e1]; exact e2

end Pops
