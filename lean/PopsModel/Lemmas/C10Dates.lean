/-
  Lemmas (`c10d_`) for Props/C10Dates.lean: registration of a treatment at the step containing its
  date, the events of `manage` derived from the registered list, and the tagged trace of the
  treatments action over a run: restricted to one treatment it is that treatment's own trace
  (`c10d_trace_filter`), in which only the start step and the end step contribute.
-/
import PopsModel.Model.TreatRun
import PopsModel.Props.C07
import PopsModel.Props.C10
import PopsModel.Lemmas.Actions
namespace Pops
open Date

theorem c10d_lookup_iff (start end_ : Date) (steps : List Step) (h : TilesCalendar start end_ steps = true)
    (x : Date) (hx : x.Valid) (k : Nat) :
    scheduleActionDate steps x = .ok k ↔ ∃ st, steps[k]? = some st ∧ st.contains x = true := by
  obtain ⟨_, p2, _, _⟩ := C07_partition start end_ steps h x hx
  constructor
  · intro hk
    obtain ⟨l1, _, _⟩ := lookup_first x steps 0
    obtain ⟨j, st, e1, e2, e3⟩ := l1 k hk
    have : k = j := by omega
    subst this
    exact ⟨st, e2, e3⟩
  · rintro ⟨st, h1, h2⟩
    exact p2 k st h1 h2

theorem c10d_addTreatment_eq (steps : List Step) (date : Date) (n : Nat) :
    addTreatment steps date n =
      match scheduleActionDate steps date with
      | .error e => .error e
      | .ok s =>
        if n = 0 then .ok ⟨false, s, s⟩
        else match scheduleActionDate steps (iter Date.addDay n date) with
          | .error e => .error e
          | .ok e => .ok ⟨true, s, e⟩ := by
  unfold addTreatment
  cases scheduleActionDate steps date with
  | error e => rfl
  | ok s =>
    by_cases hn : n = 0
    · simp only [hn, bind, Except.bind, if_true, pure, Except.pure]
    · simp only [hn, bind, Except.bind, if_false]
      cases scheduleActionDate steps (iter Date.addDay n date) <;> rfl

theorem c10d_actionGen_treatments (inp : StepInputs) (step : Nat) (l : Land) :
    actionGen inp step .treatments l = inp.treatEvents.flatMap (eventOps inp) := by
  simp only [actionGen]
  congr 1

theorem c10d_eventsAt_flatMap (ts : List Treatment) (inp : StepInputs) (step : Nat) :
    (eventsAt ts step).flatMap (eventOps inp) = ts.flatMap (·.opsAt inp step) := by
  induction ts with
  | nil => rfl
  | cons t rest ih =>
    have e1 : eventsAt (t :: rest) step =
        (match t.eventOf step with | some ev => [ev] | none => []) ++ eventsAt rest step := by
      unfold eventsAt; rw [List.filterMap_cons]; cases t.eventOf step <;> rfl
    rw [e1, List.flatMap_append, ih, List.flatMap_cons]
    congr 1
    unfold Treatment.eventOf Treatment.opsAt Treatment.applyOps Treatment.endOps
    cases t.1.eventAt step <;> simp

theorem c10d_opsAt_tags (ts : List Treatment) (inputAt : Nat → Option StepInputs) (inp : StepInputs) (step : Nat)
    (hat : inputAt step = some inp) :
    (treatTagsAt ts step).flatMap (tagOps ts inputAt) = ts.flatMap (·.opsAt inp step) := by
  have e : ts.flatMap (·.opsAt inp step) = (List.range ts.length).flatMap (fun i => (ts[i]!).opsAt inp step) := by
    conv => lhs; rw [← map_getElem!_range ts]
    rw [List.flatMap_map]
  rw [e, treatTagsAt, List.flatMap_assoc]
  apply flatMap_congr_mem
  intro i _
  simp only [Treatment.opsAt, Treatment.applyOps, Treatment.endOps]
  cases (ts[i]!).1.eventAt step <;>
    simp only [tagsOf, List.flatMap_cons, List.flatMap_nil, List.append_nil, tagOps, hat]

theorem c10d_treatTrace_succ (ts : List Treatment) (first n : Nat) :
    treatTrace ts first (n + 1) = treatTagsAt ts first ++ treatTrace ts (first + 1) n := by
  unfold treatTrace
  rw [List.range_succ_eq_map, List.flatMap_cons, List.flatMap_map, Nat.add_zero]
  congr 2
  funext k
  exact congrArg _ (Nat.succ_add_eq_add_succ first k).symm

theorem c10d_tag_step (ts : List Treatment) (step : Nat) (tag : TreatTag) (h : tag ∈ treatTagsAt ts step) :
    tag.1 = step ∧ tag.2.1 < ts.length ∧
    ((tag.2.2 = false ∧ (ts[tag.2.1]!).1.eventAt step = .apply) ∨ (tag.2.2 = true ∧ (ts[tag.2.1]!).1.eventAt step = .finish)) := by
  unfold treatTagsAt at h
  obtain ⟨i, hi, ht⟩ := List.mem_flatMap.mp h
  rw [List.mem_range] at hi
  cases he : (ts[i]!).1.eventAt step <;> rw [he] at ht <;> simp only [tagsOf, List.mem_singleton, List.not_mem_nil] at ht
  · subst ht; exact ⟨rfl, hi, Or.inl ⟨rfl, he⟩⟩
  · subst ht; exact ⟨rfl, hi, Or.inr ⟨rfl, he⟩⟩

theorem c10d_treatOpsOfRun (cfg : StepCfg) (ts : List Treatment) (inps : List StepInputs) (first : Nat)
    (inputAt : Nat → Option StepInputs)
    (hat : ∀ k inp, inps[k]? = some inp → inputAt (first + k) = some inp)
    (hev : ∀ k inp, inps[k]? = some inp → inp.treatEvents = eventsAt ts (first + k)) :
    treatOpsOfRun cfg inps first =
      if cfg.useTreatments then (treatTrace ts first inps.length).flatMap (tagOps ts inputAt) else [] := by
  induction inps generalizing first with
  | nil => simp [treatOpsOfRun, treatTrace]
  | cons inp rest ih =>
    have h0 := hev 0 inp rfl
    have a0 := hat 0 inp rfl
    rw [Nat.add_zero] at h0 a0
    have ih' := ih (first + 1) (fun k x hx => Nat.succ_add_eq_add_succ first k ▸ hat (k + 1) x hx)
      (fun k x hx => Nat.succ_add_eq_add_succ first k ▸ hev (k + 1) x hx)
    simp only [treatOpsOfRun, List.length_cons]
    rw [ih', c10d_treatTrace_succ]
    have hr : cfg.runs first .treatments = cfg.useTreatments := rfl
    rw [hr]
    cases cfg.useTreatments with
    | false => simp
    | true =>
      simp only [if_true, List.flatMap_append]
      rw [c10d_actionGen_treatments, h0, c10d_eventsAt_flatMap, c10d_opsAt_tags ts inputAt inp first a0]

theorem c10d_eventAt_apply (t : TreatSpec) (k : Nat) : t.eventAt k = .apply ↔ k = t.start := by
  unfold TreatSpec.eventAt
  by_cases h1 : t.start = k
  · simp [h1]
  · have : ¬ k = t.start := fun h => h1 h.symm
    simp only [h1, if_false, this, iff_false]
    split <;> simp

theorem c10d_trace_filter (ts : List Treatment) (first n i : Nat) (hi : i < ts.length) (q : Bool → Bool) :
    (treatTrace ts first n).filter (fun tag => tag.2.1 == i && q tag.2.2) =
      (List.range n).flatMap fun k =>
        (tagsOf (first + k) i ((ts[i]!).1.eventAt (first + k))).filter fun tag => q tag.2.2 := by
  have own : ∀ (s j : Nat) (ev : TreatEvent), (tagsOf s j ev).filter (fun tag => tag.2.1 == i && q tag.2.2) =
      if j = i then (tagsOf s j ev).filter (fun tag => q tag.2.2) else [] := by
    intro s j ev
    cases ev <;> by_cases h : j = i <;> simp [tagsOf, h, List.filter_cons]
  unfold treatTrace treatTagsAt
  rw [List.filter_flatMap]
  congr 1
  funext k
  rw [List.filter_flatMap]
  simp only [own]
  rw [flatMap_range_eq, if_pos hi]

theorem c10d_trace_filter_apply (ts : List Treatment) (first n i : Nat) (hi : i < ts.length) :
    (treatTrace ts first n).filter (fun tag => tag.2.1 == i && !tag.2.2) =
      if first ≤ (ts[i]!).1.start ∧ (ts[i]!).1.start < first + n then [((ts[i]!).1.start, i, false)] else [] := by
  have own : ∀ s, (tagsOf s i ((ts[i]!).1.eventAt s)).filter (fun tag => !tag.2.2) =
      if s = (ts[i]!).1.start then [(s, i, false)] else [] := by
    intro s
    have hw := c10d_eventAt_apply (ts[i]!).1 s
    cases he : (ts[i]!).1.eventAt s
    · rw [if_pos (hw.mp he)]; rfl
    all_goals rw [if_neg (fun h => by rw [hw.mpr h] at he; cases he)]; rfl
  rw [c10d_trace_filter ts first n i hi not]
  simp only [own]
  rw [flatMap_range_shift n first _ fun k => [(first + k, i, false)]]
  split <;> rename_i h
  · rw [Nat.add_sub_cancel' h.1]
  · rfl

theorem c10d_trace_filter_finish (ts : List Treatment) (first n i : Nat) (hi : i < ts.length)
    (hlt : (ts[i]!).1.pesticide = true → (ts[i]!).1.start < (ts[i]!).1.end_) :
    (treatTrace ts first n).filter (fun tag => tag.2.1 == i && tag.2.2) =
      if (ts[i]!).1.pesticide = true ∧ first ≤ (ts[i]!).1.end_ ∧ (ts[i]!).1.end_ < first + n
      then [((ts[i]!).1.end_, i, true)] else [] := by
  have own : ∀ s, (tagsOf s i ((ts[i]!).1.eventAt s)).filter (fun tag => tag.2.2) =
      if s = (ts[i]!).1.end_ then (if (ts[i]!).1.pesticide = true then [(s, i, true)] else []) else [] := by
    intro s
    have hw := (C10_when (ts[i]!).1 hlt s).2.1
    cases he : (ts[i]!).1.eventAt s
    case finish => rw [if_pos (hw.mp he).2, if_pos (hw.mp he).1]; rfl
    all_goals
      by_cases h1 : s = (ts[i]!).1.end_
      · rw [if_pos h1, if_neg (fun h2 => by rw [hw.mpr ⟨h2, h1⟩] at he; cases he)]; rfl
      · rw [if_neg h1]; rfl
  rw [c10d_trace_filter ts first n i hi fun b => b]
  simp only [own]
  rw [flatMap_range_shift n first _ fun k => if (ts[i]!).1.pesticide = true then [(first + k, i, true)] else []]
  by_cases hp : (ts[i]!).1.pesticide = true
  · by_cases h : first ≤ (ts[i]!).1.end_ ∧ (ts[i]!).1.end_ < first + n
    · rw [if_pos h, if_pos hp, if_pos ⟨hp, h⟩, Nat.add_sub_cancel' h.1]
    · rw [if_neg h, if_neg (fun x => h x.2)]
  · rw [if_neg hp, ite_self, if_neg (fun x => hp x.1)]

theorem c10d_mem_clearAfter (ts : List Treatment) (s : Nat) (t : Treatment) :
    t ∈ clearAfter ts s ↔ (t ∈ ts ∧ t.1.start ≤ s) := by
  unfold clearAfter
  simp only [List.mem_filter, Bool.not_eq_true', decide_eq_false_iff_not, Nat.not_lt]

theorem c10d_eventsAt_clear_before (ts : List Treatment) (s step : Nat) (hs : step ≤ s)
    (hlt : ∀ t ∈ ts, t.1.pesticide = true → t.1.start < t.1.end_) :
    eventsAt (clearAfter ts s) step = eventsAt ts step := by
  induction ts with
  | nil => rfl
  | cons t rest ih =>
    have ih' := ih (fun t ht => hlt t (List.mem_cons_of_mem _ ht))
    unfold eventsAt clearAfter at ih' ⊢
    by_cases hk : t.1.start > s
    · have hnone : t.eventOf step = none := by
        have hw := C10_when t.1 (hlt t (List.mem_cons_self ..)) step
        have : t.1.eventAt step = .nothing := hw.2.2.mpr ⟨by omega, fun ⟨hp, he⟩ => by
          have := hlt t (List.mem_cons_self ..) hp; omega⟩
        simp only [Treatment.eventOf, this]
      rw [List.filter_cons_of_neg (by simpa using hk), List.filterMap_cons, hnone]
      exact ih'
    · rw [List.filter_cons_of_pos (by simpa using hk), List.filterMap_cons, List.filterMap_cons, ih']

theorem c10d_eventOf_finish_flag (t : Treatment) (step : Nat) (ev : Bool × Bool × TreatApp × List Rat)
    (h : t.eventOf step = some ev) : (ev.1 = false ↔ t.1.eventAt step = .apply) := by
  unfold Treatment.eventOf at h
  cases he : t.1.eventAt step <;> rw [he] at h <;> simp only [Option.some.injEq, reduceCtorEq] at h
  · subst h; simp
  · subst h; simp

/-! ### executable comparison of an error result (for concrete instances) -/

def c10d_fails {α : Type} (r : Except ErrKind α) (e : ErrKind) : Bool :=
  match r with
  | .error e' => decide (e' = e)
  | .ok _ => false

theorem c10d_eq_error {α : Type} {r : Except ErrKind α} {e : ErrKind} (h : c10d_fails r e = true) : r = .error e := by
  cases r with
  | ok a => cases h
  | error e' => simp only [c10d_fails, decide_eq_true_eq] at h; rw [h]

end Pops
