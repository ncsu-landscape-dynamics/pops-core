/-
  Step lists satisfying `stepWF` and `chainOK`: ordered, covering, looked up by first index, and
  produced by the loop. `contains_iff_ord` is for valid dates, `_bounded` also for 30 February.
-/
import PopsModel.Lemmas.Scheduler
import PopsModel.Model.DatePred
namespace Pops
open Date

theorem stepWF_iff (st : Step) : stepWF st = true ↔ st.s.Valid ∧ st.e.Valid ∧ st.s.ord ≤ st.e.ord := by
  simp only [stepWF, Bool.and_eq_true, decide_eq_true_eq]
  constructor
  · rintro ⟨⟨a, b⟩, c⟩; exact ⟨a, b, (le_iff_ord a.bounded b.bounded).mp c⟩
  · rintro ⟨a, b, c⟩; exact ⟨⟨a, b⟩, (le_iff_ord a.bounded b.bounded).mpr c⟩

theorem contains_iff_ord_bounded (st : Step) (x : Date) (hx : x.Bounded) (hs : st.s.Bounded) (he : st.e.Bounded) :
    st.contains x = true ↔ st.s.ord ≤ x.ord ∧ x.ord ≤ st.e.ord := by
  simp only [Step.contains, Bool.and_eq_true]
  rw [ge_iff_ord hx hs, le_iff_ord hx he]

theorem contains_iff_ord (st : Step) (x : Date) (hx : x.Valid) (hs : st.s.Valid) (he : st.e.Valid) :
    st.contains x = true ↔ st.s.ord ≤ x.ord ∧ x.ord ≤ st.e.ord :=
  contains_iff_ord_bounded st x hx.bounded hs.bounded he.bounded

theorem tiles_chain {start end_ : Date} {L : List Step} (h : TilesCalendar start end_ L = true) :
    L.all stepWF = true ∧ chainOK L = true := by
  simp only [TilesCalendar, Bool.and_eq_true] at h
  exact ⟨h.1.1.1.2, h.1.1.2⟩

theorem chain_sorted (a : Step) (rest : List Step)
    (hwf : (a :: rest).all stepWF = true) (hc : chainOK (a :: rest) = true) :
    ∀ st ∈ rest, a.e.ord < st.s.ord := by
  induction rest generalizing a with
  | nil => intro st h; cases h
  | cons b rest ih =>
    simp only [List.all_cons, Bool.and_eq_true] at hwf
    obtain ⟨ha, hb, hr⟩ := hwf
    simp only [chainOK, Bool.and_eq_true, beq_iff_eq] at hc
    obtain ⟨hbs, hc'⟩ := hc
    obtain ⟨as_, ae, ao⟩ := (stepWF_iff a).mp ha
    obtain ⟨bs, be, bo⟩ := (stepWF_iff b).mp hb
    have h1 : a.e.ord < b.s.ord := by rw [hbs]; exact (addDay_spec _ ae).2
    intro st hst
    rcases List.mem_cons.mp hst with rfl | hmem
    · exact h1
    · have := ih b (by simp [hb, hr]) hc' st hmem
      omega

theorem chainOK_tail (a : Step) (rest : List Step) (h : chainOK (a :: rest) = true) :
    chainOK rest = true := by
  cases rest with
  | nil => rfl
  | cons b r => simp only [chainOK, Bool.and_eq_true] at h; exact h.2

theorem chain_pairwise (L : List Step) (hwf : L.all stepWF = true) (hc : chainOK L = true)
    (j k : Nat) (hjk : j < k) (st st' : Step) (h1 : L[j]? = some st) (h2 : L[k]? = some st') :
    st.e.ord < st'.s.ord := by
  induction L generalizing j k with
  | nil => simp at h1
  | cons a rest ih =>
    have hwf' : rest.all stepWF = true := by
      simp only [List.all_cons, Bool.and_eq_true] at hwf; exact hwf.2
    cases k with
    | zero => omega
    | succ k' =>
      simp only [List.getElem?_cons_succ] at h2
      cases j with
      | zero =>
        simp only [List.getElem?_cons_zero, Option.some.injEq] at h1
        exact h1 ▸ chain_sorted a rest hwf hc st' (List.mem_of_getElem? h2)
      | succ j' =>
        simp only [List.getElem?_cons_succ] at h1
        exact ih hwf' (chainOK_tail a rest hc) j' k' (by omega) h1 h2

/-- With `x = y`: no two steps share a date. -/
theorem chain_ordered (L : List Step) (hwf : L.all stepWF = true) (hc : chainOK L = true)
    (x y : Date) (hx : x.Valid) (hy : y.Valid) (hxy : x.ord ≤ y.ord) (j k : Nat) (s1 s2 : Step)
    (h1 : L[j]? = some s1) (h2 : L[k]? = some s2) (c1 : s1.contains x = true) (c2 : s2.contains y = true) :
    j ≤ k := by
  have w1 := (stepWF_iff s1).mp ((List.all_eq_true.mp hwf) s1 (List.mem_of_getElem? h1))
  have w2 := (stepWF_iff s2).mp ((List.all_eq_true.mp hwf) s2 (List.mem_of_getElem? h2))
  have o1 := (contains_iff_ord s1 x hx w1.1 w1.2.1).mp c1
  have o2 := (contains_iff_ord s2 y hy w2.1 w2.2.1).mp c2
  refine Nat.le_of_not_lt fun hkj => ?_
  have := chain_pairwise L hwf hc k j hkj s2 s1 h2 h1
  omega

theorem chain_cover (L : List Step) (hwf : L.all stepWF = true) (hc : chainOK L = true)
    (x : Date) (hx : x.Valid) (a b : Step) (ha : L.head? = some a) (hb : L.getLast? = some b)
    (h1 : a.s.ord ≤ x.ord) (h2 : x.ord ≤ b.e.ord) :
    ∃ (k : Nat) (st : Step), L[k]? = some st ∧ st.contains x = true := by
  induction L generalizing a with
  | nil => simp at ha
  | cons a0 rest ih =>
    simp only [List.head?_cons, Option.some.injEq] at ha
    subst ha
    simp only [List.all_cons, Bool.and_eq_true] at hwf
    obtain ⟨hwa, hwr⟩ := hwf
    obtain ⟨as_, ae, ao⟩ := (stepWF_iff a0).mp hwa
    by_cases hxe : x.ord ≤ a0.e.ord
    · exact ⟨0, a0, rfl, (contains_iff_ord a0 x hx as_ ae).mpr ⟨h1, hxe⟩⟩
    · cases rest with
      | nil =>
        simp only [List.getLast?_singleton, Option.some.injEq] at hb
        subst hb; omega
      | cons b0 rest' =>
        simp only [chainOK, Bool.and_eq_true, beq_iff_eq] at hc
        obtain ⟨hbs, hc'⟩ := hc
        have hge : b0.s.ord ≤ x.ord := by
          have := lt_addDay_iff x a0.e hx ae
          rw [hbs]; omega
        rw [List.getLast?_cons_cons] at hb
        obtain ⟨k, st, hk, hcon⟩ := ih hwr hc' b0 (by simp) hb hge
        exact ⟨k + 1, st, by rw [List.getElem?_cons_succ]; exact hk, hcon⟩

/-- `schedule_action_date` is a search for the first step containing the date. -/
theorem scheduleActionDateAux_eq (x : Date) (L : List Step) (i : Nat) :
    scheduleActionDateAux x L i =
      match L.findIdx? (·.contains x) with
      | some j => .ok (i + j)
      | none => .error .invalid_argument := by
  induction L generalizing i with
  | nil => rfl
  | cons a rest ih =>
    rw [List.findIdx?_cons]
    by_cases hc : a.contains x = true
    · rw [if_pos hc]; exact if_pos hc
    · rw [if_neg hc]
      refine (if_neg hc).trans ((ih (i + 1)).trans ?_)
      cases rest.findIdx? (·.contains x) with
      | none => rfl
      | some j => exact congrArg Except.ok (show i + 1 + j = i + (j + 1) by omega)

theorem lookup_first (x : Date) (L : List Step) (i : Nat) :
    (∀ k, scheduleActionDateAux x L i = .ok k →
        ∃ (j : Nat) (st : Step), k = i + j ∧ L[j]? = some st ∧ st.contains x = true) ∧
    (∀ e, scheduleActionDateAux x L i = .error e →
        e = .invalid_argument ∧ ∀ st ∈ L, st.contains x = false) ∧
    (∀ (j : Nat) (st : Step), L[j]? = some st → st.contains x = true →
        ∃ j', j' ≤ j ∧ scheduleActionDateAux x L i = .ok (i + j')) := by
  rw [scheduleActionDateAux_eq]
  cases hf : L.findIdx? (·.contains x) with
  | none =>
    rw [List.findIdx?_eq_none_iff] at hf
    refine ⟨fun k h => (by cases h), fun e h => ⟨(by cases h; rfl), hf⟩, fun j st hj hc => ?_⟩
    rw [hf st (List.mem_of_getElem? hj)] at hc; cases hc
  | some j' =>
    obtain ⟨hlt, hp, hmin⟩ := List.findIdx?_eq_some_iff_getElem.mp hf
    refine ⟨fun k h => ?_, fun e h => (by cases h), fun j st hj hc => ⟨j', ?_, rfl⟩⟩
    · cases h; exact ⟨j', _, rfl, List.getElem?_eq_getElem hlt, hp⟩
    · refine Nat.le_of_not_lt fun hlt' => hmin j hlt' ?_
      obtain ⟨hj', e⟩ := List.getElem?_eq_some_iff.mp hj
      rw [e]; exact hc

/-- The loop specification implies the calendar predicates of C07; the last conjunct is what
    `C07_day_steps` reads the year rule from. -/
theorem Tiles.calendar {nx : Date → Date} {end_ date : Date} {L : List Step}
    (hg : GoodSucc nx) (h : Tiles nx end_ date L) (hv : date.Valid) :
    L.all stepWF = true ∧ chainOK L = true ∧ L.all (fun st => st.s.le end_) = true ∧
    (∀ a, L.head? = some a → a.s = date) ∧ (L ≠ [] → lastEndOK end_ L = true) ∧
    (∀ st ∈ L, st.e.addDay = nx st.s) := by
  induction h with
  | nil hle => simp [chainOK]
  | @cons date rest hle ht ih =>
    obtain ⟨v1, o1⟩ := hg date hv
    obtain ⟨i1, i2, i3, i4, i5, i6⟩ := ih v1
    have v2 := subDay_valid _ v1
    have hwf : stepWF ⟨date, (nx date).subtractDay⟩ = true := by
      rw [stepWF_iff]; refine ⟨hv, v2, ?_⟩
      exact (lt_iff_le_subDay date (nx date) hv v1).mp o1
    have hadd : (nx date).subtractDay.addDay = nx date := addDay_subDay _ v1
    refine ⟨by simp [hwf, i1], ?_, by simp [hle, i3], by simp, ?_, ?_⟩
    · cases ht with
      | nil _ => simp [chainOK]
      | cons hle' ht' =>
        simp only [chainOK, Bool.and_eq_true, beq_iff_eq]
        exact ⟨hadd.symm, i2⟩
    · intro _
      cases ht with
      | nil hle' =>
        simp only [lastEndOK, hadd]
        simpa [Date.le] using hle'
      | cons hle' ht' =>
        simp only [lastEndOK]
        exact i5 (by simp)
    · intro st hst
      rcases List.mem_cons.mp hst with rfl | hm
      · exact hadd
      · exact i6 st hm

theorem make_tiles {start end_ : Date} {u : StepUnit} {n : Nat} {sc : Scheduler}
    (hs : start.Valid) (he : end_.Valid) (hn : StepOK u n)
    (hmk : Scheduler.make start end_ u n = .ok sc) :
    start.lt end_ = true ∧ Tiles (increaseDate u n) end_ start sc.steps := by
  unfold Scheduler.make at hmk
  split at hmk; · cases hmk
  rename_i hge
  split at hmk; · cases hmk
  split at hmk; · cases hmk
  split at hmk; · cases hmk
  cases hmk
  exact ⟨by simpa [Date.ge] using hge, stepsLoop_tiles u n hn end_ he _ start hs (Nat.le_refl _)⟩

end Pops
