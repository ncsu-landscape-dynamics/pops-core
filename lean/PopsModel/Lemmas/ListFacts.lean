/-
  Facts about core `List` (`getElem!`, `set`, `zip`, `flatMap`, `range'`, folds that write one entry per
  element) and about `Except` that do not mention the model. The facts named `act_…` are the list
  facts of the action lemmas (Lemmas/Actions.lean), which every later file uses as well.
-/
namespace Pops

theorem except_bind_ok {ε α β : Type} {x : Except ε α} {f : α → Except ε β} {b : β}
    (h : (x >>= f) = .ok b) : ∃ a, x = .ok a ∧ f a = .ok b := by
  cases x with
  | error e => cases h
  | ok a => exact ⟨a, rfl, h⟩

theorem except_map_ok {ε α β : Type} {x : Except ε α} {f : α → β} {b : β}
    (h : x.map f = .ok b) : ∃ a, x = .ok a ∧ f a = b := by
  cases x with
  | error e => cases h
  | ok a => exact ⟨a, rfl, Except.ok.inj h⟩

theorem act_getElem!_set_ne {α : Type} [Inhabited α] (l : List α) {k k0 : Nat} (a : α) (h : k ≠ k0) :
    (l.set k0 a)[k]! = l[k]! := by
  rw [List.getElem!_eq_getElem?_getD, List.getElem!_eq_getElem?_getD, List.getElem?_set_ne (Ne.symm h)]

theorem act_getElem!_set_self {α : Type} [Inhabited α] (l : List α) {k : Nat} (a : α) (h : k < l.length) :
    (l.set k a)[k]! = a := by
  rw [List.getElem!_eq_getElem?_getD, List.getElem?_set_self h]; rfl

theorem act_getElem!_ge {α : Type} [Inhabited α] {l : List α} {k : Nat} (h : l.length ≤ k) : l[k]! = default := by
  rw [List.getElem!_eq_getElem?_getD, List.getElem?_eq_none h]; rfl

theorem act_getElem!_mem {α : Type} [Inhabited α] {l : List α} {k : Nat} (h : k < l.length) : l[k]! ∈ l := by
  rw [getElem!_pos l k h]; exact List.getElem_mem h

theorem act_getElem?_eq_some_getElem! {α : Type} [Inhabited α] {l : List α} {k : Nat} (h : k < l.length) :
    l[k]? = some l[k]! := by
  rw [getElem!_pos l k h]; exact List.getElem?_eq_getElem h

theorem act_set_getElem!_self {α : Type} [Inhabited α] (l : List α) (k : Nat) : l.set k l[k]! = l := by
  by_cases h : k < l.length
  · rw [getElem!_pos l k h]; exact List.set_getElem_self h
  · exact List.set_eq_of_length_le (by omega)

theorem getElem!_congr {α : Type} [Inhabited α] {l l' : List α} {k k' : Nat} (h : l[k]? = l'[k']?) :
    l[k]! = l'[k']! := by
  rw [List.getElem!_eq_getElem?_getD, List.getElem!_eq_getElem?_getD, h]

theorem getElem!_of_some {α : Type} [Inhabited α] {l : List α} {k : Nat} {a : α} (h : l[k]? = some a) :
    l[k]! = a := by
  rw [List.getElem!_eq_getElem?_getD, h]; rfl

theorem inj_of_nodup_map {α γ : Type} {f : α → γ} {l : List α} (hnd : (l.map f).Nodup) {x y : α}
    (hx : x ∈ l) (hy : y ∈ l) (he : f x = f y) : x = y := by
  induction l with
  | nil => cases hx
  | cons z rest ih =>
    rw [List.map_cons, List.nodup_cons] at hnd
    rcases List.mem_cons.mp hx with rfl | hx' <;> rcases List.mem_cons.mp hy with rfl | hy'
    · rfl
    · exact absurd (he ▸ List.mem_map_of_mem hy') hnd.1
    · exact absurd (he ▸ List.mem_map_of_mem hx') hnd.1
    · exact ih hnd.2 hx' hy'

theorem getElem?_set_self_ite {β : Type} (l : List β) (k : Nat) (b : β) :
    (l.set k b)[k]? = if k < l.length then some b else none := by
  rw [List.getElem?_set_self']
  split <;> rename_i h
  · rw [List.getElem?_eq_getElem h]; rfl
  · rw [List.getElem?_eq_none (by omega)]; rfl

theorem set_eq_of_getElem? {α : Type} {l : List α} {k : Nat} {a : α} (hk : l[k]? = some a) : l.set k a = l := by
  obtain ⟨hlt, rfl⟩ := List.getElem?_eq_some_iff.mp hk
  exact List.set_getElem_self hlt

theorem map_getElem!_range {α : Type} [Inhabited α] (l : List α) : (List.range l.length).map (fun i => l[i]!) = l := by
  apply List.ext_getElem
  · simp
  · intro i h1 h2
    simp only [List.getElem_map, List.getElem_range]
    exact getElem!_pos l i h2

theorem flatMap_congr_mem {α β : Type} {l : List α} {f g : α → List β} (h : ∀ a ∈ l, f a = g a) :
    l.flatMap f = l.flatMap g := by
  rw [List.flatMap_def, List.flatMap_def, List.map_congr_left h]

/-- A loop over the `n` steps from `first` to which only step `s` contributes. -/
theorem flatMap_range_shift {β : Type} (n first s : Nat) (g : Nat → List β) :
    (List.range n).flatMap (fun k => if first + k = s then g k else []) =
      if first ≤ s ∧ s < first + n then g (s - first) else [] := by
  induction n with
  | zero => rw [if_neg (fun h => Nat.not_lt.mpr h.1 h.2)]; rfl
  | succ n ih =>
    rw [List.range_succ, List.flatMap_append, ih, List.flatMap_cons, List.flatMap_nil, List.append_nil]
    by_cases h1 : first ≤ s ∧ s < first + n
    · rw [if_pos h1, if_neg (fun h => Nat.lt_irrefl _ (h ▸ h1.2)), if_pos ⟨h1.1, Nat.lt_succ_of_lt h1.2⟩,
        List.append_nil]
    · rw [if_neg h1, List.nil_append]
      by_cases h2 : first + n = s
      · subst h2
        rw [if_pos rfl, if_pos ⟨Nat.le_add_right first n, Nat.lt_succ_self _⟩, Nat.add_sub_cancel_left]
      · rw [if_neg h2, if_neg fun h =>
          (Nat.lt_succ_iff_lt_or_eq.mp h.2).elim (fun l => h1 ⟨h.1, l⟩) (fun e => h2 e.symm)]

theorem flatMap_range_eq {β : Type} (n i : Nat) (g : Nat → List β) :
    (List.range n).flatMap (fun j => if j = i then g j else []) = if i < n then g i else [] := by
  have h := flatMap_range_shift n 0 i g
  simp only [Nat.zero_add, Nat.zero_le, true_and, Nat.sub_zero] at h
  exact h

theorem map_fst_zip_eq_take {α β : Type} : ∀ (a : List α) (b : List β), (List.zip a b).map (·.1) = a.take b.length
  | [], _ => by simp
  | _ :: _, [] => by simp
  | x :: xs, y :: ys => by
    simp only [List.zip_cons_cons, List.map_cons, List.length_cons, List.take_succ_cons]
    rw [map_fst_zip_eq_take xs ys]

theorem map_snd_zip_eq_take {α β : Type} : ∀ (a : List α) (b : List β), (List.zip a b).map (·.2) = b.take a.length
  | [], _ => by simp
  | _ :: _, [] => by simp
  | x :: xs, y :: ys => by
    simp only [List.zip_cons_cons, List.map_cons, List.length_cons, List.take_succ_cons]
    rw [map_snd_zip_eq_take xs ys]

theorem sum_take_succ (l : List Nat) (n : Nat) : (l.take (n + 1)).sum = l.headD 0 + (l.tail.take n).sum := by
  cases l with
  | nil => rw [List.take_nil, List.tail_nil, List.take_nil]; rfl
  | cons x xs => rw [List.take_succ_cons, List.sum_cons]; rfl

theorem sub_add_sub_eq {a b c x y : Int} (h1 : a - b = x) (h2 : b - c = y) : a - c = x + y := by omega

theorem act_range'_eq_map_add (s n : Nat) : List.range' s n = (List.range n).map (· + s) := by
  rw [List.range'_eq_map_range]
  apply List.map_congr_left
  intro a _; exact Nat.add_comm _ _

theorem act_mem_range'_sub {a c i : Nat} (h : a ≤ c) : i ∈ List.range' a (c - a) ↔ a ≤ i ∧ i < c := by
  rw [List.mem_range'_1, Nat.add_sub_cancel' h]

theorem act_range'_split {a c b : Nat} (h1 : a ≤ c) (h2 : c ≤ b) :
    List.range' a (b - a) = List.range' a (c - a) ++ List.range' c (b - c) := by
  have e : b - a = (c - a) + (b - c) := by rw [Nat.add_comm, Nat.sub_add_sub_cancel h2 h1]
  rw [e, ← List.range'_append_1, Nat.add_sub_cancel' h1]

/-!
  Loops that touch one entry of a raster per element of a list. `updFold_*`: the entry at `key x` is
  rewritten by `upd x` (the arrivals of the overpopulation action); position `k` ends with its old
  entry rewritten by the elements with key `k`, in order. `setFold_*`: the written value does not
  depend on the raster (`generate`, the departures of the overpopulation action).
-/

section
variable {α β : Type} (key : α → Nat)

theorem updFold_length [Inhabited β] (upd : α → β → β) (xs : List α) (l : List β) :
    (xs.foldl (fun l x => l.set (key x) (upd x (l[key x]!))) l).length = l.length := by
  induction xs generalizing l with
  | nil => rfl
  | cons x rest ih => rw [List.foldl_cons, ih, List.length_set]

theorem updFold_getElem! [Inhabited β] (upd : α → β → β) (xs : List α) (l : List β) (k : Nat) (hk : k < l.length) :
    (xs.foldl (fun l x => l.set (key x) (upd x (l[key x]!))) l)[k]! =
      (xs.filter fun x => key x == k).foldl (fun b x => upd x b) (l[k]!) := by
  induction xs generalizing l with
  | nil => rfl
  | cons x rest ih =>
    rw [List.foldl_cons, ih _ (by rw [List.length_set]; exact hk)]
    by_cases he : key x = k
    · rw [List.filter_cons_of_pos (by rw [he]; exact beq_self_eq_true k), List.foldl_cons, he,
        getElem!_of_some ((getElem?_set_self_ite l k _).trans (if_pos hk))]
    · rw [List.filter_cons_of_neg (by rw [beq_iff_eq]; exact he),
        getElem!_congr (List.getElem?_set_ne he)]

variable (val : α → β)

theorem setFold_length (xs : List α) (l : List β) :
    (xs.foldl (fun l x => l.set (key x) (val x)) l).length = l.length := by
  induction xs generalizing l with
  | nil => rfl
  | cons x rest ih => rw [List.foldl_cons, ih, List.length_set]

theorem setFold_frame (xs : List α) (l : List β) (k : Nat) (hk : k ∉ xs.map key) :
    (xs.foldl (fun l x => l.set (key x) (val x)) l)[k]? = l[k]? := by
  induction xs generalizing l with
  | nil => rfl
  | cons x rest ih =>
    rw [List.map_cons, List.mem_cons, not_or] at hk
    rw [List.foldl_cons, ih _ hk.2, List.getElem?_set_ne (Ne.symm hk.1)]

/-- The last element with key `k` decides. -/
theorem setFold_hit (xs : List α) (l : List β) (k : Nat) (hk : k ∈ xs.map key) :
    ∃ x ∈ xs, key x = k ∧
      (xs.foldl (fun l x => l.set (key x) (val x)) l)[k]? = if k < l.length then some (val x) else none := by
  induction xs generalizing l with
  | nil => cases hk
  | cons x rest ih =>
    rw [List.foldl_cons]
    by_cases hr : k ∈ rest.map key
    · obtain ⟨y, hy, e, h⟩ := ih (l.set (key x) (val x)) hr
      rw [List.length_set] at h
      exact ⟨y, List.mem_cons_of_mem _ hy, e, h⟩
    · have e : key x = k := by
        rcases List.mem_cons.mp hk with h | h
        · exact h.symm
        · exact absurd h hr
      exact ⟨x, List.mem_cons_self, e, by rw [setFold_frame key val rest _ k hr, e, getElem?_set_self_ite]⟩

theorem setFold_hit_nodup (xs : List α) (l : List β) (hnd : (xs.map key).Nodup) (x : α) (hx : x ∈ xs) :
    (xs.foldl (fun l x => l.set (key x) (val x)) l)[key x]? = if key x < l.length then some (val x) else none := by
  obtain ⟨y, hy, e, h⟩ := setFold_hit key val xs l (key x) (List.mem_map_of_mem hx)
  rw [h, inj_of_nodup_map hnd hy hx e]

end

end Pops
