/-
  Helper lemmas for Props/C05Early.lean: exact latency for runs that START BEFORE step L (the
  regime in which the guard `step >= latency` of `step_forward` matters) and whose spread steps
  carry arbitrary step numbers (seasonal gaps).

  The closed form is stated for a cell whose exposed vector is `Q ++ [0]` (the youngest cohort is
  empty, as after every latency step) and an arbitrary list of step numbers, under the only
  condition that matters: at the j-th spread step either the guard holds (`L ≤ steps[j]`) or the
  cohort that is at the front at that moment - the j-th element of `Q ++ xs` - is empty.
  The run, `latencyRunAt`, is defined in this file; its lemmas carry the prefix `early_`.
-/
import PopsModel.Props.C05
import PopsModel.Lemmas.C05Guard
namespace Pops

/-- One spread step (exposure of `x`, then the latency step) as a full-state equation: if the
    guard holds OR the front cohort is empty, the front cohort `a` joins `i` and the youngest
    mortality cohort, every cohort moves up one position and the youngest cohort is empty. -/
theorem early_latStep (L s : Nat) (c : Cell) (x a : Int) (T : List Int)
    (hA : addLast c.e x = a :: T) (hg : L ≤ s ∨ a = 0) :
    (c.exposeN x).stepForward .sei L s =
      { c with s := c.s - x, e := T ++ [0], i := c.i + a, mort := addLast c.mort a,
               te := c.te + x - a } := by
  unfold Cell.exposeN Cell.stepForward
  by_cases hs : s ≥ L
  · simp only [hs, if_true, hA, rotateLeft]
  · have ha : a = 0 := by
      rcases hg with h | h
      · exact absurd h hs
      · exact h
    subst ha
    simp only [hs, if_false, hA, rotateLeft, addLast_zero, Int.add_zero, Int.sub_zero]

theorem early_snoc_split (Q : List Int) (x : Int) : ∃ a T, Q ++ [x] = a :: T := by
  cases Q with
  | nil => exact ⟨x, [], rfl⟩
  | cons q Q' => exact ⟨q, Q' ++ [x], rfl⟩

/-- A run of spread steps with their step numbers: at the spread step with number `s`, `x` hosts
    are exposed (`Cell.exposeN`), then `step_forward(s)` is made. Stops at the end of the shorter
    list. -/
def latencyRunAt (L : Nat) : List Nat → List Int → Cell → Cell
  | s :: steps, x :: xs, c => latencyRunAt L steps xs ((c.exposeN x).stepForward .sei L s)
  | _, _, c => c

theorem early_cell_eta (c : Cell) (Q : List Int) (he : c.e = Q ++ [0]) :
    c = { c with s := c.s - 0, e := Q ++ [0], i := c.i + 0, mort := addLast c.mort 0,
                 te := c.te + 0 - 0 } := by
  cases c
  simp only at he
  subst he
  simp only [addLast_zero, Int.sub_zero, Int.add_zero]

/-- Closed form of a run. `Q ++ xs` is the sequence of cohorts in the order in which they reach the
    front; after `n = |xs|` spread steps the first `n` of them have matured and the rest, followed
    by the empty youngest cohort, is the exposed vector. -/
theorem early_run_closed (L : Nat) (xs : List Int) : ∀ (steps : List Nat) (Q : List Int) (c : Cell),
    steps.length = xs.length → c.e = Q ++ [0] →
    (∀ j, j < xs.length → L ≤ steps[j]! ∨ (Q ++ xs)[j]! = 0) →
    latencyRunAt L steps xs c =
      { c with s := c.s - sumL xs, e := (Q ++ xs).drop xs.length ++ [0],
               i := c.i + sumL ((Q ++ xs).take xs.length),
               mort := addLast c.mort (sumL ((Q ++ xs).take xs.length)),
               te := c.te + sumL xs - sumL ((Q ++ xs).take xs.length) } := by
  induction xs with
  | nil =>
    intro steps Q c hlen he _
    have hs : steps = [] := List.eq_nil_of_length_eq_zero hlen
    subst hs
    simp only [latencyRunAt, List.append_nil, List.length_nil, List.drop_zero, List.take_zero, sumL_nil]
    exact early_cell_eta c Q he
  | cons x rest ih =>
    intro steps Q c hlen he hcond
    cases steps with
    | nil => simp at hlen
    | cons s srest =>
      have hlen' : srest.length = rest.length := Nat.succ.inj hlen
      obtain ⟨a, T, hsplit⟩ := early_snoc_split Q x
      have hW : Q ++ x :: rest = a :: (T ++ rest) := by
        rw [List.append_cons, hsplit]; rfl
      have hA : addLast c.e x = a :: T := by
        rw [he, addLast_concat, Int.zero_add, hsplit]
      have h0 := hcond 0 (Nat.zero_lt_succ _)
      rw [hW, List.getElem!_cons_zero, List.getElem!_cons_zero] at h0
      have hstep := early_latStep L s c x a T hA h0
      have hcond' : ∀ j, j < rest.length → L ≤ srest[j]! ∨ (T ++ rest)[j]! = 0 := by
        intro j hj
        have := hcond (j + 1) (Nat.succ_lt_succ hj)
        rw [hW, List.getElem!_cons_succ, List.getElem!_cons_succ] at this
        exact this
      have hrun : latencyRunAt L (s :: srest) (x :: rest) c =
          latencyRunAt L srest rest ((c.exposeN x).stepForward .sei L s) := rfl
      rw [hrun, ih srest T _ hlen' (by rw [hstep]) hcond', hstep, hW]
      simp only [List.length_cons, List.take_succ_cons, List.drop_succ_cons, sumL_cons,
        addLast_addLast]
      generalize sumL ((T ++ rest).take rest.length) = M
      generalize sumL rest = R
      cases c
      simp only [Cell.mk.injEq, true_and, and_true]
      omega

/-! ### strictly increasing step numbers -/

theorem early_ge_base (steps : List Nat) : ∀ (b : Nat), (∀ s ∈ steps, b ≤ s) →
    steps.Pairwise (· < ·) → ∀ j, j < steps.length → b + j ≤ steps[j]! := by
  induction steps with
  | nil => intro b _ _ j hj; simp at hj
  | cons s rest ih =>
    intro b hb hp j hj
    cases j with
    | zero =>
      rw [List.getElem!_cons_zero]
      have := hb s (List.mem_cons_self ..)
      omega
    | succ j' =>
      rw [List.getElem!_cons_succ]
      rw [List.pairwise_cons] at hp
      have hj' : j' < rest.length := by simp only [List.length_cons] at hj; omega
      have := ih (s + 1) (fun t ht => hp.1 t ht) hp.2 j' hj'
      have := hb s (List.mem_cons_self ..)
      omega

/-! ### list facts: `take (k + 1)`, `replicate L 0 ++ xs` -/

/-- `sumL (take (k+1))` adds the k-th element (0 beyond the end). -/
theorem early_sumL_take_succ (l : List Int) (k : Nat) :
    sumL (l.take (k + 1)) = sumL (l.take k) + l[k]! := by
  induction l generalizing k with
  | nil => simp
  | cons x t ih =>
    cases k with
    | zero => simp
    | succ k' =>
      rw [List.take_succ_cons, sumL_cons, ih k', List.take_succ_cons, sumL_cons,
        List.getElem!_cons_succ]
      omega

theorem early_sum_take_fresh (L n : Nat) (xs : List Int) :
    sumL ((List.replicate L (0 : Int) ++ xs).take n) = sumL (xs.take (n - L)) := by
  rw [List.take_append, sumL_append, List.take_replicate, sumL_replicate_zero,
    List.length_replicate]
  omega

theorem early_drop_fresh (L n : Nat) (xs : List Int) :
    (List.replicate L (0 : Int) ++ xs).drop n = List.replicate (L - n) 0 ++ xs.drop (n - L) := by
  rw [List.drop_append, List.drop_replicate, List.length_replicate]

theorem early_getElem_fresh (L j : Nat) (xs : List Int) (hj : j < L) :
    (List.replicate L (0 : Int) ++ xs)[j]! = 0 := by
  have h1 : j < (List.replicate L (0 : Int) ++ xs).length := by
    simp only [List.length_append, List.length_replicate]; omega
  rw [getElem!_pos _ j h1, List.getElem_append_left (by simp only [List.length_replicate]; exact hj),
    List.getElem_replicate]

/-- The fresh-run instance of the closed form: all cohorts empty at the start, strictly
    increasing step numbers starting anywhere (also at 0, also with gaps). -/
theorem early_run_fresh (L : Nat) (steps : List Nat) (xs : List Int) (c : Cell)
    (hinc : steps.Pairwise (· < ·)) (hlen : steps.length = xs.length)
    (he : c.e = List.replicate (L + 1) 0) :
    latencyRunAt L steps xs c =
      { c with s := c.s - sumL xs,
               e := List.replicate (L - xs.length) 0 ++ xs.drop (xs.length - L) ++ [0],
               i := c.i + sumL (xs.take (xs.length - L)),
               mort := addLast c.mort (sumL (xs.take (xs.length - L))),
               te := c.te + sumL (xs.drop (xs.length - L)) } := by
  have he' : c.e = List.replicate L 0 ++ [0] := by rw [he, List.replicate_succ']
  have hcond : ∀ j, j < xs.length → L ≤ steps[j]! ∨ (List.replicate L (0 : Int) ++ xs)[j]! = 0 := by
    intro j hj
    by_cases hjl : j < L
    · exact Or.inr (early_getElem_fresh L j xs hjl)
    · have := early_ge_base steps 0 (fun _ _ => Nat.zero_le _) hinc j (by omega)
      exact Or.inl (by omega)
  rw [early_run_closed L xs steps (List.replicate L 0) c hlen he' hcond, early_sum_take_fresh,
    early_drop_fresh]
  have := sumL_take_add_drop xs (xs.length - L)
  have hte : c.te + sumL xs - sumL (xs.take (xs.length - L)) = c.te + sumL (xs.drop (xs.length - L)) := by
    omega
  rw [hte]

end Pops
