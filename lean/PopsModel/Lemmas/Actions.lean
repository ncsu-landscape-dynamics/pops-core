/-
  Lemmas for C04, C09, C17 about the landscape-level actions and the step plan, all named `act_...`.
  The loops are handled through their recursion equations and one step lemma each.
-/
import PopsModel.Model.Actions
import PopsModel.Lemmas.Rounding
import PopsModel.Lemmas.HostHistory
import PopsModel.Lemmas.Schedule
namespace Pops

theorem act_sumL_set_add (l : List Int) {k : Nat} (hk : k < l.length) (a : Int) :
    sumL (l.set k (l[k]! + a)) - sumL l = a := by
  rw [sumL_set _ _ _ hk]; omega

theorem act_idx_inj (g : Grid) (r c r' c' : Int) (h : g.isOutside r c = false) (h' : g.isOutside r' c' = false)
    (he : g.idx r c = g.idx r' c') : (r, c) = (r', c') := by
  simp only [Grid.isOutside, Bool.or_eq_false_iff, decide_eq_false_iff_not, Int.not_lt, ge_iff_le,
    Int.not_le] at h h'
  obtain ⟨⟨⟨a1, _⟩, a3⟩, a4⟩ := h
  obtain ⟨⟨⟨b1, _⟩, b3⟩, b4⟩ := h'
  have hcols : 0 < g.cols := Int.lt_of_le_of_lt a3 a4
  have e : r * g.cols + c = r' * g.cols + c' := by
    rw [← Int.toNat_of_nonneg (Int.add_nonneg (Int.mul_nonneg a1 (Int.le_of_lt hcols)) a3),
      ← Int.toNat_of_nonneg (Int.add_nonneg (Int.mul_nonneg b1 (Int.le_of_lt hcols)) b3)]
    exact congrArg Int.ofNat he
  -- the columns are the remainders of the two sides; then the rows can be cancelled
  have hc : c = c' := by
    have m := congrArg (· % g.cols) e
    simp only [Int.add_comm (_ * g.cols), Int.add_mul_emod_self_right] at m
    rwa [Int.emod_eq_of_lt a3 a4, Int.emod_eq_of_lt b3 b4] at m
  rw [hc] at e
  rw [hc, Int.eq_of_mul_eq_mul_right (Int.ne_of_gt hcols) ((Int.add_left_inj c').mp e)]

theorem act_idx_nodup_of_inside (g : Grid) (suit : List (Int × Int)) (hnd : suit.Nodup)
    (hin : ∀ rc ∈ suit, g.isOutside rc.1 rc.2 = false) :
    (suit.map fun rc => g.idx rc.1 rc.2).Nodup := by
  induction suit with
  | nil => exact List.nodup_nil
  | cons rc rest ih =>
    rw [List.nodup_cons] at hnd
    rw [List.map_cons, List.nodup_cons]
    refine ⟨fun hm => ?_, ih hnd.2 (fun q hq => hin q (List.mem_cons_of_mem _ hq))⟩
    obtain ⟨q, hq, he⟩ := List.mem_map.mp hm
    have hqe : q = rc :=
      act_idx_inj g q.1 q.2 rc.1 rc.2 (hin q (List.mem_cons_of_mem _ hq)) (hin rc List.mem_cons_self) he
    exact hnd.1 (hqe ▸ hq)

theorem act_plan_map_fst (cfg : StepCfg) (step : Nat) :
    (plan cfg step).map (·.1) = documentedOrder.filter (cfg.runs step) := by
  unfold plan
  rw [List.map_map]
  exact List.map_id' _

theorem act_documentedOrder_nodup : documentedOrder.Nodup := by decide

theorem act_mem_documentedOrder (a : ActionKind) : a ∈ documentedOrder := by
  cases a <;> decide

theorem act_schedAt_lt {s : List Bool} {step : Nat} (h : schedAt s step = true) : step < s.length := by
  unfold schedAt at h
  by_cases hl : step < s.length
  · exact hl
  · rw [List.getD_eq_getElem?_getD, List.getElem?_eq_none (by omega)] at h; cases h

theorem act_simStep_of_schedAt {s : List Bool} {step : Nat} (h : schedAt s step = true) :
    simulationStepToActionStep s step = .ok (countTrue (s.take step)) := by
  unfold simulationStepToActionStep
  rw [if_pos (act_schedAt_lt h)]

theorem act_mem_plan {cfg : StepCfg} {step : Nat} {a : ActionKind} {o : Option Nat}
    (h : (a, o) ∈ plan cfg step) : cfg.runs step a = true ∧ o = cfg.inputIndex step a := by
  unfold plan at h
  obtain ⟨a', ha', he⟩ := List.mem_map.mp h
  injection he with h1 h2
  subst h1
  exact ⟨(List.mem_filter.mp ha').2, h2.symm⟩

theorem act_plan_iff (cfg : StepCfg) (step : Nat) (a : ActionKind) :
    a ∈ (plan cfg step).map (·.1) ↔ cfg.runs step a = true := by
  rw [act_plan_map_fst, List.mem_filter]
  exact ⟨fun h => h.2, fun h => ⟨act_mem_documentedOrder a, h⟩⟩

theorem act_index_of_runs {use : Bool} {s : List Bool} {step k : Nat} (hr : (use && schedAt s step) = true)
    (hi : some k = some (countTrue (s.take step))) : simulationStepToActionStep s step = .ok k := by
  rw [act_simStep_of_schedAt (Bool.and_eq_true _ _ ▸ hr).2, Option.some.inj hi]

theorem act_plan_congr (cfg cfg' : StepCfg) (step : Nat)
    (hr : ∀ a, cfg'.runs step a = cfg.runs step a)
    (hi : ∀ a, cfg.runs step a = true → cfg'.inputIndex step a = cfg.inputIndex step a) :
    plan cfg' step = plan cfg step := by
  unfold plan
  have : cfg'.runs step = cfg.runs step := funext hr
  rw [this]
  apply List.map_congr_left
  intro a ha
  rw [hi a (List.mem_filter.mp ha).2]

theorem act_plan_congr_off (cfg cfg' : StepCfg) (step : Nat) (b : ActionKind)
    (hb : cfg.runs step b = false) (hb' : cfg'.runs step b = false)
    (h : ∀ a, a = b ∨ (cfg'.runs step a = cfg.runs step a ∧ cfg'.inputIndex step a = cfg.inputIndex step a)) :
    plan cfg' step = plan cfg step := by
  apply act_plan_congr
  · intro a
    rcases h a with ha | ha
    · rw [ha, hb, hb']
    · exact ha.1
  · intro a hr
    rcases h a with ha | ha
    · rw [ha, hb] at hr; cases hr
    · exact ha.2

theorem act_departs_iff (thr : Rat) (c : Cell) :
    departs thr c = true ↔ (2 ≤ c.i ∧ thr ≤ (c.i : Rat) / ((c.s + c.i : Int) : Rat)) := by
  simp only [departs, Bool.and_eq_true, decide_eq_true_eq, ge_iff_le]
  constructor <;> intro ⟨a, b⟩ <;> exact ⟨by omega, b⟩

theorem act_pestsTo_min (c : Cell) (k : Int) :
    (c.pestsTo k).2 = min k c.s ∧ (c.pestsTo k).1.i = c.i + min k c.s ∧
    (c.pestsTo k).1.s = c.s - min k c.s := by
  unfold Cell.pestsTo
  by_cases h : c.s ≥ k
  · rw [if_pos h, Int.min_eq_left h]; exact ⟨rfl, rfl, rfl⟩
  · rw [if_neg h, Int.min_eq_right (Int.le_of_lt (Int.not_le.mp h))]; exact ⟨rfl, rfl, rfl⟩

theorem act_departs_lt {thr : Rat} {cells : List Cell} {k : Nat} (h : departs thr (cells[k]!) = true) :
    k < cells.length := by
  by_cases hk : k < cells.length
  · exact hk
  · rw [act_getElem!_ge (by omega)] at h
    have := ((act_departs_iff thr default).mp h).1
    have h0 : (default : Cell).i = 0 := rfl
    omega

theorem act_departGo_nil (g : Grid) (thr leaving : Rat) (cells : List Cell) (p : PestState)
    (ts : List (Int × Int)) (moves : List (Int × Int × Int)) :
    departGo g thr leaving [] cells p ts moves = (cells, p, ts, moves) := rfl

theorem act_departGo_stay (g : Grid) (thr leaving : Rat) (r c : Int) (rest : List (Int × Int)) (cells : List Cell)
    (p : PestState) (ts : List (Int × Int)) (moves : List (Int × Int × Int))
    (hd : ¬ departs thr (cells[g.idx r c]!) = true) :
    departGo g thr leaving ((r, c) :: rest) cells p ts moves = departGo g thr leaving rest cells p ts moves := by
  simp only [departGo, hd, if_false, Bool.false_eq_true]

theorem act_departGo_exhausted (g : Grid) (thr leaving : Rat) (r c : Int) (rest : List (Int × Int)) (cells : List Cell)
    (p : PestState) (moves : List (Int × Int × Int))
    (hd : departs thr (cells[g.idx r c]!) = true) :
    departGo g thr leaving ((r, c) :: rest) cells p [] moves = (cells, p, [], moves) := by
  simp only [departGo, hd, if_true]

theorem act_departGo_out (g : Grid) (thr leaving : Rat) (r c tr tc : Int) (rest : List (Int × Int)) (cells : List Cell)
    (p : PestState) (ts : List (Int × Int)) (moves : List (Int × Int × Int))
    (hd : departs thr (cells[g.idx r c]!) = true) (ho : g.isOutside tr tc = true) :
    departGo g thr leaving ((r, c) :: rest) cells p ((tr, tc) :: ts) moves =
      departGo g thr leaving rest
        (cells.set (g.idx r c) ((cells[g.idx r c]!).pestsFrom (leavingCount leaving (cells[g.idx r c]!))).1)
        { p with outside := p.outside ++ List.replicate (leavingCount leaving (cells[g.idx r c]!)).toNat (tr, tc) }
        ts moves := by
  simp only [departGo, hd, if_true, ho, Cell.pestsFrom]

theorem act_departGo_in (g : Grid) (thr leaving : Rat) (r c tr tc : Int) (rest : List (Int × Int)) (cells : List Cell)
    (p : PestState) (ts : List (Int × Int)) (moves : List (Int × Int × Int))
    (hd : departs thr (cells[g.idx r c]!) = true) (ho : g.isOutside tr tc = false) :
    departGo g thr leaving ((r, c) :: rest) cells p ((tr, tc) :: ts) moves =
      departGo g thr leaving rest
        (cells.set (g.idx r c) ((cells[g.idx r c]!).pestsFrom (leavingCount leaving (cells[g.idx r c]!))).1)
        p ts (moves ++ [(tr, tc, leavingCount leaving (cells[g.idx r c]!))]) := by
  simp only [departGo, hd, if_true, ho, Cell.pestsFrom, Bool.false_eq_true, if_false]

theorem act_departGo_depart (g : Grid) (thr leaving : Rat) (h0 : 0 ≤ leaving) (h1 : leaving ≤ 1) (r c : Int)
    (t : Int × Int) (rest : List (Int × Int)) (cells : List Cell) (p : PestState) (ts : List (Int × Int))
    (moves : List (Int × Int × Int)) (hn : ∀ c ∈ cells, 0 ≤ c.i) (hd : departs thr (cells[g.idx r c]!) = true) :
    ∃ cells' p' moves', departGo g thr leaving ((r, c) :: rest) cells p (t :: ts) moves =
        departGo g thr leaving rest cells' p' ts moves' ∧
      (∀ c ∈ cells', 0 ≤ c.i) ∧ cells'.length = cells.length ∧
      (∀ k : Nat, (cells'[k]!).i ≤ (cells[k]!).i ∧ (cells'[k]!).s + (cells'[k]!).i = (cells[k]!).s + (cells[k]!).i) ∧
      (∀ k : Nat, k ≠ g.idx r c → cells'[k]! = cells[k]!) ∧
      ∀ m ∈ moves', m ∈ moves ∨ g.isOutside m.1 m.2.1 = false := by
  have hk0 := act_departs_lt hd
  obtain ⟨l0, l1⟩ := lround_share (hn _ (act_getElem!_mem hk0)) h0 h1
  obtain ⟨p', moves', e, hm⟩ : ∃ p' moves', departGo g thr leaving ((r, c) :: rest) cells p (t :: ts) moves =
        departGo g thr leaving rest
          (cells.set (g.idx r c) ((cells[g.idx r c]!).pestsFrom (leavingCount leaving (cells[g.idx r c]!))).1)
          p' ts moves' ∧
      ∀ m ∈ moves', m ∈ moves ∨ g.isOutside m.1 m.2.1 = false := by
    obtain ⟨tr, tc⟩ := t
    cases ho : g.isOutside tr tc with
    | true => exact ⟨_, _, act_departGo_out _ _ _ _ _ _ _ _ _ _ _ _ hd ho, fun m hm => Or.inl hm⟩
    | false =>
      refine ⟨_, _, act_departGo_in _ _ _ _ _ _ _ _ _ _ _ _ hd ho, fun m hm => ?_⟩
      rcases List.mem_append.mp hm with h | h
      · exact Or.inl h
      · exact Or.inr (List.mem_singleton.mp h ▸ ho)
  refine ⟨_, p', moves', e, ?_, List.length_set, fun k => ?_, fun k hk => act_getElem!_set_ne _ _ hk, hm⟩
  · intro c' hc
    rcases List.mem_or_eq_of_mem_set hc with hc | rfl
    · exact hn c' hc
    · exact Int.sub_nonneg_of_le l1
  · by_cases hk : k = g.idx r c
    · subst hk
      rw [act_getElem!_set_self _ _ hk0]
      exact ⟨Int.sub_le_self _ l0, by show _ + _ + (_ - _) = _; lia⟩
    · rw [act_getElem!_set_ne _ _ hk]
      exact ⟨Int.le_refl _, rfl⟩

theorem act_movementGo_eq (schedule : List Nat) (step : Nat) (fuel i : Nat) (acc : List Nat)
    (hi : i ≤ schedule.length) (hf : schedule.length < fuel + i) :
    ∃ j, movementGo schedule step fuel i acc = (acc ++ List.range' i (j - i), j) ∧
      i ≤ j ∧ j ≤ schedule.length ∧ (∀ k, i ≤ k → k < j → schedule[k]! = step) ∧
      (j < schedule.length → schedule[j]! ≠ step) := by
  induction fuel generalizing i acc with
  | zero => omega
  | succ fuel ih =>
    unfold movementGo
    by_cases h1 : i < schedule.length
    · rw [if_pos h1]
      by_cases h2 : schedule[i]! ≠ step
      · rw [if_pos h2]
        exact ⟨i, by rw [Nat.sub_self, List.range'_zero, List.append_nil], Nat.le_refl _, hi,
          fun k a b => absurd b (Nat.not_lt.mpr a), fun _ => h2⟩
      · rw [if_neg h2]
        obtain ⟨j, e, a1, a2, a3, a4⟩ := ih (i + 1) (acc ++ [i]) h1 (by rwa [Nat.add_comm i 1, ← Nat.add_assoc])
        refine ⟨j, ?_, Nat.le_of_succ_le a1, a2, ?_, a4⟩
        · have : j - (i + 1) + 1 = j - i := by rw [← Nat.sub_add_comm a1, Nat.add_sub_add_right]
          rw [e, ← this, List.range'_succ, List.append_assoc, List.singleton_append]
        · intro k b c
          rcases Nat.eq_or_lt_of_le b with rfl | b
          · exact Decidable.not_not.mp h2
          · exact a3 k b c
    · rw [if_neg h1]
      have : i = schedule.length := Nat.le_antisymm hi (Nat.not_lt.mp h1)
      subst this
      exact ⟨schedule.length, by rw [Nat.sub_self, List.range'_zero, List.append_nil], Nat.le_refl _,
        Nat.le_refl _, fun k a b => absurd b (Nat.not_lt.mpr a), fun h => absurd h (Nat.lt_irrefl _)⟩

theorem act_movementRows_eq (schedule : List Nat) (last step : Nat) (hl : last ≤ schedule.length) :
    ∃ j, movementRows schedule last step = (List.range' last (j - last), j) ∧
      last ≤ j ∧ j ≤ schedule.length ∧ (∀ k, last ≤ k → k < j → schedule[k]! = step) ∧
      (j < schedule.length → schedule[j]! ≠ step) :=
  act_movementGo_eq schedule step (schedule.length + 1) last [] hl (by omega)

theorem act_movementRunOn_facts (schedule : List Nat)
    (hmono : ∀ i j, i ≤ j → j < schedule.length → schedule[i]! ≤ schedule[j]!)
    (steps : List Nat) (last : Nat) (hl : last ≤ schedule.length)
    (hsteps : steps.Pairwise (· < ·))
    (hsched : ∀ i, last ≤ i → i < schedule.length → schedule[i]! ∈ steps ∨ ∀ s ∈ steps, s < schedule[i]!) :
    ((movementRunOn schedule steps last).flatMap (·.2)) =
      (List.range' last (schedule.length - last)).filter (fun i => decide (schedule[i]! ∈ steps)) ∧
    (∀ e ∈ movementRunOn schedule steps last, ∀ i ∈ e.2, schedule[i]! = e.1) ∧
    (movementRunOn schedule steps last).map (·.1) = steps := by
  induction steps generalizing last with
  | nil =>
    exact ⟨(List.filter_eq_nil_iff.mpr fun i _ h => List.not_mem_nil (of_decide_eq_true h)).symm,
      fun e he => absurd he List.not_mem_nil, rfl⟩
  | cons s rest ih =>
    obtain ⟨c, e, b1, b2, b4, b5⟩ := act_movementRows_eq schedule last s hl
    have hp := List.pairwise_cons.mp hsteps
    have hgt : ∀ i, c ≤ i → i < schedule.length → s < schedule[i]! := by
      intro i hi1 hi2
      have hc : c < schedule.length := Nat.lt_of_le_of_lt hi1 hi2
      have hsc : s < schedule[c]! := by
        rcases hsched c b1 hc with h | h
        · rcases List.mem_cons.mp h with h | h
          · exact absurd h (b5 hc)
          · exact hp.1 _ h
        · exact h s (List.mem_cons_self ..)
      exact Nat.lt_of_lt_of_le hsc (hmono c i hi1 hi2)
    have hsched' : ∀ i, c ≤ i → i < schedule.length →
        schedule[i]! ∈ rest ∨ ∀ s' ∈ rest, s' < schedule[i]! := by
      intro i hi1 hi2
      rcases hsched i (Nat.le_trans b1 hi1) hi2 with h | h
      · rcases List.mem_cons.mp h with h | h
        · exact absurd h (Nat.ne_of_gt (hgt i hi1 hi2))
        · exact Or.inl h
      · exact Or.inr fun s' hs' => h s' (List.mem_cons_of_mem _ hs')
    obtain ⟨c1, c2, c3⟩ := ih c b2 hp.2 hsched'
    simp only [movementRunOn, e]
    refine ⟨?_, ?_, by rw [List.map_cons, c3]⟩
    · rw [List.flatMap_cons, c1, act_range'_split b1 b2, List.filter_append]
      -- the rows before the new cursor are all kept; behind it `s` plays no part
      have hkeep : (List.range' last (c - last)).filter (fun i => decide (schedule[i]! ∈ s :: rest)) =
          List.range' last (c - last) := by
        apply List.filter_eq_self.mpr
        intro i hi
        rw [act_mem_range'_sub b1] at hi
        rw [decide_eq_true_eq, b4 i hi.1 hi.2]
        exact List.mem_cons_self ..
      have hlater : (List.range' c (schedule.length - c)).filter (fun i => decide (schedule[i]! ∈ rest)) =
          (List.range' c (schedule.length - c)).filter (fun i => decide (schedule[i]! ∈ s :: rest)) := by
        apply List.filter_congr
        intro i hi
        rw [act_mem_range'_sub b2] at hi
        have hne : schedule[i]! ≠ s := Nat.ne_of_gt (hgt i hi.1 hi.2)
        simp only [List.mem_cons, hne, false_or]
      rw [hkeep, hlater]
    · intro e' he
      rcases List.mem_cons.mp he with rfl | he
      · intro i hi
        have := (act_mem_range'_sub b1).mp hi
        exact b4 i this.1 this.2
      · exact c2 e' he

theorem act_addL_subL_addL (a b d : List Int) (h1 : d.length = a.length) (h2 : b.length = a.length) :
    addL (subL a d) (addL b d) = addL a b := by
  induction a generalizing b d with
  | nil => rfl
  | cons x xs ih =>
    match d, b, h1, h2 with
    | y :: ys, z :: zs, h1, h2 =>
      have := ih zs ys (Nat.succ.inj h1) (Nat.succ.inj h2)
      simp only [addL, subL, List.zipWith_cons_cons] at this ⊢
      rw [this, Int.add_comm z y, ← Int.add_assoc, Int.sub_add_cancel]

theorem act_hostsMoved_eq_min (src : Cell) (count : Int) : hostsMoved src count = min count src.th := by
  unfold hostsMoved
  by_cases h : count > src.th
  · rw [if_pos h, Int.min_eq_right (Int.le_of_lt h)]
  · rw [if_neg h, Int.min_eq_left (Int.not_lt.mp h)]

/-- `hostsMoved` clamps to the `total_hosts` raster; for a consistent cell that is the sum of the classes. -/
theorem act_classDraw_total {src : Cell} {count : Int} {d : ClassDraw} (hg : src.Good)
    (h : ClassDrawOK src count d) :
    hostsMoved src count = min count src.hosts ∧ d.i + d.s + d.e + d.r = min count src.hosts := by
  have h1 := h.sum
  have h2 : src.hosts = src.th := hg.th.symm
  have h3 : src.i + src.s + src.te + src.r = src.th := by rw [hg.th, hg.te]; lia
  rw [h3, act_hostsMoved_eq_min, Int.min_assoc, Int.min_self] at h1
  rw [h2, act_hostsMoved_eq_min]
  exact ⟨rfl, h1⟩

theorem act_classDraw_le_count {src : Cell} {count : Int} {d : ClassDraw} (h : ClassDrawOK src count d) :
    d.i ≤ count ∧ d.e ≤ count := by
  obtain ⟨⟨hi, _⟩, ⟨hs, _⟩, ⟨he, _⟩, ⟨hr, _⟩, hsum⟩ := h
  have h1 : d.i + d.s + d.e + d.r ≤ count :=
    hsum ▸ Int.le_trans (Int.min_le_left ..) (hostsMoved_bounds src count).1
  -- each class count is one summand of a sum of non-negative counts
  have hI : d.i ≤ d.i + d.s + d.e + d.r := by omega
  have hE : d.e ≤ d.i + d.s + d.e + d.r := by omega
  exact ⟨Int.le_trans hI h1, Int.le_trans hE h1⟩

theorem act_moveHosts_hosts (src dst : Cell) (count : Int) (d : ClassDraw) (dE dM : List Int)
    (h1 : (eDeltaOf src d dE).length = src.e.length) (h2 : dst.e.length = src.e.length) :
    src.hosts - (moveHosts src dst count d dE dM).1.hosts = d.i + d.s + sumL (eDeltaOf src d dE) + d.r ∧
    (moveHosts src dst count d dE dM).2.1.hosts - dst.hosts = d.i + d.s + sumL (eDeltaOf src d dE) + d.r := by
  have e1 := sumL_subL h1
  have e2 := sumL_addL (a := dst.e) (h1.trans h2.symm)
  rw [moveHosts_eq]
  unfold Cell.hosts
  constructor <;> lia

theorem act_soilShare_facts (pct : Rat) (x : Int) (h0 : 0 ≤ pct) (h1 : pct ≤ 1) (hx : 0 ≤ x) :
    0 ≤ soilShare (some pct) x ∧ soilShare (some pct) x ≤ x ∧
    soilShare (some pct) x + (x - soilShare (some pct) x) = x ∧ soilShare none x = 0 := by
  have h := lround_share hx h0 h1
  simp only [soilShare]
  rw [Rat.mul_comm]
  exact ⟨h.1, h.2, by omega, trivial⟩

theorem act_soilNext_cons (x : Int) (xs : List Int) : soilNext (x :: xs) = xs ++ [0] := by
  simp only [soilNext, rotateLeft]
  split
  · rename_i h; simp at h
  · rw [List.dropLast_concat]

def act_SoilInv (n j : Nat) (l : List Int) : Prop :=
  l.length = n ∧ AllNN l ∧ ∀ k : Nat, k < n → n ≤ k + j → l[k]! = 0

theorem act_allNN_of_index {l : List Int} (h : ∀ k : Nat, k < l.length → 0 ≤ l[k]!) : AllNN l := by
  intro x hx
  obtain ⟨k, hk, rfl⟩ := List.mem_iff_getElem.mp hx
  have := h k hk
  rwa [getElem!_pos l k hk] at this

theorem act_soilInv_release {n j : Nat} {l : List Int} (release : List Int → List Int)
    (hrel : ∀ l : List Int, (release l).length = l.length ∧
        ∀ k : Nat, k < l.length → 0 ≤ l[k]! → (0 ≤ (release l)[k]! ∧ (release l)[k]! ≤ l[k]!))
    (h : act_SoilInv n j l) : act_SoilInv n j (release l) := by
  obtain ⟨h1, h2, h3⟩ := h
  obtain ⟨r1, r2⟩ := hrel l
  have hlen : (release l).length = n := r1.trans h1
  -- below `n` every released entry lies between 0 and the old one
  have r : ∀ k, k < n → 0 ≤ (release l)[k]! ∧ (release l)[k]! ≤ l[k]! := by
    intro k hk
    rw [← h1] at hk
    exact r2 k hk (getElem!_nonneg h2 k)
  refine ⟨hlen, act_allNN_of_index ?_, ?_⟩
  · intro k hk
    rw [hlen] at hk
    exact (r k hk).1
  · intro k hk hj
    have hle := (r k hk).2
    rw [h3 k hk hj] at hle
    exact Int.le_antisymm hle (r k hk).1

/-- Read with the default 0 past the end, this also says that the youngest cohort is cleared. -/
theorem act_soilNext_getElem! (l : List Int) (k : Nat) : (soilNext l)[k]! = l[k + 1]! := by
  cases l with
  | nil => rfl
  | cons x xs =>
    rw [act_soilNext_cons, List.getElem!_cons_succ, List.getElem!_eq_getElem?_getD, List.getElem!_eq_getElem?_getD]
    by_cases hk : k < xs.length
    · rw [List.getElem?_append_left hk]
    · rw [List.getElem?_eq_none (Nat.not_lt.mp hk), List.getElem?_append_right (Nat.not_lt.mp hk)]
      cases k - xs.length <;> rfl

theorem act_soilInv_next {n j : Nat} {l : List Int} (h : act_SoilInv n j l) : act_SoilInv n (j + 1) (soilNext l) := by
  obtain ⟨h1, h2, h3⟩ := h
  refine ⟨?_, ?_, fun k hk hj => ?_⟩
  · cases l with
    | nil => exact h1
    | cons x xs => rw [act_soilNext_cons, List.length_append]; exact h1
  · cases l with
    | nil => exact h2
    | cons x xs =>
      rw [act_soilNext_cons]
      exact allNN_append.mpr ⟨(allNN_cons.mp h2).2, allNN_cons.mpr ⟨Int.le_refl 0, allNN_nil⟩⟩
  · rw [act_soilNext_getElem!]
    by_cases hk' : k + 1 < n
    · exact h3 (k + 1) hk' (by omega)
    · exact act_getElem!_ge (by omega)

theorem act_addDisperserAt_pos (mt : ModelType) (c : Cell) (h : 0 < c.s) :
    (c.addDisperserAt mt).2 = 1 ∧ (c.addDisperserAt mt).1.s = c.s - 1 ∧
    ((mt = .sei → c.e ≠ []) → (c.addDisperserAt mt).1.hosts = c.hosts) := by
  unfold Cell.addDisperserAt
  rw [if_neg (Int.not_le.mpr h)]
  cases mt with
  | si => exact ⟨rfl, rfl, fun _ => by show c.s - 1 + sumL c.e + (c.i + 1) + c.r = c.s + sumL c.e + c.i + c.r; lia⟩
  | sei =>
    refine ⟨rfl, rfl, fun he => ?_⟩
    show c.s - 1 + sumL (addLast c.e 1) + c.i + c.r = c.s + sumL c.e + c.i + c.r
    rw [sumL_addLast 1 (he rfl)]; lia

/-- Outcome of a landing: nothing happens, or one susceptible host is taken. -/
def act_LandOutcome (mt : ModelType) (c : Cell) (r : Cell × Int × Nat) : Prop :=
  (r.1 = c ∧ r.2.1 = 0) ∨ (0 < c.s ∧ r.1 = (c.addDisperserAt mt).1 ∧ r.2.1 = 1)

theorem act_disperserTo_outcome {mt : ModelType} {c : Cell} {env : EnvCell} {sto : Bool} {pEst u : Rat}
    {r : Cell × Int × Nat} (h : c.disperserTo mt env sto pEst u = .ok r) : act_LandOutcome mt c r := by
  rw [disperserTo_eq] at h
  split at h
  · cases h; exact Or.inl ⟨rfl, rfl⟩
  · rename_i hs0
    obtain ⟨p, -, rfl⟩ := except_map_ok h
    split
    · exact Or.inr ⟨Int.not_le.mp hs0, rfl, rfl⟩
    · exact Or.inl ⟨rfl, rfl⟩

theorem act_landViaWrapper_outcome {mt : ModelType} {c : Cell} {env : EnvCell} {sto : Bool} {pEst u : Rat}
    {r : Cell × Int × Nat} (h : c.landViaWrapper mt env sto pEst u = .ok r) : act_LandOutcome mt c r := by
  unfold Cell.landViaWrapper at h
  obtain ⟨p, -, h⟩ := except_bind_ok h
  split at h
  · cases h; exact Or.inl ⟨rfl, rfl⟩
  · exact act_disperserTo_outcome h

theorem act_landOne_out (g : Grid) (env : DisperseEnv) (cells : List Cell) (p : PestState) (tr tc : Int)
    (us : List Rat) (ho : g.isOutside tr tc = true) :
    landOne g env cells p (tr, tc) us = .ok (cells, { p with outside := p.outside ++ [(tr, tc)] }, false, us) := by
  simp only [landOne, ho, if_true]

theorem act_landOne_in_ok (g : Grid) (env : DisperseEnv) (cells : List Cell) (p : PestState) (tr tc : Int)
    (us : List Rat) (ho : g.isOutside tr tc = false) (c' : Cell) (res : Int) (used : Nat)
    (hw : (cells[g.idx tr tc]!).landViaWrapper env.mt
      { n := env.npop[g.idx tr tc]!, w := env.w.map (·[g.idx tr tc]!), sus := none } env.stochastic env.pEst (us.headD 0)
        = .ok (c', res, used)) :
    landOne g env cells p (tr, tc) us =
      .ok (cells.set (g.idx tr tc) c', p, res == 1, if used = 0 then us else us.drop 1) := by
  simp only [landOne, ho, Bool.false_eq_true, if_false, hw]

theorem act_landOne_in_err (g : Grid) (env : DisperseEnv) (cells : List Cell) (p : PestState) (tr tc : Int)
    (us : List Rat) (ho : g.isOutside tr tc = false) (e : ErrKind)
    (hw : (cells[g.idx tr tc]!).landViaWrapper env.mt
      { n := env.npop[g.idx tr tc]!, w := env.w.map (·[g.idx tr tc]!), sus := none } env.stochastic env.pEst (us.headD 0)
        = .error e) :
    landOne g env cells p (tr, tc) us = .error e := by
  simp only [landOne, ho, Bool.false_eq_true, if_false, hw]

theorem act_landOne_facts (g : Grid) (env : DisperseEnv) (cells cells' : List Cell)
    (p p' : PestState) (tr tc : Int) (us us' : List Rat) (ok : Bool)
    (h : landOne g env cells p (tr, tc) us = .ok (cells', p', ok, us')) :
    (g.isOutside tr tc = true →
      cells' = cells ∧ p' = { p with outside := p.outside ++ [(tr, tc)] } ∧ ok = false) ∧
    (g.isOutside tr tc = false → p' = p ∧
      ((ok = false ∧ cells' = cells) ∨
       (ok = true ∧ g.idx tr tc < cells.length ∧ 0 < (cells[g.idx tr tc]!).s ∧
        cells' = cells.set (g.idx tr tc) ((cells[g.idx tr tc]!).addDisperserAt env.mt).1))) := by
  constructor
  · intro ho
    rw [act_landOne_out g env cells p tr tc us ho] at h
    cases h
    exact ⟨rfl, rfl, rfl⟩
  · intro ho
    cases hw : (cells[g.idx tr tc]!).landViaWrapper env.mt
      { n := env.npop[g.idx tr tc]!, w := env.w.map (·[g.idx tr tc]!), sus := none } env.stochastic env.pEst (us.headD 0) with
    | error e => rw [act_landOne_in_err g env cells p tr tc us ho e hw] at h; cases h
    | ok r =>
      obtain ⟨c', res, used⟩ := r
      rw [act_landOne_in_ok g env cells p tr tc us ho c' res used hw] at h
      cases h
      refine ⟨rfl, ?_⟩
      rcases act_landViaWrapper_outcome hw with ⟨rfl, rfl⟩ | ⟨e0, rfl, rfl⟩
      · exact Or.inl ⟨rfl, act_set_getElem!_self cells _⟩
      · refine Or.inr ⟨rfl, ?_, e0, rfl⟩
        -- past the end of the list the default cell has no susceptible host
        exact Nat.lt_of_not_le fun hk => by rw [act_getElem!_ge hk] at e0; exact absurd e0 (by decide)

theorem act_disperseCell_zero (g : Grid) (env : DisperseEnv) (origin : Nat) (cells : List Cell) (p : PestState)
    (ts : List (Int × Int)) (us : List Rat) :
    disperseCell g env origin 0 cells p ts us = .ok (cells, p, ts, us) := by
  simp only [disperseCell]

theorem act_disperseCell_nil (g : Grid) (env : DisperseEnv) (origin n : Nat) (cells : List Cell) (p : PestState)
    (us : List Rat) :
    disperseCell g env origin n cells p [] us = .ok (cells, p, [], us) := by
  cases n <;> simp only [disperseCell]

theorem act_disperseCell_step_err (g : Grid) (env : DisperseEnv) (origin n : Nat) (cells : List Cell) (p : PestState)
    (t : Int × Int) (ts : List (Int × Int)) (us : List Rat) (e : ErrKind)
    (hl : landOne g env cells p t us = .error e) :
    disperseCell g env origin (n + 1) cells p (t :: ts) us = .error e := by
  simp only [disperseCell, hl]

theorem act_disperseCell_step_ok (g : Grid) (env : DisperseEnv) (origin n : Nat) (cells : List Cell) (p : PestState)
    (t : Int × Int) (ts : List (Int × Int)) (us : List Rat)
    (cells1 : List Cell) (p1 : PestState) (ok : Bool) (us1 : List Rat)
    (hl : landOne g env cells p t us = .ok (cells1, p1, ok, us1)) :
    disperseCell g env origin (n + 1) cells p (t :: ts) us =
      disperseCell g env origin n cells1
        (if ok then { p1 with est := p1.est.set origin (p1.est[origin]! + 1) } else p1) ts us1 := by
  simp only [disperseCell, hl]

theorem act_landOne_total (g : Grid) (env : DisperseEnv) (cells cells' : List Cell)
    (p p' : PestState) (t : Int × Int) (us us' : List Rat) (ok : Bool)
    (h : landOne g env cells p t us = .ok (cells', p', ok, us')) :
    p'.disp = p.disp ∧ p'.est = p.est ∧ cells'.length = cells.length ∧
    sumL (cells.map (·.s)) - sumL (cells'.map (·.s)) = if ok then 1 else 0 := by
  obtain ⟨tr, tc⟩ := t
  obtain ⟨f1, f2⟩ := act_landOne_facts g env cells cells' p p' tr tc us us' ok h
  cases ho : g.isOutside tr tc with
  | true =>
    obtain ⟨rfl, rfl, rfl⟩ := f1 ho
    exact ⟨rfl, rfl, rfl, Int.sub_self _⟩
  | false =>
    obtain ⟨rfl, ⟨rfl, rfl⟩ | ⟨rfl, b2, b3, rfl⟩⟩ := f2 ho
    · exact ⟨rfl, rfl, rfl, Int.sub_self _⟩
    · refine ⟨rfl, rfl, List.length_set, ?_⟩
      rw [sumL_map_set (·.s) cells _ _ _ (act_getElem?_eq_some_getElem! b2),
        (act_addDisperserAt_pos env.mt (cells[g.idx tr tc]!) b3).2.1]
      show _ - (_ - _ + (_ - 1)) = 1
      lia

/-- The dispersers of one origin cell: `m ≤ n` of them establish; `m` is what the origin's `est` counter
    gains and what the landscape loses in susceptible hosts; `disp` is untouched and at most `n` kernel
    results are consumed. -/
theorem act_disperseCell_facts (g : Grid) (env : DisperseEnv) (origin n : Nat) (cells cells' : List Cell)
    (p p' : PestState) (ts ts' : List (Int × Int)) (us us' : List Rat)
    (ho : origin < p.est.length)
    (h : disperseCell g env origin n cells p ts us = .ok (cells', p', ts', us')) :
    ∃ m : Nat, m ≤ n ∧ p'.est = p.est.set origin (p.est[origin]! + (m : Int)) ∧
      sumL (cells.map (·.s)) - sumL (cells'.map (·.s)) = (m : Int) ∧
      p'.disp = p.disp ∧ cells'.length = cells.length ∧
      ∃ pre : List (Int × Int), ts = pre ++ ts' ∧ pre.length ≤ n := by
  induction n generalizing cells p ts us with
  | zero =>
    rw [act_disperseCell_zero] at h
    cases h
    exact ⟨0, Nat.zero_le _, by rw [Int.natCast_zero, Int.add_zero, act_set_getElem!_self],
      Int.sub_self _, rfl, rfl, [], rfl, Nat.zero_le _⟩
  | succ n ih =>
    cases ts with
    | nil =>
      rw [act_disperseCell_nil] at h
      cases h
      exact ⟨0, Nat.zero_le _, by rw [Int.natCast_zero, Int.add_zero, act_set_getElem!_self],
        Int.sub_self _, rfl, rfl, [], rfl, Nat.zero_le _⟩
    | cons t ts1 =>
      cases hl : landOne g env cells p t us with
      | error e => rw [act_disperseCell_step_err g env origin n cells p t ts1 us e hl] at h; cases h
      | ok r =>
        obtain ⟨cells1, p1, ok, us1⟩ := r
        rw [act_disperseCell_step_ok g env origin n cells p t ts1 us cells1 p1 ok us1 hl] at h
        obtain ⟨l1, l2, l3, l4⟩ := act_landOne_total g env cells cells1 p p1 t us us1 ok hl
        generalize hp2 : (if ok = true then { p1 with est := p1.est.set origin (p1.est[origin]! + 1) } else p1) = p2 at h
        obtain ⟨d, hd, e0, e1, e2⟩ : ∃ d : Nat, d ≤ 1 ∧ (if ok = true then (1 : Int) else 0) = d ∧
            p2.est = p.est.set origin (p.est[origin]! + d) ∧ p2.disp = p.disp := by
          subst hp2
          cases ok
          · exact ⟨0, Nat.zero_le _, rfl, by rw [Int.natCast_zero, Int.add_zero, act_set_getElem!_self]; exact l2, l1⟩
          · exact ⟨1, Nat.le_refl _, rfl, by rw [if_pos rfl, l2]; rfl, l1⟩
        rw [e0] at l4
        obtain ⟨m, m1, m2, m3, m4, m5, pre, m6, m7⟩ :=
          ih cells1 p2 ts1 us1 (by rw [e1, List.length_set]; exact ho) h
        refine ⟨d + m, Nat.add_comm 1 n ▸ Nat.add_le_add hd m1, ?_, ?_, m4.trans e2, m5.trans l3, t :: pre, by rw [m6]; rfl,
          Nat.succ_le_succ m7⟩
        · rw [m2, e1, act_getElem!_set_self _ _ ho, List.set_set, Int.natCast_add, Int.add_assoc]
        · rw [Int.natCast_add]
          exact sub_add_sub_eq l4 m3

theorem act_disperseGo_nil (g : Grid) (env : DisperseEnv) (cells : List Cell) (p : PestState)
    (ts : List (Int × Int)) (us : List Rat) :
    disperseGo g env [] cells p ts us = .ok (cells, p, ts, us) := by
  simp only [disperseGo]

theorem act_disperseGo_step_err (g : Grid) (env : DisperseEnv) (r c : Int) (rest : List (Int × Int))
    (cells : List Cell) (p : PestState) (ts : List (Int × Int)) (us : List Rat) (e : ErrKind)
    (hc : disperseCell g env (g.idx r c) (p.disp[g.idx r c]!).toNat cells p ts us = .error e) :
    disperseGo g env ((r, c) :: rest) cells p ts us = .error e := by
  simp only [disperseGo, hc]

theorem act_disperseGo_step_ok (g : Grid) (env : DisperseEnv) (r c : Int) (rest : List (Int × Int))
    (cells : List Cell) (p : PestState) (ts : List (Int × Int)) (us : List Rat)
    (cells1 : List Cell) (p1 : PestState) (ts1 : List (Int × Int)) (us1 : List Rat)
    (hc : disperseCell g env (g.idx r c) (p.disp[g.idx r c]!).toNat cells p ts us = .ok (cells1, p1, ts1, us1)) :
    disperseGo g env ((r, c) :: rest) cells p ts us = disperseGo g env rest cells1 p1 ts1 us1 := by
  simp only [disperseGo, hc]

theorem act_disperseGo_length (g : Grid) (env : DisperseEnv) (suit : List (Int × Int)) (cells cells' : List Cell)
    (p p' : PestState) (ts ts' : List (Int × Int)) (us us' : List Rat)
    (hs : ∀ rc ∈ suit, g.idx rc.1 rc.2 < p.est.length)
    (h : disperseGo g env suit cells p ts us = .ok (cells', p', ts', us')) :
    p'.est.length = p.est.length := by
  induction suit generalizing cells p ts us with
  | nil =>
    rw [act_disperseGo_nil] at h
    cases h
    rfl
  | cons rc rest ih =>
    obtain ⟨r, c⟩ := rc
    have ho : g.idx r c < p.est.length := hs (r, c) (List.mem_cons_self ..)
    cases hc : disperseCell g env (g.idx r c) (p.disp[g.idx r c]!).toNat cells p ts us with
    | error e => rw [act_disperseGo_step_err g env r c rest cells p ts us e hc] at h; cases h
    | ok q =>
      obtain ⟨cells1, p1, ts1, us1⟩ := q
      rw [act_disperseGo_step_ok g env r c rest cells p ts us cells1 p1 ts1 us1 hc] at h
      obtain ⟨m, _, m2, _⟩ := act_disperseCell_facts g env _ _ cells cells1 p p1 ts ts1 us us1 ho hc
      have hlen : p1.est.length = p.est.length := by rw [m2, List.length_set]
      have hrest := ih cells1 p1 ts1 us1 (fun rc hrc => hlen ▸ hs rc (List.mem_cons_of_mem _ hrc)) h
      exact hrest.trans hlen

end Pops
