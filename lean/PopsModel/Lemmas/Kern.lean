/-
  Lemmas for C13 (core Lean only): name tables, neighbour kernel and axis table, the mix.
-/
import PopsModel.Model.Kern
import PopsModel.Lemmas.Rounding
namespace Pops

theorem lookupTable_exact {β : Type} {f : String → Except ErrKind β} {t : List (String × β)} {e₀ : ErrKind}
    (hok : ∀ p ∈ t, f p.1 = .ok p.2) (hother : ∀ s, (∀ p ∈ t, s ≠ p.1) → f s = .error e₀) (s : String) :
    (∀ b, f s = .ok b → (s, b) ∈ t) ∧ (∀ e, f s = .error e → e = e₀) := by
  by_cases hs : ∀ p ∈ t, s ≠ p.1
  · rw [hother s hs]
    exact ⟨fun _ h => (nomatch h), fun _ h => (Except.error.inj h).symm⟩
  · have ⟨p, hp⟩ := Classical.not_forall.mp hs
    have ⟨hmem, heq⟩ := Classical.not_imp.mp hp
    rw [Classical.not_not.mp heq, hok p hmem]
    exact ⟨fun _ h => Except.ok.inj h ▸ hmem, fun _ h => (nomatch h)⟩

/-- `NamesKernel` on the characters of a string. Decoding a literal (`String.toList`) is very slow in the
    kernel; to unifier and kernel a literal is `String.ofList` of its characters, nothing to decode. -/
def namesChars (l : List Char) (k : DispersalKernelType) : Bool :=
  decide (String.ofList (l.map fun c => if c = '-' then ' ' else c.toLower) = k.name) || (l.isEmpty && k == .none)

theorem namesKernel_ofList {l : List Char} {k : DispersalKernelType} (h : namesChars l k = true) :
    NamesKernel (String.ofList l) k := by
  rw [namesChars, Bool.or_eq_true, decide_eq_true_eq, Bool.and_eq_true, List.isEmpty_iff, beq_iff_eq] at h
  exact h.imp (fun h => by rw [normalizeKernelName, String.toList_ofList]; exact h) fun ⟨hl, hk⟩ => ⟨hl ▸ rfl, hk⟩

theorem names_cons {l : List Char} {k : DispersalKernelType} {t : List (String × DispersalKernelType)} {b : Bool}
    (ht : b = true → ∀ p ∈ t, NamesKernel p.1 p.2) (h : (namesChars l k && b) = true) :
    ∀ p ∈ (String.ofList l, k) :: t, NamesKernel p.1 p.2 :=
  have h := Bool.and_eq_true_iff.mp h
  List.forall_mem_cons.mpr ⟨namesKernel_ofList h.1, ht h.2⟩

theorem names_nil (_ : true = true) : ∀ p ∈ ([] : List (String × DispersalKernelType)), NamesKernel p.1 p.2 :=
  fun _ h => nomatch h

/-- For the names, `names_cons` down the table collects the checks of all entries in one Boolean `?b`,
    evaluated once. -/
theorem kernelSpellings_ok :
    ∀ p ∈ kernelSpellings, kernelTypeFromString p.1 = .ok p.2 ∧ NamesKernel p.1 p.2 := by
  have h : ∀ p ∈ kernelSpellings, kernelTypeFromString p.1 = .ok p.2 := by decide +kernel
  have hn : ∀ p ∈ kernelSpellings, NamesKernel p.1 p.2 := by
    dsimp only [kernelSpellings]
    refine (?g : (?b : Bool) = true → _) ?h
    case g =>
      -- one `names_cons` per entry; it leaves the entry's `?b` first, the rest of the table second
      repeat (refine names_cons (b := ?_) ?_; rotate_left)
      exact names_nil
    case h => decide +kernel
  exact fun p hp => ⟨h p hp, hn p hp⟩

theorem directionTable_ok :
    ∀ p ∈ directionTable, directionFromString p.1 = .ok p.2 ∧ NamesDirection p.1 p.2 := by decide +kernel

/-- Every disjunct of the if-chain compares `s` with a key of the table. -/
theorem kernelTypeFromString_other (s : String) (h : ∀ p ∈ kernelSpellings, s ≠ p.1) :
    kernelTypeFromString s = .error .invalid_argument := by
  simp only [kernelSpellings, List.forall_mem_cons, List.not_mem_nil, ne_eq] at h
  simp only [kernelTypeFromString, h, or_self, if_false]

theorem directionFromString_other (s : String) (h : ∀ p ∈ directionTable, s ≠ p.1) :
    directionFromString s = .error .invalid_argument := by
  have : directionTable.lookup s = none :=
    List.lookup_eq_none_iff.mpr fun p hp => bne_iff_ne.mpr (h p hp)
  rw [directionFromString, this]

theorem kernelTypeFromString_ok_mem (s : String) (k : DispersalKernelType)
    (h : kernelTypeFromString s = .ok k) : (s, k) ∈ kernelSpellings :=
  (lookupTable_exact (fun p hp => (kernelSpellings_ok p hp).1) kernelTypeFromString_other s).1 k h

theorem directionFromString_ok_mem (s : String) (d : Direction)
    (h : directionFromString s = .ok d) : (s, d) ∈ directionTable :=
  (lookupTable_exact (fun p hp => (directionTable_ok p hp).1) directionFromString_other s).1 d h

theorem kernelTypeFromString_err (s : String) (e : ErrKind) (h : kernelTypeFromString s = .error e) :
    e = .invalid_argument :=
  (lookupTable_exact (fun p hp => (kernelSpellings_ok p hp).1) kernelTypeFromString_other s).2 e h

theorem directionFromString_err (s : String) (e : ErrKind) (h : directionFromString s = .error e) :
    e = .invalid_argument :=
  (lookupTable_exact (fun p hp => (directionTable_ok p hp).1) directionFromString_other s).2 e h

theorem kernelTypeFromString_name (k : DispersalKernelType) : kernelTypeFromString k.name = .ok k := by
  have h : ∀ k ∈ DispersalKernelType.all, kernelTypeFromString k.name = .ok k := by decide +kernel
  exact h k (by cases k <;> decide)

theorem directionFromString_name (d : Direction) : directionFromString d.name = .ok d := by
  have h : ∀ d ∈ Direction.all, directionFromString d.name = .ok d := by decide +kernel
  exact h d (by cases d <;> decide)

theorem law_isSome_iff (t : DispersalKernelType) :
    t.law?.isSome = true ↔ t ≠ .uniform ∧ t ≠ .deterministicNeighbor ∧ t ≠ .network ∧ t ≠ .none := by
  cases t <;> decide

theorem neighbor_in_direction (d : Direction) (hd : d ≠ .none) (row col : Int) :
    ∃ t, neighborKernel d row col = .ok t ∧ NeighborInDirection d row col t := by
  have ho : neighborOffset d = some (-d.northSign, d.eastSign) := by
    cases d <;> first | exact absurd rfl hd | rfl
  have hm : max d.northSign.natAbs d.eastSign.natAbs = 1 := by
    cases d <;> first | exact absurd rfl hd | rfl
  have e1 : row + -d.northSign - row = -d.northSign := by omega
  have e2 : col + d.eastSign - col = d.eastSign := by omega
  refine ⟨(row + -d.northSign, col + d.eastSign), by rw [neighborKernel, ho], ?_, by omega, rfl⟩
  rw [chebyshev, e1, e2, Int.natAbs_neg, hm]

theorem axis_table (d : Direction) (c s : Rat) (hc : axisCos d = some c) (hs : axisSin d = some s) :
    (d.northSign = 0 ∨ d.eastSign = 0) ∧ c = d.northSign ∧ s = d.eastSign := by
  cases d <;> cases hc <;> cases hs <;> decide

theorem mix_iff (enabled eligible : Bool) (u p : Rat) :
    mixUsesAnthropogenic enabled eligible u p = true ↔ enabled = true ∧ eligible = true ∧ p ≤ u := by
  cases enabled <;> cases eligible <;> simp [mixUsesAnthropogenic, mixNatural, Rat.not_lt]

end Pops
