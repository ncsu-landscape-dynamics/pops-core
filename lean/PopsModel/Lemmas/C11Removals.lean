/-
  C11 with other actions acting on the mortality cohorts between mortality steps.

  In a real run the mortality cohorts of a cell are touched by: the mortality action; additions to
  the youngest cohort (SI landings, the SEI latency step); additions cohort by cohort (host
  movement INTO the cell: `move_hosts_from_to` adds the drawn hosts to the cohort of the same
  index, it does not put them in the youngest cohort); and removals cohort by cohort (lethal
  temperature, survival rate, treatments, host movement out of the cell).

  Here: the history datatype `MortOp`, what each entry does (`MortOp.rel`), traces; what one
  entry does to sign, length and the balance `died + sum mort` (`mortc_rel_facts`) and to the
  positions (`coh_mortality_shift`); the lemmas through which each action of the model is seen to
  be an entry (`mortc_remove_of_Dom`: whatever takes a dominated vector out of the cohorts).
  Prefixes: `mortc_` entries of a history on the cohorts, `coh_` cohort-wise (position-wise) facts.
-/
import PopsModel.Lemmas.HostMortality
import PopsModel.Lemmas.HostCell
namespace Pops

/-- What can happen to the mortality cohorts of a cell. -/
inductive MortOp where
  | mortality                 -- the mortality action (apply, then age)
  | add (x : Int)             -- `x ≥ 0` hosts join the youngest cohort
  | arrive (d : List Int)     -- `d_k ≥ 0` hosts join cohort `k` (host movement into the cell)
  | remove (d : List Int)     -- `0 ≤ d_k ≤ cohort_k` hosts leave cohort `k`
deriving Repr

def MortOp.added : MortOp → Int
  | .mortality => 0
  | .add x => x
  | .arrive d => sumL d
  | .remove _ => 0

def MortOp.removed : MortOp → Int
  | .mortality => 0
  | .add _ => 0
  | .arrive _ => 0
  | .remove d => sumL d

/-- Hosts added to the cohorts along a history. -/
def addedBy : List MortOp → Int
  | [] => 0
  | op :: rest => op.added + addedBy rest

/-- Hosts taken out of the cohorts (other than by death) along a history. -/
def removedBy : List MortOp → Int
  | [] => 0
  | op :: rest => op.removed + removedBy rest

/-- Number of mortality steps of a history. -/
def mortSteps : List MortOp → Nat
  | [] => 0
  | .mortality :: rest => mortSteps rest + 1
  | .add _ :: rest => mortSteps rest
  | .arrive _ :: rest => mortSteps rest
  | .remove _ :: rest => mortSteps rest

/-- The part of a history from the first of its last `n` mortality steps on (the whole history from
    its first mortality step on when it has at most `n` of them). -/
def lastMortWindow (n : Nat) : List MortOp → List MortOp
  | [] => []
  | .mortality :: rest => if mortSteps rest < n then .mortality :: rest else lastMortWindow n rest
  | .add _ :: rest => lastMortWindow n rest
  | .arrive _ :: rest => lastMortWindow n rest
  | .remove _ :: rest => lastMortWindow n rest

/-- One entry of a history relates the cell before and after, as far as the mortality cohorts and
    the `died` count are concerned (every other field is left open: the concrete actions differ
    there). A removal takes from each cohort at most what it holds and nothing negative. -/
def MortOp.rel (rate : Rat) (lag : Int) : MortOp → Cell → Cell → Prop
  | .mortality, c, c' => (CellOp.mortality rate lag).apply c = .ok c'
  | .add x, c, c' => 0 ≤ x ∧ c'.mort = addLast c.mort x ∧ c'.died = c.died
  | .arrive d, c, c' =>
      d.length = c.mort.length ∧ (∀ x ∈ d, 0 ≤ x) ∧ c'.mort = addL c.mort d ∧ c'.died = c.died
  | .remove d, c, c' =>
      d.length = c.mort.length ∧ (∀ k : Nat, k < d.length → 0 ≤ d[k]! ∧ d[k]! ≤ c.mort[k]!) ∧
      c'.mort = subL c.mort d ∧ c'.died = c.died

/-- The infected count follows the cohorts (what keeps `i = sum mort`). -/
def MortOp.keepsI : MortOp → Cell → Cell → Prop
  | .mortality, _, _ => True
  | .add x, c, c' => c'.i = c.i + x
  | .arrive d, c, c' => c'.i = c.i + sumL d
  | .remove d, c, c' => c'.i = c.i - sumL d

/-- A history leads from `c` to `c'` through cells related step by step by `R`. -/
def MortTrace (R : MortOp → Cell → Cell → Prop) : List MortOp → Cell → Cell → Prop
  | [], c, c' => c' = c
  | op :: rest, c, c' => ∃ c1, R op c c1 ∧ MortTrace R rest c1 c'

theorem MortTrace.mono {R R' : MortOp → Cell → Cell → Prop} (hR : ∀ op a b, R op a b → R' op a b) :
    ∀ (ops : List MortOp) (c c' : Cell), MortTrace R ops c c' → MortTrace R' ops c c'
  | [], _, _, h => h
  | _ :: rest, _, _, ⟨c1, h1, h2⟩ => ⟨c1, hR _ _ _ h1, MortTrace.mono hR rest _ _ h2⟩

/-- Equality of a run's result with an expected cell, reduced to a decidable check (`Except` has no
    `DecidableEq`; used for concrete instances). -/
theorem mortc_ok_of_check {b : Cell} {x : Except ErrKind Cell}
    (h : (match x with | .ok c => decide (c = b) | .error _ => false) = true) : x = .ok b := by
  cases x with
  | ok c => simp only [decide_eq_true_eq] at h; rw [h]
  | error e => cases h

/-! ### histories as lists -/

theorem mortSteps_cons (op : MortOp) (rest : List MortOp) :
    mortSteps (op :: rest) = mortSteps [op] + mortSteps rest := by
  cases op <;> simp only [mortSteps] <;> omega

theorem mortSteps_append : ∀ (a b : List MortOp), mortSteps (a ++ b) = mortSteps a + mortSteps b
  | [], b => (Nat.zero_add _).symm
  | op :: rest, b => by
    rw [List.cons_append, mortSteps_cons, mortSteps_append rest b, mortSteps_cons op rest,
      Nat.add_assoc]

theorem addedBy_append : ∀ (a b : List MortOp), addedBy (a ++ b) = addedBy a + addedBy b
  | [], b => (Int.zero_add _).symm
  | op :: rest, b => by
    simp only [List.cons_append, addedBy, addedBy_append rest b, Int.add_assoc]

theorem lastMortWindow_cons_of_le (n : Nat) (op : MortOp) (rest : List MortOp)
    (h : n ≤ mortSteps rest) : lastMortWindow n (op :: rest) = lastMortWindow n rest := by
  cases op with
  | mortality => exact if_neg (Nat.not_lt.mpr h)
  | _ => rfl

/-- The window is a suffix of the history; it holds `n` mortality steps when the history has as
    many: going from the left, the first mortality step with fewer than `n` steps after it has at
    least `n - 1` after it. -/
theorem lastMortWindow_suffix (n : Nat) : ∀ ops : List MortOp,
    ∃ pre, ops = pre ++ lastMortWindow n ops ∧
      (n ≤ mortSteps ops → n ≤ mortSteps (lastMortWindow n ops))
  | [] => ⟨[], rfl, id⟩
  | op :: rest => by
    obtain ⟨pre, e, hn⟩ := lastMortWindow_suffix n rest
    by_cases h : n ≤ mortSteps rest
    · rw [lastMortWindow_cons_of_le n op rest h]
      exact ⟨op :: pre, congrArg (op :: ·) e, fun _ => hn h⟩
    · cases op with
      | mortality =>
        have hw : lastMortWindow n (.mortality :: rest) = .mortality :: rest :=
          if_pos (Nat.lt_of_not_le h)
        rw [hw]; exact ⟨[], rfl, id⟩
      | _ => exact ⟨_ :: pre, congrArg (_ :: ·) e, fun hs => absurd hs h⟩

/-! ### list facts: positions of `addLast`, `addL`, `subL`, dominated vectors -/

theorem getElem!_eq_zero_of_le (d : List Int) (j : Nat) (hj : d.length ≤ j) : d[j]! = 0 :=
  act_getElem!_ge hj

theorem getElem!_addLast : ∀ (l : List Int) (x : Int) (j : Nat),
    (addLast l x)[j]! = l[j]! + (if j + 1 = l.length then x else 0)
  | [], x, j => by
    simp only [List.length_nil, if_neg (Nat.succ_ne_zero j)]; exact (Int.add_zero _).symm
  | [y], x, 0 => rfl
  | [y], x, j' + 1 => by
    rw [if_neg (by simp only [List.length_cons, List.length_nil]; omega)]; rfl
  | y :: z :: rest, x, 0 => by
    rw [if_neg (by simp only [List.length_cons]; omega)]; exact (Int.add_zero y).symm
  | y :: z :: rest, x, j' + 1 => by
    have ih := getElem!_addLast (z :: rest) x j'
    simp only [addLast, List.getElem!_cons_succ, List.length_cons, Nat.add_right_cancel_iff] at ih ⊢
    exact ih

theorem getElem!_append_zero : ∀ (t : List Int) (j : Nat), (t ++ [0])[j]! = t[j]!
  | [], j => by cases j <;> simp
  | x :: xs, j => by
    cases j with
    | zero => simp
    | succ j' =>
      simp only [List.cons_append, List.getElem!_cons_succ]
      exact getElem!_append_zero xs j'

theorem subL_zeros (m d : List Int) (hz : ∀ x ∈ d, x = 0) (hl : d.length = m.length) :
    subL m d = m := by
  induction m generalizing d with
  | nil => cases d with
    | nil => rfl
    | cons y ys => simp at hl
  | cons x xs ih => cases d with
    | nil => simp at hl
    | cons y ys =>
      have hy : y = 0 := hz y (by simp)
      have := ih ys (fun z hz' => hz z (by simp [hz'])) (by simpa using hl)
      unfold subL at *
      simp only [List.zipWith_cons_cons, this, hy, Int.sub_zero]

theorem mortc_mortality_i (c c1 : Cell) (rate : Rat) (lag : Int) (hr0 : 0 < rate)
    (h : (CellOp.mortality rate lag).apply c = .ok c1) : c1.i + c1.died = c.i + c.died := by
  have hr0' : 0 ≤ rate := Rat.le_of_lt hr0
  have hrn : ¬ rate ≤ 0 := Rat.not_le.mpr hr0
  simp only [CellOp.apply, mech_applyMortality_pos c rate lag hrn] at h
  generalize ((c.mort.length : Int) - lag - 1 + 1).toNat = N at *
  cases hloop : mech_loop rate (List.range N) c with
  | error e => rw [hloop] at h; cases h
  | ok cN =>
    rw [hloop] at h
    have hc1 : c1 = cN.stepForwardMortality := by
      have : Except.ok (cN.stepForwardMortality) = Except.ok (ε := ErrKind) c1 := h
      simp only [Except.ok.injEq] at this
      exact this.symm
    obtain ⟨_, i2, i3, _⟩ := mech_loop_inv rate hr0' c N cN hloop
    rw [hc1]; simp only [Cell.stepForwardMortality]; omega

theorem mortc_rel_facts (rate : Rat) (lag : Int) (hr0 : 0 < rate) (hr1 : rate ≤ 1) (hl0 : 0 ≤ lag)
    (op : MortOp) (c c1 : Cell) (hnn : ∀ x ∈ c.mort, 0 ≤ x) (hlag : lag < (c.mort.length : Int))
    (h : op.rel rate lag c c1) :
    (∀ x ∈ c1.mort, 0 ≤ x) ∧ c1.mort.length = c.mort.length ∧
    c1.died + sumL c1.mort = c.died + sumL c.mort + op.added - op.removed := by
  have hpos : 0 < c.mort.length := Int.natCast_pos.mp (Int.lt_of_le_of_lt hl0 hlag)
  cases op with
  | mortality =>
    cases hc : c.mort with
    | nil => rw [hc] at hpos; exact absurd hpos (Nat.lt_irrefl 0)
    | cons x0 t =>
      obtain ⟨t', e1, hdom, e3⟩ := mech_mort_step c c1 rate lag hr0 hr1 x0 t hc hlag hnn h
      rw [e1, e3, ← hc]
      refine ⟨allNN_append.mpr ⟨hdom.allNN_draw, allNN_cons.mpr ⟨Int.le_refl 0, allNN_nil⟩⟩, ?_, ?_⟩
      · simp only [List.length_append, List.length_cons, List.length_nil, hdom.length_eq, hc]
      · simp only [sumL_append, sumL_cons, sumL_nil, MortOp.added, MortOp.removed]; omega
  | add x =>
    obtain ⟨hx, hm, hd⟩ := h
    rw [hm, hd, sumL_addLast _ (List.length_pos_iff.mp hpos)]
    exact ⟨allNN_addLast hnn hx, length_addLast c.mort x,
      ((Int.sub_zero _).trans (Int.add_assoc _ _ _)).symm⟩
  | arrive d =>
    obtain ⟨hl, hd0, hm, hd⟩ := h
    rw [hm, hd, sumL_addL hl]
    exact ⟨allNN_addL hnn hd0, length_addL hl,
      ((Int.sub_zero _).trans (Int.add_assoc _ _ _)).symm⟩
  | remove d =>
    obtain ⟨hl, hp, hm, hd⟩ := h
    rw [hm, hd, sumL_subL hl]
    refine ⟨(dom_of_pointwise hl hp).allNN_sub, length_subL hl, ?_⟩
    show _ = c.died + sumL c.mort + 0 - sumL d
    rw [Int.add_zero, Int.add_sub_assoc]

/-- A mortality step moves every cohort one position down and can only shrink it; the last
    position holds the emptied cohort. -/
theorem coh_mortality_shift (rate : Rat) (lag : Int) (hr0 : 0 < rate) (hr1 : rate ≤ 1) (hl0 : 0 ≤ lag)
    (c c1 : Cell) (hnn : ∀ x ∈ c.mort, 0 ≤ x) (hlag : lag < (c.mort.length : Int))
    (h : (CellOp.mortality rate lag).apply c = .ok c1) (j : Nat) :
    0 ≤ c1.mort[j]! ∧ c1.mort[j]! ≤ c.mort[j + 1]! ∧ (j + 1 = c.mort.length → c1.mort[j]! = 0) := by
  have hpos : 0 < c.mort.length := Int.natCast_pos.mp (Int.lt_of_le_of_lt hl0 hlag)
  cases hc : c.mort with
  | nil => rw [hc] at hpos; exact absurd hpos (Nat.lt_irrefl 0)
  | cons x0 t =>
    obtain ⟨t', e1, hdom, _⟩ := mech_mort_step c c1 rate lag hr0 hr1 x0 t hc hlag hnn h
    have hlen := hdom.length_eq
    have hd := hdom.get j
    rw [e1, getElem!_append_zero, List.getElem!_cons_succ]
    refine ⟨hd.1, hd.2, ?_⟩
    intro hj
    simp only [List.length_cons] at hj
    exact getElem!_eq_zero_of_le t' j (by omega)

theorem mortc_rel_i (rate : Rat) (lag : Int) (hr0 : 0 < rate) (hr1 : rate ≤ 1) (hl0 : 0 ≤ lag)
    (op : MortOp) (c c1 : Cell) (hnn : ∀ x ∈ c.mort, 0 ≤ x) (hlag : lag < (c.mort.length : Int))
    (h : op.rel rate lag c c1) (hk : op.keepsI c c1) :
    c1.i - sumL c1.mort = c.i - sumL c.mort := by
  cases op with
  | mortality =>
    have hb := (mortc_rel_facts rate lag hr0 hr1 hl0 _ c c1 hnn hlag h).2.2
    have hi := mortc_mortality_i c c1 rate lag hr0 h
    simp only [MortOp.added, MortOp.removed] at hb; omega
  | add x =>
    have hpos : 0 < c.mort.length := Int.natCast_pos.mp (Int.lt_of_le_of_lt hl0 hlag)
    rw [show c1.i = c.i + x from hk, h.2.1, sumL_addLast _ (List.length_pos_iff.mp hpos), Int.add_sub_add_right]
  | arrive d =>
    rw [show c1.i = c.i + sumL d from hk, h.2.2.1, sumL_addL h.1, Int.add_sub_add_right]
  | remove d =>
    rw [show c1.i = c.i - sumL d from hk, h.2.2.1, sumL_subL h.1]; omega

/-- Additions are non-negative (part of `MortOp.rel`). -/
def MortOp.nonnegAdd : MortOp → Prop
  | .mortality => True
  | .add x => 0 ≤ x
  | .arrive d => ∀ y ∈ d, 0 ≤ y
  | .remove _ => True

theorem MortOp.added_nonneg (op : MortOp) (h : op.nonnegAdd) : 0 ≤ op.added := by
  cases op with
  | add x => exact h
  | arrive d => exact sumL_nonneg h
  | _ => exact Int.le_refl 0

theorem coh_trace_nonnegAdd (rate : Rat) (lag : Int) (c' : Cell) : ∀ (ops : List MortOp) (c : Cell),
    MortTrace (MortOp.rel rate lag) ops c c' → ∀ op ∈ ops, op.nonnegAdd
  | [], _, _, _, h => by simp at h
  | o :: rest, c, ⟨c1, h1, h2⟩, op, hop => by
    rcases List.mem_cons.mp hop with rfl | hin
    · cases op with
      | mortality => trivial
      | add x => exact h1.1
      | arrive d => exact h1.2.1
      | remove d => trivial
    · exact coh_trace_nonnegAdd rate lag c' rest c1 h2 op hin

theorem addedBy_nonneg : ∀ (ops : List MortOp), (∀ op ∈ ops, op.nonnegAdd) → 0 ≤ addedBy ops
  | [], _ => Int.le_refl 0
  | op :: rest, h => by
    have := op.added_nonneg (h op (List.mem_cons_self ..))
    have := addedBy_nonneg rest (fun o ho => h o (List.mem_cons_of_mem _ ho))
    simp only [addedBy]; omega

theorem mortc_added_window_le (n : Nat) (ops : List MortOp) (h : ∀ op ∈ ops, op.nonnegAdd) :
    addedBy (lastMortWindow n ops) ≤ addedBy ops := by
  obtain ⟨pre, e, _⟩ := lastMortWindow_suffix n ops
  have hsum := congrArg addedBy e
  rw [addedBy_append] at hsum
  have := addedBy_nonneg pre (fun o ho => h o (by rw [e]; exact List.mem_append_left _ ho))
  omega

theorem mortc_trace_facts (rate : Rat) (lag : Int) (hr0 : 0 < rate) (hr1 : rate ≤ 1) (hl0 : 0 ≤ lag)
    (c' : Cell) : ∀ (ops : List MortOp) (cj : Cell), (∀ x ∈ cj.mort, 0 ≤ x) →
      lag < (cj.mort.length : Int) → MortTrace (MortOp.rel rate lag) ops cj c' →
      (∀ x ∈ c'.mort, 0 ≤ x) ∧ c'.mort.length = cj.mort.length ∧
      c'.died + sumL c'.mort = cj.died + sumL cj.mort + addedBy ops - removedBy ops := by
  intro ops
  induction ops with
  | nil =>
    intro cj hnn _ h
    have : c' = cj := h
    subst this
    exact ⟨hnn, rfl, by simp only [addedBy, removedBy, Int.add_zero, Int.sub_zero]⟩
  | cons op rest ih =>
    intro cj hnn hlag h
    obtain ⟨c1, h1, h2⟩ := h
    obtain ⟨f1, f2, f3⟩ := mortc_rel_facts rate lag hr0 hr1 hl0 op cj c1 hnn hlag h1
    obtain ⟨g1, g2, g3⟩ := ih c1 f1 (by rw [f2]; exact hlag) h2
    exact ⟨g1, by rw [g2, f2], by simp only [addedBy, removedBy]; omega⟩

theorem mortc_trace_i (rate : Rat) (lag : Int) (hr0 : 0 < rate) (hr1 : rate ≤ 1) (hl0 : 0 ≤ lag)
    (c' : Cell) : ∀ (ops : List MortOp) (cj : Cell), (∀ x ∈ cj.mort, 0 ≤ x) →
      lag < (cj.mort.length : Int) →
      MortTrace (fun op a b => op.rel rate lag a b ∧ op.keepsI a b) ops cj c' →
      c'.i - sumL c'.mort = cj.i - sumL cj.mort := by
  intro ops
  induction ops with
  | nil =>
    intro cj _ _ h
    have : c' = cj := h
    subst this; rfl
  | cons op rest ih =>
    intro cj hnn hlag h
    obtain ⟨c1, ⟨h1, hk⟩, h2⟩ := h
    obtain ⟨f1, f2, _⟩ := mortc_rel_facts rate lag hr0 hr1 hl0 op cj c1 hnn hlag h1
    rw [ih c1 f1 (by rw [f2]; exact hlag) h2]
    exact mortc_rel_i rate lag hr0 hr1 hl0 op cj c1 hnn hlag h1 hk

/-! ### the concrete actions of the model are such entries -/

/-- An action that leaves the cell as it is is the entry `add 0`. -/
theorem mortc_add_zero (rate : Rat) (lag : Int) (c : Cell) :
    (MortOp.add 0).rel rate lag c c ∧ (MortOp.add 0).keepsI c c :=
  ⟨⟨Int.le_refl 0, (addLast_zero c.mort).symm, rfl⟩, (Int.add_zero c.i).symm⟩

/-- Taking a dominated vector out of the cohorts and leaving `died` alone is a `remove` entry:
    the shape shared by lethal temperature, survival rate, treatments and the source side of a
    host move. -/
theorem mortc_remove_of_Dom (rate : Rat) (lag : Int) {c c' : Cell} {d : List Int}
    (hdom : Dom c.mort d) (hm : c'.mort = subL c.mort d) (hd : c'.died = c.died) :
    (MortOp.remove d).rel rate lag c c' :=
  ⟨hdom.length_eq, fun k _ => hdom.get k, hm, hd⟩

/-- `remove_infected_at` with a valid draw of `0 ≤ count ≤ i` hosts. -/
theorem mortc_removeInfected (rate : Rat) (lag : Int) (c : Cell) (count : Int) (draw : List Int)
    (hm : c.i = sumL c.mort) (h0 : 0 ≤ count) (hle : count ≤ c.i)
    (hd : ValidDraw c.mort count draw) :
    (MortOp.remove draw).rel rate lag c (c.removeInfected count draw) ∧
    (MortOp.remove draw).keepsI c (c.removeInfected count draw) := by
  have hsum : sumL draw = count := by rw [hd.2.2, ← hm]; exact Int.min_eq_left hle
  have hdom := hd.dom
  refine ⟨mortc_remove_of_Dom rate lag hdom ?_ rfl, ?_⟩
  · by_cases hc : count > 0
    · simp only [Cell.removeInfected, hc, if_true]
    · have hz := eq_zero_of_sumL_eq_zero draw hdom.allNN_draw
        (by rw [hsum]; exact Int.le_antisymm (Int.not_lt.mp hc) h0)
      simp only [Cell.removeInfected, hc, if_false]
      exact (subL_zeros c.mort draw hz hd.1).symm
  · show c.i - count = c.i - sumL draw
    rw [hsum]

/-- `remove_exposed_at` (the second half of the survival-rate action) leaves `mort`, `died` and
    `i` alone. -/
theorem mortc_removeExposed (rate : Rat) (lag : Int) (d : List Int) (c a : Cell) (k : Int)
    (dE : List Int) (h : (MortOp.remove d).rel rate lag c a ∧ (MortOp.remove d).keepsI c a) :
    (MortOp.remove d).rel rate lag c (a.removeExposed k dE) ∧
    (MortOp.remove d).keepsI c (a.removeExposed k dE) := h

/-- The share of the infected total agrees with the sum of the per-cohort shares: always for
    "all infected in cell", and for a ratio exactly when `roundingAgrees` (finding F20). -/
theorem mortc_share_agrees (rnd : Rat → Int) (hall : ∀ coef x, mech_sh rnd coef .allInfected x = if coef ≠ 0 then x else 0)
    (coef : Rat) (app : TreatApp) (c : Cell) (hm : c.i = sumL c.mort) :
    (mech_sh rnd coef app c.i = sumL (c.mort.map (mech_sh rnd coef app))) ↔
      (app = .allInfected ∨ roundingAgrees rnd coef c = true) := by
  cases app with
  | allInfected =>
    refine iff_of_true ?_ (Or.inl rfl)
    rw [hall, hm]
    by_cases h0 : coef = 0
    · have hz : c.mort.map (mech_sh rnd coef .allInfected) = c.mort.map (fun _ => 0) :=
        List.map_congr_left (fun x _ => by rw [hall, if_neg (fun h => h h0)])
      rw [if_neg (fun h => h h0), hz, sumL_zeros]
    · have hid : c.mort.map (mech_sh rnd coef .allInfected) = c.mort.map id :=
        List.map_congr_left (fun x _ => by rw [hall, if_pos h0]; rfl)
      rw [if_pos h0, hid, List.map_id]
  | ratio =>
    have hne : ¬ (TreatApp.ratio = TreatApp.allInfected) := by decide
    simp only [hne, false_or, roundingAgrees, decide_eq_true_eq]
    constructor
    · intro h; exact h.symm
    · intro h; exact h.symm

/-- A treatment (removal: `rnd = rceil`; pesticide: `rnd = rfloor`) takes its share out of every
    cohort and the share of the total out of `i`: a removal on the cohorts; `i` follows exactly
    when the rounding of the total agrees with the per-cohort rounding. -/
theorem mortc_treat (rate : Rat) (lag : Int) (rnd : Rat → Int)
    (hall : ∀ coef x, mech_sh rnd coef .allInfected x = if coef ≠ 0 then x else 0)
    (coef : Rat) (app : TreatApp) (c c' : Cell) (hmn : ∀ x ∈ c.mort, 0 ≤ x) (hm : c.i = sumL c.mort)
    (hb : ∀ x, 0 ≤ x → 0 ≤ mech_sh rnd coef app x ∧ mech_sh rnd coef app x ≤ x)
    (hmort : c'.mort = c.mort.map (fun x => x - mech_sh rnd coef app x)) (hdied : c'.died = c.died)
    (hi : c'.i = c.i - mech_sh rnd coef app c.i) :
    (MortOp.remove (c.mort.map (mech_sh rnd coef app))).rel rate lag c c' ∧
    ((MortOp.remove (c.mort.map (mech_sh rnd coef app))).keepsI c c' ↔
      (app = .allInfected ∨ roundingAgrees rnd coef c = true)) := by
  refine ⟨mortc_remove_of_Dom rate lag (dom_map hmn hb)
    (by rw [subL_map]; exact hmort) hdied, ?_⟩
  rw [← mortc_share_agrees rnd hall coef app c hm]
  show c'.i = c.i - sumL (c.mort.map (mech_sh rnd coef app)) ↔ _
  rw [hi]
  exact Int.sub_right_inj c.i

/-- The per-cohort counts `move_hosts_from_to` takes from the source and gives to the target
    (the same function as `mDeltaOf` of Lemmas/HostHistory, whose facts are stated for `Good` cells;
    `mortc_moveDelta` below needs `i = sum mort` only). -/
def moveMortDelta (src : Cell) (d : ClassDraw) (drawM : List Int) : List Int :=
  if d.i > 0 then drawM else src.mort.map (fun _ => 0)

theorem mortc_moveDelta (src : Cell) (d : ClassDraw) (dM : List Int) (hm : src.i = sumL src.mort)
    (hd0 : 0 ≤ d.i) (hd1 : d.i ≤ src.i) (hd : d.i > 0 → ValidDraw src.mort d.i dM) :
    (moveMortDelta src d dM).length = src.mort.length ∧ (∀ x ∈ moveMortDelta src d dM, 0 ≤ x) ∧
    sumL (moveMortDelta src d dM) = d.i ∧
    ((∀ x ∈ src.mort, 0 ≤ x) → Dom src.mort (moveMortDelta src d dM)) := by
  unfold moveMortDelta
  by_cases hp : d.i > 0
  · have hv := hd hp
    have hdom := hv.dom
    simp only [hp, if_true]
    exact ⟨hv.1, hdom.allNN_draw,
      by rw [hv.2.2, ← hm]; exact Int.min_eq_left hd1, fun _ => hdom⟩
  · simp only [hp, if_false, List.length_map, sumL_zeros, true_and]
    refine ⟨?_, Int.le_antisymm hd0 (Int.not_lt.mp hp),
      dom_zeros⟩
    intro x hx
    obtain ⟨_, _, rfl⟩ := List.mem_map.mp hx
    exact Int.le_refl 0

end Pops
