/-
  Lemmas for C16 (several hosts) on the pool itself; `mh_` marks facts about the multi-host pool.
  The loops over the hosts are instances of `forFrom`; a landing (`multiDisperserTo`) is brought
  into the closed form `outcome`, from which the at-most-one-host, establishment and single-host
  results of Props/C16.lean are read off.
-/
import PopsModel.Model.MultiPred
import PopsModel.Lemmas.HostMech
namespace Pops

/-- Core has no decidable equality of `Except` values; a `def`, made a local instance where a
    concrete result is checked by evaluation. -/
@[instance_reducible] def exceptDecEq {ε α : Type} [DecidableEq ε] [DecidableEq α] : DecidableEq (Except ε α)
  | .ok a, .ok b => if h : a = b then isTrue (by rw [h]) else isFalse (fun h' => h (by cases h'; rfl))
  | .error a, .error b => if h : a = b then isTrue (by rw [h]) else isFalse (fun h' => h (by cases h'; rfl))
  | .ok _, .error _ => isFalse (fun h => by cases h)
  | .error _, .ok _ => isFalse (fun h => by cases h)

/-- The shape of the pool's loops over its hosts (`suitabilitiesFrom`, `applyMortalityFrom`, and
    over landscapes `MM.modelMortality`): `f` on host `k`, `k + 1`, ... in order; the first error
    ends the call. -/
def forFrom {α β : Type} (f : Nat → α → Except ErrKind β) : Nat → List α → Except ErrKind (List β)
  | _, [] => .ok []
  | k, a :: rest => do
    let b ← f k a
    let bs ← forFrom f (k + 1) rest
    pure (b :: bs)

theorem forFrom_cons_ok {α β : Type} {f : Nat → α → Except ErrKind β} {k : Nat} {a : α} {rest : List α} {l : List β}
    (h : forFrom f k (a :: rest) = .ok l) :
    ∃ b bs, f k a = .ok b ∧ forFrom f (k + 1) rest = .ok bs ∧ l = b :: bs := by
  simp only [forFrom, bind, Except.bind] at h
  cases hb : f k a with
  | error e => rw [hb] at h; cases h
  | ok b =>
    rw [hb] at h
    cases hr : forFrom f (k + 1) rest with
    | error e => rw [hr] at h; cases h
    | ok bs =>
      rw [hr] at h
      simp only [pure, Except.pure, Except.ok.injEq] at h
      exact ⟨b, bs, rfl, rfl, h.symm⟩

theorem forFrom_ok {α β : Type} [Inhabited α] [Inhabited β] {f : Nat → α → Except ErrKind β} {k : Nat} {as : List α}
    {l : List β} (h : forFrom f k as = .ok l) :
    l.length = as.length ∧ ∀ j, j < as.length → f (k + j) (as[j]!) = .ok (l[j]!) := by
  induction as generalizing k l with
  | nil =>
    simp only [forFrom, Except.ok.injEq] at h
    subst h
    exact ⟨rfl, fun j hj => absurd hj (Nat.not_lt_zero j)⟩
  | cons a rest ih =>
    obtain ⟨b, bs, hb, hr, rfl⟩ := forFrom_cons_ok h
    obtain ⟨i1, i2⟩ := ih hr
    refine ⟨by rw [List.length_cons, List.length_cons, i1], fun j hj => ?_⟩
    cases j with
    | zero => exact hb
    | succ j =>
      have e : k + (j + 1) = k + 1 + j := by omega
      rw [e]
      exact i2 j (Nat.lt_of_succ_lt_succ hj)

theorem forFrom_zero_ok {α β : Type} [Inhabited α] [Inhabited β] {f : Nat → α → Except ErrKind β} {as : List α}
    {l : List β} (h : forFrom f 0 as = .ok l) :
    l.length = as.length ∧ ∀ j, j < as.length → f j (as[j]!) = .ok (l[j]!) := by
  have := forFrom_ok h
  simpa only [Nat.zero_add] using this

theorem suitabilitiesFrom_eq (env : MEnv) (k : Nat) (cells : List Cell) :
    suitabilitiesFrom env k cells = forFrom (hostSuitability env) k cells := by
  induction cells generalizing k with
  | nil => rfl
  | cons c rest ih => simp only [suitabilitiesFrom, forFrom, ih]

theorem applyMortalityFrom_eq (env : MEnv) (k : Nat) (cells : List Cell) :
    applyMortalityFrom env k cells = forFrom (hostApplyMortality env) k cells := by
  induction cells generalizing k with
  | nil => rfl
  | cons c rest ih => simp only [applyMortalityFrom, forFrom, ih]

theorem mh_add_nonpos (mt : ModelType) (c : Cell) (hs : c.s ≤ 0) : c.addDisperserAt mt = (c, 0) := by
  unfold Cell.addDisperserAt; simp [hs]

theorem mh_landingSpec_zero (mt : ModelType) (c : Cell) : landingSpec mt c c 0 = true :=
  mech_landingSpec_stay mt c

theorem mh_dispTo_pos {mt : ModelType} {c : Cell} {env : EnvCell} {sto : Bool} {pEst u p : Rat}
    (hs : 0 < c.s) (hp : c.suitability env = .ok p) :
    c.disperserTo mt env sto pEst u =
      .ok (if canEstablish p sto pEst u then (landed mt c, 1, if sto then 1 else 0)
           else (c, 0, if sto then 1 else 0)) := by
  have : ¬ c.s ≤ 0 := by omega
  unfold Cell.disperserTo
  simp only [this, if_false, hp, mech_addDisperserAt_pos mt c hs]
  simp only [bind, Except.bind]
  split <;> rfl

theorem mh_dispTo_err {mt : ModelType} {c : Cell} {env : EnvCell} {sto : Bool} {pEst u : Rat} {e : ErrKind}
    (hs : 0 < c.s) (hp : c.suitability env = .error e) :
    c.disperserTo mt env sto pEst u = .error e := by
  have : ¬ c.s ≤ 0 := by omega
  unfold Cell.disperserTo
  simp only [this, if_false, hp]
  rfl

theorem mh_suitability_zero_s (c : Cell) (env : EnvCell) (hs : c.s = 0) : c.suitability env = .ok 0 := by
  unfold Cell.suitability
  simp [hs, Rat.div_def, Rat.zero_mul]
  decide

theorem mh_canEstablish_zero (sto : Bool) (pEst u : Rat) (ht : 0 ≤ (if sto then u else 1 - pEst)) :
    canEstablish 0 sto pEst u = false := by
  unfold canEstablish
  exact decide_eq_false (Rat.not_lt.mpr ht)

theorem mh_f19Region_iff (c : Cell) (e : EnvCell) :
    f19Region c e = true ↔ c.s > 0 ∧ c.suitability e = .ok 0 := by
  unfold f19Region
  simp only [Bool.and_eq_true, decide_eq_true_eq]
  refine and_congr_right fun _ => ⟨fun h => ?_, fun h => (mech_suitability_ok c e 0 h).1.symm⟩
  unfold Cell.suitability
  have h0 : ¬ ((0 : Rat) < 0 ∨ (0 : Rat) > 1) := by decide
  simp only [h, h0, if_false]

theorem mh_infectOn_err (p : HostParams) (env : MEnv) (cells : List Cell) (h d0 : Nat) (u : Rat) (x : ErrKind)
    (he : env.cellEnv h = .error x) : infectOn p env cells h d0 u = .error x := by
  unfold infectOn
  simp only [he, bind, Except.bind]

theorem mh_multi_unfold (cfg : MultiCfg) (ps : List HostParams) (env : MEnv) (cells : List Cell) (pick : Nat) (u : Rat) :
    multiDisperserTo cfg ps env cells pick u =
      match suitabilities env cells with
      | .error e => .error e
      | .ok suits =>
        if sumR suits ≤ 0 then .ok (cells, 0, 0)
        else if sumR suits > 1 then .error .invalid_argument
        else match pickHostByWeight cells.length pick with
          | .error e => .error e
          | .ok (h, d0) =>
            match cfg.arrival with
            | .land => .ok (landOn cfg (ps[h]!).mt cells (sumR suits) h d0 u)
            | .infect => infectOn (ps[h]!) env cells h d0 u := by
  unfold multiDisperserTo
  cases suitabilities env cells with
  | error e => rfl
  | ok suits =>
    simp only [bind, Except.bind, pure, Except.pure]
    refine ite_congr rfl (fun _ => rfl) fun _ => ite_congr rfl (fun _ => rfl) fun _ => ?_
    cases pickHostByWeight cells.length pick with
    | error e => rfl
    | ok r => obtain ⟨h, d0⟩ := r; cases cfg.arrival <;> rfl

theorem mh_pick_lt {n pick h d0 : Nat} (hp : pickHostByWeight n pick = .ok (h, d0)) :
    h < n ∧ (n = 1 → h = 0 ∧ d0 = 0) ∧ (n ≠ 1 → h = pick ∧ d0 = 1) ∧ h = landingHost n pick := by
  unfold pickHostByWeight at hp
  unfold landingHost
  by_cases h1 : n = 1
  · simp only [h1, if_true, Except.ok.injEq, Prod.mk.injEq] at hp
    obtain ⟨rfl, rfl⟩ := hp
    simp [h1]
  · simp only [h1, if_false] at hp
    by_cases h2 : pick < n
    · simp only [h2, if_true, Except.ok.injEq, Prod.mk.injEq] at hp
      obtain ⟨rfl, rfl⟩ := hp
      simp [h1, h2]
    · simp only [h2, if_false] at hp; cases hp

theorem mh_cellEnv_ok {env : MEnv} {h : Nat} {e : EnvCell} (he : env.cellEnv h = .ok e) :
    e.n = env.n ∧ e.w = env.w ∧ e.sus.getD 1 = susOf env h := by
  unfold MEnv.cellEnv at he
  unfold susOf
  cases hp : env.pht with
  | none =>
    simp only [hp, Except.ok.injEq] at he
    subst he; simp
  | some t =>
    simp only [hp, PestHostTable.susceptibility, atOrRange, bind, Except.bind] at he
    cases hx : t.sus[h]? with
    | none => simp only [hx] at he; cases he
    | some x =>
      simp only [hx, pure, Except.pure, Except.ok.injEq] at he
      subst he
      simp [List.getD_eq_getElem?_getD, hx]

theorem mh_hostSuitability_ok {env : MEnv} {h : Nat} {c : Cell} {p : Rat} (hp : hostSuitability env h c = .ok p) :
    ∃ e, env.cellEnv h = .ok e ∧ c.suitability e = .ok p ∧ p = hostWeight env h c ∧ 0 ≤ p ∧ p ≤ 1 := by
  unfold hostSuitability at hp
  cases he : env.cellEnv h with
  | error x => simp only [he, bind, Except.bind] at hp; cases hp
  | ok e =>
    simp only [he, bind, Except.bind] at hp
    obtain ⟨h1, h2, h3⟩ := mech_suitability_ok c e p hp
    obtain ⟨g1, g2, g3⟩ := mh_cellEnv_ok he
    refine ⟨e, rfl, hp, ?_, h2, h3⟩
    unfold hostWeight
    rw [h1, g1, g2, g3]

theorem mh_suitsFrom_weights (env : MEnv) (k : Nat) (cells : List Cell) (l : List Rat)
    (h : forFrom (hostSuitability env) k cells = .ok l) : l = hostWeightsFrom env k cells := by
  induction cells generalizing k l with
  | nil => simp only [forFrom, Except.ok.injEq] at h; subst h; rfl
  | cons c rest ih =>
    obtain ⟨p, ps, hp, hr, rfl⟩ := forFrom_cons_ok h
    obtain ⟨_, _, _, hw, _, _⟩ := mh_hostSuitability_ok hp
    rw [hostWeightsFrom, ← hw, ← ih (k + 1) ps hr]

theorem hostWeightsFrom_getElem (env : MEnv) (k : Nat) (cells : List Cell) (j : Nat) (hj : j < cells.length) :
    (hostWeightsFrom env k cells)[j]! = hostWeight env (k + j) (cells[j]!) := by
  induction cells generalizing k j with
  | nil => exact absurd hj (Nat.not_lt_zero _)
  | cons c rest ih =>
    cases j with
    | zero => rfl
    | succ j' =>
      have e1 : k + (j' + 1) = k + 1 + j' := by omega
      rw [e1]
      exact ih (k + 1) j' (Nat.lt_of_succ_lt_succ hj)

theorem mh_suits_eq_weights {env : MEnv} {cells : List Cell} {suits : List Rat}
    (hs : suitabilities env cells = .ok suits) : suits = hostWeights env cells := by
  rw [suitabilities, suitabilitiesFrom_eq] at hs
  exact mh_suitsFrom_weights env 0 cells suits hs

theorem mh_suits_getElem {env : MEnv} {cells : List Cell} {suits : List Rat}
    (hs : suitabilities env cells = .ok suits) (j : Nat) (hj : j < cells.length) :
    hostSuitability env j (cells[j]!) = .ok (suits[j]!) := by
  rw [suitabilities, suitabilitiesFrom_eq] at hs
  exact (forFrom_zero_ok hs).2 j hj

theorem mh_suitsFrom_err_or (env : MEnv) (k : Nat) (cells : List Cell) :
    (∃ l, suitabilitiesFrom env k cells = .ok l) ∨ (∃ x, suitabilitiesFrom env k cells = .error x) := by
  cases suitabilitiesFrom env k cells with
  | ok l => exact .inl ⟨l, rfl⟩
  | error x => exact .inr ⟨x, rfl⟩

/-- The establishment event on a host with `s` susceptible and probability `p`. -/
def estB (s : Int) (p : Rat) (sto : Bool) (pEst u : Rat) : Bool := decide (0 < s) && canEstablish p sto pEst u

/-- Cells, result and generator calls of a landing on host `h`, given the event `E`. -/
def outcome (cells : List Cell) (h : Nat) (mt : ModelType) (E : Bool) (d0 used : Nat) : List Cell × Int × Nat :=
  (if E then cells.set h (landed mt (cells[h]!)) else cells, if E then 1 else 0,
   d0 + if 0 < (cells[h]!).s then used else 0)

theorem mh_landOn_eq (cfg : MultiCfg) (mt : ModelType) (cells : List Cell) (total : Rat) (h d0 : Nat) (u : Rat) :
    landOn cfg mt cells total h d0 u =
      outcome cells h mt (estB (cells[h]!).s total cfg.sto cfg.pEst u) d0 (if cfg.sto then 1 else 0) := by
  unfold landOn outcome estB
  generalize cells[h]! = c
  by_cases hs : c.s ≤ 0
  · have : ¬ 0 < c.s := by omega
    simp only [hs, if_true, this, decide_false, Bool.false_and, Bool.false_eq_true, if_false, Nat.add_zero]
  · have hpos : 0 < c.s := by omega
    simp only [hs, if_false, hpos, decide_true, Bool.true_and, if_true, mech_addDisperserAt_pos mt c hpos]
    cases canEstablish total cfg.sto cfg.pEst u <;> simp

theorem mh_dispTo_ok {mt : ModelType} {c : Cell} {env : EnvCell} {sto : Bool} {pEst u p : Rat}
    (hp : c.suitability env = .ok p) :
    c.disperserTo mt env sto pEst u =
      .ok (if estB c.s p sto pEst u then landed mt c else c, if estB c.s p sto pEst u then 1 else 0,
           if 0 < c.s then (if sto then 1 else 0) else 0) := by
  unfold estB
  by_cases hs : c.s ≤ 0
  · have : ¬ 0 < c.s := by omega
    rw [mech_disperserTo_nonpos _ _ _ _ _ _ hs]
    simp only [this, decide_false, Bool.false_and, Bool.false_eq_true, if_false]
  · have hpos : 0 < c.s := by omega
    rw [mh_dispTo_pos hpos hp]
    cases canEstablish p sto pEst u <;> simp [hpos]

theorem mh_infectOn_eq {p : HostParams} {env : MEnv} {cells : List Cell} {h d0 : Nat} {u : Rat} {e : EnvCell} {pr : Rat}
    (he : env.cellEnv h = .ok e) (hp : (cells[h]!).suitability e = .ok pr) :
    infectOn p env cells h d0 u =
      .ok (outcome cells h p.mt (estB (cells[h]!).s pr p.sto p.pEst u) d0 (if p.sto then 1 else 0)) := by
  unfold infectOn outcome
  have hset := act_set_getElem!_self cells h
  generalize cells[h]! = c at *
  simp only [he, bind, Except.bind, pure, Except.pure, mh_dispTo_ok hp]
  cases estB c.s pr p.sto p.pEst u <;> simp [hset]

/-- Which host, which probability and which settings decide the landing. -/
def landingE (cfg : MultiCfg) (ps : List HostParams) (cells : List Cell) (suits : List Rat) (h : Nat) (u : Rat) : Bool :=
  match cfg.arrival with
  | .land => estB (cells[h]!).s (sumR suits) cfg.sto cfg.pEst u
  | .infect => estB (cells[h]!).s (suits[h]!) (ps[h]!).sto (ps[h]!).pEst u

def landingUsed (cfg : MultiCfg) (ps : List HostParams) (h : Nat) : Nat :=
  match cfg.arrival with
  | .land => if cfg.sto then 1 else 0
  | .infect => if (ps[h]!).sto then 1 else 0

theorem mh_multi_err {cfg : MultiCfg} {ps : List HostParams} {env : MEnv} {cells : List Cell} {pick : Nat} {u : Rat}
    {x : ErrKind} (hs : suitabilities env cells = .error x) :
    multiDisperserTo cfg ps env cells pick u = .error x := by
  rw [mh_multi_unfold, hs]

theorem mh_multi_zero {cfg : MultiCfg} {ps : List HostParams} {env : MEnv} {cells : List Cell} {pick : Nat} {u : Rat}
    {suits : List Rat} (hs : suitabilities env cells = .ok suits) (h0 : sumR suits ≤ 0) :
    multiDisperserTo cfg ps env cells pick u = .ok (cells, 0, 0) := by
  rw [mh_multi_unfold, hs]; simp only [h0, if_true]

theorem mh_multi_over {cfg : MultiCfg} {ps : List HostParams} {env : MEnv} {cells : List Cell} {pick : Nat} {u : Rat}
    {suits : List Rat} (hs : suitabilities env cells = .ok suits) (h1 : sumR suits > 1) :
    multiDisperserTo cfg ps env cells pick u = .error .invalid_argument := by
  rw [mh_multi_unfold, hs]
  have : ¬ sumR suits ≤ 0 := fun h => Rat.not_le.mpr h1 (Rat.le_trans h (by decide))
  simp only [this, if_false, h1, if_true]

theorem mh_multi_eq {cfg : MultiCfg} {ps : List HostParams} {env : MEnv} {cells : List Cell} {pick : Nat} {u : Rat}
    {suits : List Rat} {h d0 : Nat} (hs : suitabilities env cells = .ok suits)
    (h0 : 0 < sumR suits) (h1 : sumR suits ≤ 1) (hp : pickHostByWeight cells.length pick = .ok (h, d0)) :
    multiDisperserTo cfg ps env cells pick u =
      .ok (outcome cells h (ps[h]!).mt (landingE cfg ps cells suits h u) d0 (landingUsed cfg ps h)) := by
  rw [mh_multi_unfold, hs]
  have n0 : ¬ sumR suits ≤ 0 := Rat.not_le.mpr h0
  have n1 : ¬ sumR suits > 1 := Rat.not_lt.mpr h1
  simp only [n0, n1, if_false, hp]
  unfold landingE landingUsed
  cases ha : cfg.arrival with
  | land => simp only [mh_landOn_eq]
  | infect =>
    simp only
    have hlt := (mh_pick_lt hp).1
    have := mh_suits_getElem hs h hlt
    obtain ⟨e, he, hsu, _, _, _⟩ := mh_hostSuitability_ok this
    exact mh_infectOn_eq he hsu

theorem mh_multi_ok_cases {cfg : MultiCfg} {ps : List HostParams} {env : MEnv} {cells : List Cell} {pick : Nat} {u : Rat}
    {r : List Cell × Int × Nat} (hr : multiDisperserTo cfg ps env cells pick u = .ok r) :
    ∃ suits, suitabilities env cells = .ok suits ∧
      ((sumR suits ≤ 0 ∧ r = (cells, 0, 0)) ∨
       (0 < sumR suits ∧ sumR suits ≤ 1 ∧ ∃ h d0, pickHostByWeight cells.length pick = .ok (h, d0) ∧
          r = outcome cells h (ps[h]!).mt (landingE cfg ps cells suits h u) d0 (landingUsed cfg ps h))) := by
  cases hs : suitabilities env cells with
  | error x => rw [mh_multi_err hs] at hr; cases hr
  | ok suits =>
    refine ⟨suits, rfl, ?_⟩
    by_cases h0 : sumR suits ≤ 0
    · rw [mh_multi_zero hs h0] at hr
      simp only [Except.ok.injEq] at hr
      exact .inl ⟨h0, hr.symm⟩
    · have h0' : 0 < sumR suits := Rat.not_le.mp h0
      by_cases h1 : sumR suits > 1
      · rw [mh_multi_over hs h1] at hr; cases hr
      · have h1' : sumR suits ≤ 1 := Rat.not_lt.mp h1
        cases hp : pickHostByWeight cells.length pick with
        | error x =>
          rw [mh_multi_unfold, hs] at hr
          simp only [h0, h1, if_false, hp] at hr
          cases hr
        | ok hd =>
          obtain ⟨h, d0⟩ := hd
          rw [mh_multi_eq hs h0' h1' hp] at hr
          simp only [Except.ok.injEq] at hr
          exact .inr ⟨h0', h1', h, d0, rfl, hr.symm⟩

theorem mh_landingE_pos (cfg : MultiCfg) (ps : List HostParams) (cells : List Cell) (suits : List Rat) (h : Nat) (u : Rat)
    (hE : landingE cfg ps cells suits h u = true) : 0 < (cells[h]!).s := by
  unfold landingE estB at hE
  cases ha : cfg.arrival <;> simp only [ha, Bool.and_eq_true, decide_eq_true_eq] at hE <;> exact hE.1

theorem mh_outcome_atMostOne (ps : List HostParams) (cells : List Cell) (h : Nat) (E : Bool) (d0 used : Nat)
    (hlt : h < cells.length) (hE : E = true → 0 < (cells[h]!).s) :
    atMostOneSpec ps cells (outcome cells h (ps[h]!).mt E d0 used).1 (outcome cells h (ps[h]!).mt E d0 used).2.1 = true := by
  unfold outcome atMostOneSpec
  cases E with
  | false => simp
  | true =>
    have hpos := hE rfl
    simp only [if_true, Bool.or_eq_true, Bool.and_eq_true, decide_eq_true_eq, List.any_eq_true, List.mem_range]
    refine .inr ⟨trivial, h, hlt, ?_⟩
    rw [act_getElem!_set_self cells _ hlt]
    refine ⟨⟨by omega, mech_landingSpec_landed _ _⟩, ?_⟩
    simp

theorem mh_estB_ite (s : Int) (p : Rat) (sto : Bool) (pEst u : Rat) :
    (if estB s p sto pEst u = true then (1 : Int) else 0) =
      if s > 0 ∧ (if sto then u else 1 - pEst) < p then 1 else 0 := by
  unfold estB canEstablish
  simp only [Bool.and_eq_true, decide_eq_true_eq, gt_iff_lt]

theorem mh_outcome_establish (cfg : MultiCfg) (ps : List HostParams) (cells : List Cell) (suits : List Rat)
    (pick h d0 used : Nat) (u : Rat) (h0 : 0 < sumR suits) (hh : h = landingHost cells.length pick) :
    multiEstablishSpec cfg ps suits cells pick u
      (outcome cells h (ps[h]!).mt (landingE cfg ps cells suits h u) d0 used).2.1 = true := by
  have n0 : ¬ sumR suits ≤ 0 := Rat.not_le.mpr h0
  unfold multiEstablishSpec outcome landingE
  simp only [n0, if_false, ← hh, decide_eq_true_eq]
  cases cfg.arrival <;> exact mh_estB_ite _ _ _ _ _

theorem mh_sumR_single (x : Rat) : sumR [x] = x := by
  simp [sumR, Rat.zero_add]

theorem mh_single_suits (env : MEnv) (c : Cell) (e : EnvCell) (he : env.cellEnv 0 = .ok e) :
    suitabilities env [c] = match c.suitability e with | .ok sp => .ok [sp] | .error x => .error x := by
  unfold suitabilities
  simp only [suitabilitiesFrom, hostSuitability, he, bind, Except.bind]
  cases c.suitability e <;> rfl

/-- The wrapper around one host against the bare host, including generator calls: the same
    result and cell; the same number of calls except in the region `s > 0, suitability = 0`,
    where the wrapper makes none. -/
theorem mh_single (cfg : MultiCfg) (p : HostParams) (env : MEnv) (c : Cell) (pick : Nat) (u : Rat) (e : EnvCell)
    (he : env.cellEnv 0 = .ok e) (hs : 0 ≤ c.s)
    (hcfg : cfg.arrival = .land → cfg.sto = p.sto ∧ cfg.pEst = p.pEst)
    (ht : 0 ≤ (if p.sto then u else 1 - p.pEst)) :
    match c.disperserTo p.mt e p.sto p.pEst u with
    | .ok (c', k, n) =>
      multiDisperserTo cfg [p] env [c] pick u =
        .ok ([c'], k, if f19Region c e then 0 else n)
    | .error x => multiDisperserTo cfg [p] env [c] pick u = .error x := by
  have hsuits := mh_single_suits env c e he
  cases hsu : c.suitability e with
  | error x =>
    rw [hsu] at hsuits
    have hne : c.s ≠ 0 := fun h0 => by
      rw [mh_suitability_zero_s c e h0] at hsu; cases hsu
    have hpos : 0 < c.s := by omega
    rw [mh_dispTo_err hpos hsu]
    exact mh_multi_err hsuits
  | ok sp =>
    rw [hsu] at hsuits
    obtain ⟨hspv, hsp0, hsp1⟩ := mech_suitability_ok c e sp hsu
    have hreg : f19Region c e = (decide (0 < c.s) && decide (sp = 0)) := by
      unfold f19Region; rw [hspv]
    rw [hreg, mh_dispTo_ok hsu]
    show multiDisperserTo cfg [p] env [c] pick u = _
    by_cases hsp : sp = 0
    · -- the wrapper returns before the test; the bare host tests and fails
      subst hsp
      rw [mh_multi_zero hsuits (by rw [mh_sumR_single]; exact Rat.le_refl)]
      have hE : estB c.s 0 p.sto p.pEst u = false := by
        unfold estB; rw [mh_canEstablish_zero _ _ _ ht, Bool.and_false]
      by_cases hpos : 0 < c.s <;> simp [hE, hpos]
    · have h0 : 0 < sumR [sp] := by rw [mh_sumR_single]; exact Rat.lt_of_le_of_ne hsp0 (Ne.symm hsp)
      have h1 : sumR [sp] ≤ 1 := by rw [mh_sumR_single]; exact hsp1
      have hpk : pickHostByWeight [c].length pick = .ok (0, 0) := rfl
      rw [mh_multi_eq hsuits h0 h1 hpk]
      have hE : landingE cfg [p] [c] [sp] 0 u = estB c.s sp p.sto p.pEst u := by
        unfold landingE
        cases ha : cfg.arrival with
        | land =>
          obtain ⟨e1, e2⟩ := hcfg ha
          show estB c.s (sumR [sp]) cfg.sto cfg.pEst u = _
          rw [mh_sumR_single, e1, e2]
        | infect => rfl
      have hU : landingUsed cfg [p] 0 = if p.sto then 1 else 0 := by
        unfold landingUsed
        cases ha : cfg.arrival with
        | land => show (if cfg.sto then 1 else 0) = _; rw [(hcfg ha).1]
        | infect => rfl
      rw [hE, hU]
      unfold outcome
      cases estB c.s sp p.sto p.pEst u <;> simp [hsp]

/-- Two lists of equal length related position by position (the hosts of a cell against the
    per-host amounts `draw_n_from_v` hands out). -/
inductive ListRel {α β : Type} (R : α → β → Prop) : List α → List β → Prop
  | nil : ListRel R [] []
  | cons {a : α} {b : β} {as : List α} {bs : List β} : R a b → ListRel R as bs → ListRel R (a :: as) (b :: bs)

theorem mh_pointwise_listRel (f : Cell → Int) (cells : List Cell) (d : List Int) (hl : d.length = cells.length)
    (hp : ∀ k : Nat, k < d.length → 0 ≤ d[k]! ∧ d[k]! ≤ (cells.map f)[k]!) :
    ListRel (fun c k => 0 ≤ k ∧ k ≤ f c) cells d := by
  induction cells generalizing d with
  | nil =>
    cases d with
    | nil => exact .nil
    | cons x xs => cases hl
  | cons c rest ih =>
    cases d with
    | nil => cases hl
    | cons x xs =>
      exact .cons (hp 0 (Nat.zero_lt_succ _))
        (ih xs (Nat.succ.inj hl) fun k hk => hp (k + 1) (Nat.succ_lt_succ hk))

theorem mh_pestsFrom_zip {cells : List Cell} {d : List Int} (h : ListRel (fun c k => 0 ≤ k ∧ k ≤ c.i) cells d) :
    multiPestsFrom cells d =
      (List.zipWith (fun (c : Cell) (k : Int) => { c with s := c.s + k, i := c.i - k }) cells d, sumL d) := by
  unfold multiPestsFrom
  induction h with
  | nil => simp
  | cons hx _ ih =>
    simp only [List.zipWith_cons_cons, List.map_cons, sumL_cons, Prod.mk.injEq, List.cons.injEq] at ih ⊢
    refine ⟨⟨by simp [Cell.pestsFrom], ih.1⟩, ?_⟩
    rw [ih.2]; simp [Cell.pestsFrom]

theorem mh_pestsTo_zip {cells : List Cell} {d : List Int} (h : ListRel (fun c k => 0 ≤ k ∧ k ≤ c.s) cells d) :
    multiPestsTo cells d =
      (List.zipWith (fun (c : Cell) (k : Int) => { c with s := c.s - k, i := c.i + k }) cells d, sumL d) := by
  unfold multiPestsTo
  induction h with
  | nil => simp
  | @cons c k _ _ hx _ ih =>
    have hge : c.s ≥ k := hx.2
    simp only [List.zipWith_cons_cons, List.map_cons, sumL_cons, Prod.mk.injEq, List.cons.injEq] at ih ⊢
    refine ⟨⟨by simp [Cell.pestsTo, hge], ih.1⟩, ?_⟩
    rw [ih.2]; simp [Cell.pestsTo, hge]

theorem mh_split (f : Cell → Int) (cells : List Cell) (count : Int) (d : List Int) (hc : count < 4294967296)
    (hv : ValidSplit (cells.map f) count d) :
    ListRel (fun c k => 0 ≤ k ∧ k ≤ f c) cells d ∧
    sumL d = min (toUnsigned count) (sumL (cells.map f)) ∧
    (0 ≤ count → sumL d ≤ count ∧ sumL d = min count (sumL (cells.map f))) ∧
    splitSpec (cells.map f) count d (sumL d) = true := by
  obtain ⟨hlen, hp, hsum⟩ := hv
  have hrel := mh_pointwise_listRel f cells d (by simpa using hlen) hp
  have hnn : 0 ≤ count → sumL d ≤ count ∧ sumL d = min count (sumL (cells.map f)) := by
    intro h0
    have hs := hsum
    rw [toUnsigned, Int.emod_eq_of_lt h0 hc] at hs
    exact ⟨hs ▸ Int.min_le_left _ _, hs⟩
  refine ⟨hrel, hsum, hnn, ?_⟩
  unfold splitSpec
  have hall : (List.zip d (cells.map f)).all (fun p => decide (0 ≤ p.1) && decide (p.1 ≤ p.2)) = true := by
    clear hsum hlen hnn hp
    induction hrel with
    | nil => rfl
    | cons hx _ ih =>
      simp only [List.map_cons, List.zip_cons_cons, List.all_cons, ih, Bool.and_true, hx.1, hx.2, decide_true]
  simp only [hlen, beq_self_eq_true, hall, Bool.true_and, decide_true, Bool.and_eq_true, Bool.or_eq_true, decide_eq_true_eq]
  by_cases hneg : count < 0
  · exact .inl hneg
  · exact .inr (hnn (Int.not_lt.mp hneg))

theorem atOrRange_ok {α : Type} {l : List α} {k : Nat} {x : α} (h : atOrRange l k = .ok x) : l[k]? = some x := by
  unfold atOrRange at h
  cases hk : l[k]? with
  | none => rw [hk] at h; cases h
  | some y => rw [hk] at h; cases h; rfl

theorem mh_hostMort_ok {env : MEnv} {t : PestHostTable} {h : Nat} {c c' : Cell} (ht : env.pht = some t)
    (hm : hostApplyMortality env h c = .ok c') :
    ∃ rate lag, t.rate[h]? = some rate ∧ t.lag[h]? = some lag ∧ c.applyMortality rate lag = .ok c' := by
  unfold hostApplyMortality at hm
  simp only [ht, bind, Except.bind] at hm
  cases hr : t.mortalityRate h with
  | error e => rw [hr] at hm; cases hm
  | ok rate =>
    cases hl : t.mortalityTimeLag h with
    | error e => rw [hr, hl] at hm; cases hm
    | ok lag => rw [hr, hl] at hm; exact ⟨rate, lag, atOrRange_ok hr, atOrRange_ok hl, hm⟩

theorem mh_hostMort_none (env : MEnv) (h : Nat) (c : Cell) (ht : env.pht = none) :
    hostApplyMortality env h c = .error .invalid_argument := by
  unfold hostApplyMortality; simp only [ht]

theorem mh_sumsSpec (cells : List Cell) : sumsSpec cells (multiInfectedAt cells) (multiTotalHostsAt cells) = true := by
  unfold sumsSpec
  exact (Bool.and_eq_true _ _).mpr ⟨decide_eq_true rfl, decide_eq_true rfl⟩

end Pops
