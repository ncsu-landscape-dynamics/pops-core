/-
  Lemmas about the raster value model: truncation, cell-wise characterisation of `map` / `zip`,
  and the `rows x cols` loops of `operator==` against list equality.
-/
import PopsModel.Model.RasterPred
namespace Pops
variable {α β γ : Type}

/-! ### `static_cast<int>` of an exact value -/

theorem d2i_i2d (n : Int) : d2i (i2d n) = n := by
  unfold d2i i2d
  split
  · exact Rat.floor_intCast n
  · exact Rat.ceil_intCast n

/-- Truncation toward zero: for `q >= 0` the largest integer `<= q`. -/
theorem d2i_nonneg {q : Rat} (h : 0 ≤ q) : 0 ≤ d2i q ∧ (d2i q : Rat) ≤ q ∧ q < ((d2i q + 1 : Int) : Rat) := by
  unfold d2i
  rw [if_pos h]
  exact ⟨Rat.le_floor_iff.mpr (by simpa using h), Rat.floor_le q, Rat.lt_floor_add_one q⟩

/-- Truncation toward zero: for `q < 0` the smallest integer `>= q`. -/
theorem d2i_neg {q : Rat} (h : q < 0) : d2i q ≤ 0 ∧ q ≤ (d2i q : Rat) ∧ (d2i q : Rat) < q + 1 := by
  unfold d2i
  rw [if_neg (Rat.not_le.mpr h)]
  refine ⟨Rat.ceil_le_iff.mpr ?_, Rat.le_ceil, Rat.ceil_lt⟩
  exact Rat.le_of_lt (by simpa using h)

/-! ### Cells of `map` and `zip` by coordinates -/

namespace Raster

theorem map_at (f : α → β) (a : Raster α) (i j : Nat) : (a.map f).at? i j = (a.at? i j).map f := by
  simp [at?, map]

theorem zipWith_getElem? (f : α → β → γ) (as : List α) (bs : List β) (k : Nat) :
    (List.zipWith f as bs)[k]? = opt2 f as[k]? bs[k]? := by
  rw [List.getElem?_zipWith]
  cases as[k]? <;> cases bs[k]? <;> rfl

theorem zip_ok (f : α → β → γ) (a : Raster α) (b : Raster β) (r : Raster γ) (h : zip f a b = .ok r) :
    a.rows = b.rows ∧ a.cols = b.cols ∧ r = ⟨a.rows, a.cols, List.zipWith f a.cells b.cells⟩ := by
  unfold zip at h
  split at h
  · cases h
  · cases h; exact ⟨by omega, by omega, rfl⟩

theorem zip_ok_iff (f : α → β → γ) (a : Raster α) (b : Raster β) :
    (∃ r, zip f a b = .ok r) ↔ (a.rows = b.rows ∧ a.cols = b.cols) :=
  ⟨fun ⟨r, hr⟩ => ⟨(zip_ok f a b r hr).1, (zip_ok f a b r hr).2.1⟩, fun h => ⟨_, if_neg (by omega)⟩⟩

theorem zip_at (f : α → β → γ) (a : Raster α) (b : Raster β) (r : Raster γ) (h : zip f a b = .ok r)
    (i j : Nat) : r.rows = a.rows ∧ r.cols = a.cols ∧ r.at? i j = opt2 f (a.at? i j) (b.at? i j) := by
  obtain ⟨_, hc, rfl⟩ := zip_ok f a b r h
  simp only [at?, zipWith_getElem?, hc, and_self]

/-- `zipAssign` is `zip` with the result type of the left operand. -/
theorem zipAssign_at (f : α → β → α) (a : Raster α) (b : Raster β) (r : Raster α)
    (h : zipAssign f a b = .ok r) (i j : Nat) :
    r.rows = a.rows ∧ r.cols = a.cols ∧ r.at? i j = opt2 f (a.at? i j) (b.at? i j) :=
  zip_at f a b r h i j

end Raster

theorem all_range_true {n : Nat} {p : Nat → Bool} : (List.range n).all p = true ↔ ∀ i, i < n → p i = true := by
  simp [List.all_eq_true]

theorem elemMapOK_map [DecidableEq β] (f : α → β) (a : Raster α) (hw : a.WF) :
    ElemMapOK f a (a.map f) = true := by
  simp only [ElemMapOK, Bool.and_eq_true, beq_iff_eq, all_range_true]
  refine ⟨⟨⟨rfl, rfl⟩, ?_⟩, fun i _ j _ => Raster.map_at f a i j⟩
  simpa [Raster.map, Raster.WF] using hw

theorem elemMapOK_congr [DecidableEq β] {f g : α → β} (hfg : ∀ x, f x = g x) (a : Raster α) (r : Raster β) :
    ElemMapOK f a r = ElemMapOK g a r := by
  have : f = g := funext hfg
  rw [this]

theorem specSR_II_eq (o : BinOp) (v x : Int) : specSR_II o v x = cSR_II o v x := by
  cases o <;> simp [specSR_II, cSR_II, cRS_II, BinOp.int, Int.add_comm, Int.mul_comm]
theorem specSR_ID_eq (o : BinOp) (v : Rat) (x : Int) : specSR_ID o v x = cSR_ID o v x := by
  cases o <;> simp [specSR_ID, cSR_ID, cRS_ID, BinOp.dbl, Rat.add_comm, Rat.mul_comm]
theorem specSR_DI_eq (o : BinOp) (v : Int) (x : Rat) : specSR_DI o v x = cSR_DI o v x := by
  cases o <;> simp [specSR_DI, cSR_DI, cRS_DI, BinOp.dbl, Rat.add_comm, Rat.mul_comm]
theorem specSR_DD_eq (o : BinOp) (v x : Rat) : specSR_DD o v x = cSR_DD o v x := by
  cases o <;> simp [specSR_DD, cSR_DD, cRS_DD, BinOp.dbl, Rat.add_comm, Rat.mul_comm]

theorem elemZipOK_zip [DecidableEq γ] (f : α → β → γ) (a : Raster α) (b : Raster β) (r : Raster γ)
    (hwa : a.WF) (hwb : b.WF) (h : Raster.zip f a b = .ok r) : ElemZipOK f a b r = true := by
  simp only [ElemZipOK, Bool.and_eq_true, beq_iff_eq, all_range_true]
  refine ⟨⟨⟨(Raster.zip_at f a b r h 0 0).1, (Raster.zip_at f a b r h 0 0).2.1⟩, ?_⟩,
    fun i _ j _ => (Raster.zip_at f a b r h i j).2.2⟩
  obtain ⟨hr, hc, rfl⟩ := Raster.zip_ok f a b r h
  unfold Raster.WF at hwa hwb
  rw [List.length_zipWith, hwa, hwb, ← hr, ← hc, Nat.min_self]

theorem elemZipOK_zipAssign [DecidableEq α] (f : α → β → α) (a : Raster α) (b : Raster β) (r : Raster α)
    (hwa : a.WF) (hwb : b.WF) (h : Raster.zipAssign f a b = .ok r) : ElemZipOK f a b r = true :=
  elemZipOK_zip f a b r hwa hwb h

/-! ### `operator==` / `operator!=` -/

/-- Every flat index below `rows * cols` is `i * cols + j` for a row `i < rows` and a column `j < cols`. -/
theorem index_decompose {rows cols k : Nat} (hk : k < rows * cols) :
    k / cols < rows ∧ k % cols < cols ∧ k / cols * cols + k % cols = k := by
  have hc : 0 < cols := by
    rcases Nat.eq_zero_or_pos cols with e | e
    · subst e; simp at hk
    · exact e
  refine ⟨?_, Nat.mod_lt _ hc, ?_⟩
  · exact Nat.div_lt_of_lt_mul (by rw [Nat.mul_comm]; exact hk)
  · rw [Nat.mul_comm]; exact Nat.div_add_mod k cols

theorem loops_iff [DecidableEq α] (a b : Raster α) (hwa : a.WF) (hwb : b.WF)
    (hr : a.rows = b.rows) (hc : a.cols = b.cols) :
    (∀ i, i < a.rows → ∀ j, j < a.cols → a.cells[i * a.cols + j]? = b.cells[i * a.cols + j]?) ↔
    a.cells = b.cells := by
  constructor
  · intro h
    apply List.ext_getElem?
    intro k
    by_cases hk : k < a.rows * a.cols
    · obtain ⟨h1, h2, h3⟩ := index_decompose hk
      have := h _ h1 _ h2
      rw [h3] at this; exact this
    · unfold Raster.WF at hwa hwb
      rw [List.getElem?_eq_none (by omega), List.getElem?_eq_none (by rw [hwb, ← hr, ← hc]; omega)]
  · intro h i _ j _; rw [h]

theorem eqOp_iff [DecidableEq α] (a b : Raster α) (hwa : a.WF) (hwb : b.WF) :
    a.eqOp b = true ↔ (a.rows = b.rows ∧ a.cols = b.cols ∧ a.cells = b.cells) := by
  unfold Raster.eqOp
  by_cases hs : a.rows ≠ b.rows ∨ a.cols ≠ b.cols
  · rw [if_pos hs]
    constructor
    · intro h; cases h
    · rintro ⟨h1, h2, _⟩; omega
  · rw [if_neg hs]
    have hr : a.rows = b.rows := by omega
    have hc : a.cols = b.cols := by omega
    rw [← loops_iff a b hwa hwb hr hc]
    simp only [all_range_true, Bool.not_eq_true', bne_eq_false_iff_eq, hr, hc, true_and]

theorem neOp_eq_not_eqOp [DecidableEq α] (a b : Raster α) : a.neOp b = !a.eqOp b := by
  unfold Raster.neOp Raster.eqOp
  by_cases hs : a.rows ≠ b.rows ∨ a.cols ≠ b.cols
  · rw [if_pos hs, if_pos hs]; rfl
  · rw [if_neg hs, if_neg hs]
    simp [List.not_all_eq_any_not]

theorem sameRaster_iff [DecidableEq α] (a b : Raster α) : SameRaster a b = true ↔ a = b := by
  cases a; cases b
  simp [SameRaster, and_assoc]

end Pops
