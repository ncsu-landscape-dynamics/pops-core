/-
  What each raster heap operation does to what the user can observe (`view`, caller arrays),
  derived from the frame lemmas; and the versions over whole runs.
-/
import PopsModel.Lemmas.RasterFrame
import PopsModel.Model.RasterF31
namespace Pops
namespace Heap
variable {α : Type}

theorem view_of {h : Heap α} {s : Nat} {o : RObj} {b : Nat} {cells : List α}
    (h1 : h.slots s = some o) (h2 : o.data = some b) (h3 : h.bufs b = .live cells) :
    h.view s = some ⟨o.rows, o.cols, cells.take o.size⟩ := by
  simp [view, h1, h2, h3]

theorem Holds.view {h : Heap α} {a : Nat} {o : RObj} {b : Nat} {cells : List α} (hh : Holds h a o b cells) :
    h.view a = some ⟨o.rows, o.cols, cells.take o.size⟩ :=
  view_of hh.slot hh.data hh.live

theorem view_congr {h h' : Heap α} {s : Nat} (e1 : h'.slots s = h.slots s)
    (e2 : ∀ o b, h.slots s = some o → o.data = some b → h'.bufs b = h.bufs b) :
    h'.view s = h.view s := by
  unfold view
  rw [e1]
  cases hs : h.slots s with
  | none => rfl
  | some o =>
    cases hd : o.data with
    | none => simp [hd]
    | some b => simp [hd, e2 o b hs hd]

/-- Variables that are not rebound and whose buffer is not stored into look the same afterwards. -/
theorem view_frame {h h' : Heap α} (hi : Inv h) {op : HOp α} (st : Steps h op h') (u : Nat)
    (hu : op.reseats u = false)
    (hw : ∀ o p, h.slots u = some o → o.data = some p → h.writePtr op ≠ some p) :
    h'.view u = h.view u := by
  apply view_congr (slots_frame st u hu)
  intro o p h1 h2
  rcases bufs_frame st p with g | g | g | ⟨u2, o2, g1, g2, g3, g4⟩
  · exact g
  · have := (hi.no_dangling u o p h1 h2).1; omega
  · exact absurd g (hw o p h1 h2)
  · have hne : u ≠ u2 := by intro e; subst e; rw [hu] at g1; cases g1
    exact absurd h2 ((hi.owner_excl u2 o2 p g2 g3 g4).2 u o hne h1)

theorem ext_frame {h h' : Heap α} (hi : Inv h) {op : HOp α} (st : Steps h op h') (e : Nat)
    (he : e < h.nExt) (hw : h.writePtr op ≠ some e) : h'.bufs e = h.bufs e := by
  rcases bufs_frame st e with g | g | g | ⟨u2, o2, _, g2, g3, g4⟩
  · exact g
  · have := hi.ext_le; omega
  · exact absurd g hw
  · have := (hi.owner_excl u2 o2 e g2 g3 g4).1; omega

theorem no_write_frame {h h' : Heap α} (hi : Inv h) {op : HOp α} (st : Steps h op h')
    (hw : h.writePtr op = none) :
    (∀ u, op.reseats u = false → h'.view u = h.view u) ∧ (∀ e, e < h.nExt → h'.bufs e = h.bufs e) :=
  ⟨fun u hu => view_frame hi st u hu (by simp [hw]), fun e he => ext_frame hi st e he (by simp [hw])⟩


theorem writePtr_of_writesVia {h : Heap α} {op : HOp α} {s : Nat} (hv : op.writesVia s = true) :
    h.writePtr op = (h.slots s).bind (·.data) ∧ ∀ u, op.reseats u = false := by
  cases op <;> simp [HOp.writesVia] at hv <;> subst hv <;> exact ⟨rfl, fun _ => rfl⟩

theorem writePtr_cases {h : Heap α} {op : HOp α} {p : Nat} (hw : h.writePtr op = some p) :
    (∃ x o, op.writesVia x = true ∧ h.slots x = some o ∧ o.data = some p) ∨
    ∃ i v, op = .extWrite p i v := by
  cases op with
  | write s | mapInPlace s | zipInPlace s =>
    obtain ⟨o, h1, h2⟩ := Option.bind_eq_some_iff.mp hw
    exact .inl ⟨s, o, by simp [HOp.writesVia], h1, h2⟩
  | extWrite e i v => cases hw; exact .inr ⟨i, v, rfl⟩
  | _ => cases hw

theorem private_of_owner {h : Heap α} (hi : Inv h) {s : Nat} {o : RObj} {b : Nat}
    (h1 : h.slots s = some o) (h2 : o.data = some b) (h3 : o.owns = true) : Private h s := by
  obtain ⟨g1, g2⟩ := hi.owner_excl s o b h1 h2 h3
  exact ⟨o, b, h1, h2, g1, g2⟩

/-- Private storage stays private under every operation that does not rebind the variable
    (stores through the variable itself are allowed): no other variable can come by its pointer. -/
theorem private_keep {h h' : Heap α} (hi : Inv h) {op : HOp α} (st : Steps h op h') {s : Nat}
    (hp : Private h s) (hr : op.reseats s = false) : Private h' s := by
  obtain ⟨o, b, p1, p2, p3, p4⟩ := hp
  have hb := (hi.no_dangling s o b p1 p2).1
  refine ⟨o, b, by rw [slots_frame st s hr]; exact p1, p2, by rw [(counters_frame st).1]; exact p3, ?_⟩
  intro s' o' hne hs' hd
  rcases slot_origin st s' with e | r
  · exact p4 s' o' hne (e ▸ hs') hd
  · rcases r.origin o' b hs' hd with g | ⟨g, _⟩ | ⟨t, o0, g1, g2, g3, _⟩
    · omega
    · omega
    · exact p4 t o0 (fun e => by rw [e, hr] at g1; cases g1) g2 g3

/-- Private storage looks the same after every operation that neither rebinds the variable nor
    stores through it. -/
theorem private_frame {h h' : Heap α} (hi : Inv h) {op : HOp α} (st : Steps h op h') {s : Nat}
    (hp : Private h s) (hr : op.reseats s = false) (hv : op.writesVia s = false) :
    Private h' s ∧ h'.view s = h.view s := by
  refine ⟨private_keep hi st hp hr, view_frame hi st s hr fun o1 p h1 h2 hw => ?_⟩
  obtain ⟨o, b, p1, p2, p3, p4⟩ := hp
  rw [p1] at h1; cases h1; rw [p2] at h2; cases h2
  -- the operation stores through another variable or into a caller array
  rcases writePtr_cases hw with ⟨x, ox, g1, g2, g3⟩ | ⟨i, v, e⟩
  · exact p4 x ox (fun e => by rw [e, hv] at g1; cases g1) g2 g3
  · subst e
    cases st with
    | extWrite _ _ _ cells he => omega

/-- A store through a variable with private storage is invisible through every other variable
    and in every caller array. -/
theorem private_write_local {h h' : Heap α} (hi : Inv h) {op : HOp α} {s : Nat} (hp : Private h s)
    (hv : op.writesVia s = true) (hs : h.inScope op = true) (he : h.step op = .ok h') :
    (∀ u, u ≠ s → h'.view u = h.view u) ∧ (∀ e, e < h.nExt → h'.bufs e = h.bufs e) := by
  have st := steps_of_step hi hs he
  obtain ⟨o, b, p1, p2, p3, p4⟩ := hp
  obtain ⟨hw, hrs⟩ := writePtr_of_writesVia (h := h) hv
  rw [p1, Option.bind_some, p2] at hw
  refine ⟨fun u hu => view_frame hi st u (hrs u) ?_, fun e he' => ext_frame hi st e he' ?_⟩
  · intro o1 p h1 h2
    rw [hw]
    intro e; cases e
    exact p4 u o1 hu h1 h2
  · rw [hw]; intro e'; cases e'; omega


theorem run_induct {P : Heap α → Prop} (ops : List (HOp α)) {h h' : Heap α}
    (hstep : ∀ op ∈ ops, ∀ h1 h2, Inv h1 → Steps h1 op h2 → P h1 → P h2)
    (hi : Inv h) (hp : P h) (hr : h.run ops = .ok h') : P h' := by
  induction ops generalizing h with
  | nil => simp only [run] at hr; cases hr; exact hp
  | cons op ops ih =>
    obtain ⟨hs, h1, e1, r1⟩ := run_cons hr
    have st := steps_of_step hi hs e1
    exact ih (fun o ho => hstep o (List.mem_cons_of_mem _ ho)) (st.inv hi)
      (hstep op List.mem_cons_self h h1 hi st hp) r1

theorem private_keep_run {h h' : Heap α} (hi : Inv h) {s : Nat} (ops : List (HOp α)) (hp : Private h s)
    (hn : ∀ op ∈ ops, op.reseats s = false) (hr : h.run ops = .ok h') : Private h' s :=
  run_induct ops (fun op ho _ _ i st p => private_keep i st p (hn op ho)) hi hp hr

theorem slots_run {h h' : Heap α} (hi : Inv h) {s : Nat} (ops : List (HOp α))
    (hn : ∀ op ∈ ops, op.reseats s = false) (hr : h.run ops = .ok h') : h'.slots s = h.slots s :=
  run_induct (P := fun h1 => h1.slots s = h.slots s) ops
    (fun op ho _ _ _ st p => (slots_frame st s (hn op ho)).trans p) hi rfl hr

theorem private_run {h h' : Heap α} (hi : Inv h) {s : Nat} (ops : List (HOp α)) (hp : Private h s)
    (hn : ∀ op ∈ ops, op.reseats s = false ∧ op.writesVia s = false) (hr : h.run ops = .ok h') :
    Private h' s ∧ h'.view s = h.view s :=
  run_induct (P := fun h1 => Private h1 s ∧ h1.view s = h.view s) ops
    (fun op ho _ _ i st p =>
      let ⟨p1, v1⟩ := private_frame i st p.1 (hn op ho).1 (hn op ho).2
      ⟨p1, v1.trans p.2⟩) hi ⟨hp, rfl⟩ hr

theorem ext_live_run {h h' : Heap α} (hi : Inv h) {ops : List (HOp α)} (hr : h.run ops = .ok h') :
    h'.nExt = h.nExt ∧ ∀ e, e < h.nExt → ∃ cells, h'.ext e = some cells := by
  have hn : h'.nExt = h.nExt :=
    run_induct (P := fun h1 => h1.nExt = h.nExt) ops
      (fun _ _ _ _ _ st p => (counters_frame st).1.trans p) hi rfl hr
  refine ⟨hn, fun e he => ?_⟩
  obtain ⟨cells, hc⟩ := (inv_of_run hi hr).ext_live e (by omega)
  exact ⟨cells, by simp [ext, hc]⟩


theorem take_take_self (l : List α) (n : Nat) : (l.take n).take n = l.take n := by
  simp [List.take_take]

theorem view_allocInto (h : Heap α) (s r c : Nat) (cells : List α) (w : Bool) :
    (h.allocInto s r c cells w).view s = some ⟨r, c, cells.take (r * c)⟩ := by
  simp [view, allocInto, RObj.size]

theorem private_allocInto {h h0 : Heap α} (hi : Inv h) (e1 : h0.slots = h.slots) (e2 : h0.next = h.next)
    (e3 : h0.nExt = h.nExt) (s r c : Nat) (cells : List α) (w : Bool) :
    Private (h0.allocInto s r c cells w) s := by
  refine ⟨⟨r, c, some h0.next, w⟩, h0.next, by simp [allocInto], rfl,
    by simp only [allocInto, e2, e3]; exact hi.ext_le, ?_⟩
  intro s' o' hne hs' hd
  simp only [allocInto, upd_ne _ _ hne, e1] at hs'
  have := (hi.no_dangling s' o' _ hs' hd).1
  omega

theorem view_storeOf {h : Heap α} {s : Nat} {o : RObj} {b : Nat} (cells : List α) {new : List α}
    (h1 : h.slots s = some o) (h2 : o.data = some b) (hl : new.length = o.size) :
    (h.storeOf b cells new).view s = some ⟨o.rows, o.cols, new⟩ := by
  rw [view_of (h := h.storeOf b cells new) (cells := new ++ cells.drop new.length) h1 h2 (by simp [storeOf]),
    List.take_left' hl]

/-- Copy construction / copy assignment: the target shows what the source showed, in private
    storage; every other variable and every caller array is untouched. -/
theorem copy_effect {h h' : Heap α} (hi : Inv h) {s t : Nat} {op : HOp α}
    (hop : op = .copyCtor s t ∨ (op = .copyAssign s t ∧ s ≠ t)) (hs : h.inScope op = true)
    (he : h.step op = .ok h') :
    h'.view s = h.view t ∧ Private h' s ∧ (∀ u, u ≠ s → h'.view u = h.view u) ∧
    (∀ e, e < h.nExt → h'.bufs e = h.bufs e) := by
  have st := steps_of_step hi hs he
  have hop' : h.writePtr op = none ∧ ∀ u, u ≠ s → op.reseats u = false := by
    rcases hop with e | ⟨e, _⟩ <;> subst e <;> exact ⟨rfl, fun u hu => by simp [HOp.reseats, hu]⟩
  obtain ⟨f1, f2⟩ := no_write_frame hi st hop'.1
  -- the fresh buffer holds the cells the source showed
  have key : ∀ {h0 : Heap α} {o : RObj} {b : Nat} {cells : List α} (w : Bool), h0.slots = h.slots →
      h0.next = h.next → h0.nExt = h.nExt → Holds h t o b cells →
      (h0.allocInto s o.rows o.cols (cells.take o.size) w).view s = h.view t ∧
      Private (h0.allocInto s o.rows o.cols (cells.take o.size) w) s := by
    intro h0 o b cells w e1 e2 e3 ht
    refine ⟨?_, private_allocInto hi e1 e2 e3 ..⟩
    have htake : (cells.take o.size).take (o.rows * o.cols) = cells.take o.size :=
      take_take_self cells o.size
    rw [view_allocInto, ht.view, htake]
  have : h'.view s = h.view t ∧ Private h' s := by
    rcases hop with e | ⟨e, hne⟩ <;> subst e
    · cases st with
      | copyCtor _ _ o b cells ht => exact key true rfl rfl rfl ht
    · cases st with
      | copySelf => exact absurd rfl hne
      | copyAssign _ _ me o b cells h1 _ _ hr ht =>
        obtain ⟨r1, r2, r3, _⟩ := release_frame hr
        exact key me.owns r1 r2 r3 ht
  exact ⟨this.1, this.2, fun u hu => f1 u (hop'.2 u hu), f2⟩

/-- Move construction / move assignment: the target takes over the very buffer of the source (no
    allocation, no copy), the source is left with a null pointer and its old shape; every other
    variable and every caller array is untouched. -/
theorem move_effect {h h' : Heap α} (hi : Inv h) {s t : Nat} {op : HOp α} {o : RObj}
    (hop : op = .moveCtor s t ∨ (op = .moveAssign s t ∧ s ≠ t)) (hs : h.inScope op = true)
    (ht : h.slots t = some o) (he : h.step op = .ok h') :
    h'.slots s = some ⟨o.rows, o.cols, o.data, o.owns⟩ ∧ h'.slots t = some { o with data := none } ∧
    h'.view s = h.view t ∧ h'.next = h.next ∧
    (∀ u, u ≠ s → u ≠ t → h'.view u = h.view u) ∧ (∀ e, e < h.nExt → h'.bufs e = h.bufs e) := by
  have st := steps_of_step hi hs he
  have hop' : h.writePtr op = none ∧ ∀ u, u ≠ s → u ≠ t → op.reseats u = false := by
    rcases hop with e | ⟨e, _⟩ <;> subst e <;> exact ⟨rfl, fun u hu hu2 => by simp [HOp.reseats, hu, hu2]⟩
  obtain ⟨f1, f2⟩ := no_write_frame hi st hop'.1
  have key : ∀ (h0 : Heap α), s ≠ t → h0.slots = h.slots → h0.next = h.next →
      (∀ b, o.data = some b → h0.bufs b = h.bufs b) →
      (h0.moveOf s t o).slots s = some ⟨o.rows, o.cols, o.data, o.owns⟩ ∧
      (h0.moveOf s t o).slots t = some { o with data := none } ∧
      (h0.moveOf s t o).view s = h.view t ∧ (h0.moveOf s t o).next = h.next := by
    intro h0 hne e1 e2 e3
    have s1 : (h0.moveOf s t o).slots s = some ⟨o.rows, o.cols, o.data, o.owns⟩ := by
      simp only [moveOf]; rw [setSlot_ne _ _ hne, setSlot_same]
    refine ⟨s1, by simp [moveOf], ?_, by simp [moveOf, e2]⟩
    unfold view
    rw [s1, ht]
    cases hd : o.data with
    | none => simp [hd]
    | some b => simp [hd, moveOf, e3 b hd, RObj.size]
  have fr : (∀ u, u ≠ s → u ≠ t → h'.view u = h.view u) ∧ (∀ e, e < h.nExt → h'.bufs e = h.bufs e) :=
    ⟨fun u hu hu2 => f1 u (hop'.2 u hu hu2), f2⟩
  rcases hop with e | ⟨e, hne⟩ <;> subst e
  · cases st with
    | moveCtor _ _ o' hne' ht' =>
      rw [ht] at ht'; cases ht'
      obtain ⟨k1, k2, k3, k4⟩ := key h (Ne.symm hne') rfl rfl (fun _ _ => rfl)
      exact ⟨k1, k2, k3, k4, fr⟩
  · cases st with
    | moveSelf => exact absurd rfl hne
    | moveAssign _ _ me o' h1 _ g1 g2 g3 =>
      rw [ht] at g2; cases g2
      obtain ⟨r1, r2, _, _⟩ := release_frame g3
      obtain ⟨k1, k2, k3, k4⟩ := key h1 hne r1 r2 (fun b hb => release_keeps hi hne g1 ht hb g3)
      exact ⟨k1, k2, k3, k4, fr⟩

/-- A cell write through `s` lands in the buffer `s` points to, at `row * cols + col`. -/
theorem write_effect {h h' : Heap α} (hi : Inv h) {s r c : Nat} {v : α} {o : RObj} {b : Nat}
    (hs : h.inScope (.write s r c v) = true) (h1 : h.slots s = some o) (h2 : o.data = some b)
    (he : h.step (.write s r c v) = .ok h') :
    ∃ cells, h.bufs b = .live cells ∧ r * o.cols + c < cells.length ∧
      h'.bufs b = .live (cells.set (r * o.cols + c) v) ∧ h'.slots = h.slots ∧
      (∀ p, p ≠ b → h'.bufs p = h.bufs p) := by
  have st := steps_of_step hi hs he
  cases st with
  | write _ _ _ _ o' b' cells hh g4 g5 =>
    have g1 := hh.slot; rw [h1] at g1; cases g1
    have g2 := hh.data; rw [h2] at g2; cases g2
    exact ⟨cells, hh.live, index_lt g4 g5 hh.fits, by simp [pokeOf], rfl, fun p hp => by simp [pokeOf, upd_ne _ _ hp]⟩

/-- Operations that build their result in a new variable `d` leave every other variable and
    every caller array as they were. -/
theorem fresh_result_frame {h h' : Heap α} (hi : Inv h) {op : HOp α} {d : Nat}
    (hop : (∃ a f, op = .mapNew d a f) ∨ (∃ a b f, op = .zipNew d a b f) ∨ (∃ a f, op = .powNew d a f))
    (hs : h.inScope op = true) (he : h.step op = .ok h') :
    (∀ u, u ≠ d → h'.view u = h.view u) ∧ (∀ e, e < h.nExt → h'.bufs e = h.bufs e) := by
  have hop' : h.writePtr op = none ∧ ∀ u, u ≠ d → op.reseats u = false := by
    rcases hop with ⟨a, f, e⟩ | ⟨a, b, f, e⟩ | ⟨a, f, e⟩ <;> subst e <;>
      exact ⟨rfl, fun u hu => by simp [HOp.reseats, hu]⟩
  obtain ⟨f1, f2⟩ := no_write_frame hi (steps_of_step hi hs he) hop'.1
  exact ⟨fun u hu => f1 u (hop'.2 u hu), f2⟩

/-- `raster op scalar`, `scalar op raster`, `pow`, `sqrt`: the new variable shows the cell-wise
    image of what the operand shows. -/
theorem mapNew_effect {h h' : Heap α} (hi : Inv h) {d a : Nat} {f : α → α} {op : HOp α}
    (hop : op = .mapNew d a f ∨ op = .powNew d a f) (hs : h.inScope op = true)
    (he : h.step op = .ok h') :
    ∃ va, h.view a = some va ∧ h'.view d = some (va.map f) := by
  have st := steps_of_step hi hs he
  have key : ∀ {o : RObj} {b : Nat} {cells : List α}, Holds h a o b cells → ∃ va, h.view a = some va ∧
      (h.allocInto d o.rows o.cols ((cells.take o.size).map f) true).view d = some (va.map f) := by
    intro o b cells hh
    refine ⟨_, hh.view, ?_⟩
    have hlen : ((cells.take o.size).map f).length = o.rows * o.cols := by
      rw [List.length_map, List.length_take_of_le hh.fits]
      rfl
    rw [view_allocInto, List.take_of_length_le (Nat.le_of_eq hlen)]
    rfl
  rcases hop with e | e <;> subst e
  · cases st with
    | mapNew _ _ _ o b cells hh => exact key hh
  · cases st with
    | powNew _ _ _ o b cells hh => exact key hh

/-- Compound `op= scalar`, `fill`: the variable shows the cell-wise image of what it showed. -/
theorem mapInPlace_effect {h h' : Heap α} (hi : Inv h) {s : Nat} {f : α → α}
    (hs : h.inScope (.mapInPlace s f) = true) (he : h.step (.mapInPlace s f) = .ok h') :
    ∃ va, h.view s = some va ∧ h'.view s = some (va.map f) := by
  have st := steps_of_step hi hs he
  cases st with
  | mapInPlace _ _ o b cells hh =>
    exact ⟨_, hh.view, view_storeOf cells hh.slot hh.data (by rw [List.length_map, List.length_take_of_le hh.fits])⟩

theorem throws_zipNew {h : Heap α} {d a b : Nat} {f : α → α → α} {o o2 : RObj}
    (g1 : h.slots a = some o) (g2 : h.slots b = some o2) :
    h.throws (.zipNew d a b f) = if o.cols ≠ o2.cols ∨ o.rows ≠ o2.rows then some .invalid_argument else none := by
  simp only [throws, g1, g2]

theorem throws_zipInPlace {h : Heap α} {a b : Nat} {f : α → α → α} {o o2 : RObj}
    (g1 : h.slots a = some o) (g2 : h.slots b = some o2) :
    h.throws (.zipInPlace a b f) = if o.cols ≠ o2.cols ∨ o.rows ≠ o2.rows then some .invalid_argument else none := by
  simp only [throws, g1, g2]

/-- `raster op raster`: rejected with `invalid_argument` and no state change when the shapes
    differ, otherwise the new variable shows the cell-wise combination. -/
theorem zipNew_effect {h h' : Heap α} (hi : Inv h) {d a b : Nat} {f : α → α → α}
    (hs : h.inScope (.zipNew d a b f) = true) (he : h.step (.zipNew d a b f) = .ok h') :
    ∃ va vb, h.view a = some va ∧ h.view b = some vb ∧
      match Raster.zip f va vb with
      | .error k => h.throws (.zipNew d a b f) = some k ∧ h' = h
      | .ok r => h.throws (.zipNew d a b f) = none ∧ h'.view d = some r := by
  have st := steps_of_step hi hs he
  cases st with
  | zipNewThrow _ _ _ _ o o2 p p2 cells cells2 hh hh2 g3 =>
    refine ⟨_, _, hh.view, hh2.view, ?_⟩
    simp only [Raster.zip, if_pos g3, throws_zipNew hh.slot hh2.slot, and_self]
  | zipNew _ _ _ _ o o2 p p2 cells cells2 hh hh2 g3 =>
    refine ⟨_, _, hh.view, hh2.view, ?_⟩
    simp only [Raster.zip, if_neg g3, throws_zipNew hh.slot hh2.slot, true_and]
    have hlen : (List.zipWith f (cells.take o.size) (cells2.take o.size)).length ≤ o.rows * o.cols := by
      rw [List.length_zipWith]
      exact Nat.le_trans (Nat.min_le_left _ _) (List.length_take_le _ _)
    rw [view_allocInto, ← same_size g3, List.take_of_length_le hlen]

/-- Compound `op= raster`: rejected with no state change when the shapes differ, otherwise the
    left variable shows the cell-wise combination. -/
theorem zipInPlace_effect {h h' : Heap α} (hi : Inv h) {s t : Nat} {f : α → α → α}
    (hs : h.inScope (.zipInPlace s t f) = true) (he : h.step (.zipInPlace s t f) = .ok h') :
    ∃ va vb, h.view s = some va ∧ h.view t = some vb ∧
      match Raster.zipAssign f va vb with
      | .error k => h.throws (.zipInPlace s t f) = some k ∧ h' = h
      | .ok r => h.throws (.zipInPlace s t f) = none ∧ h'.view s = some r := by
  have st := steps_of_step hi hs he
  cases st with
  | zipThrow _ _ _ o o2 b b2 cells cells2 hh hh2 g3 =>
    refine ⟨_, _, hh.view, hh2.view, ?_⟩
    simp only [Raster.zipAssign, if_pos g3, throws_zipInPlace hh.slot hh2.slot, and_self]
  | zipInPlace _ _ _ o o2 b b2 cells cells2 hh hh2 g3 =>
    refine ⟨_, _, hh.view, hh2.view, ?_⟩
    simp only [Raster.zipAssign, if_neg g3, throws_zipInPlace hh.slot hh2.slot, true_and]
    rw [← same_size g3]
    exact view_storeOf cells hh.slot hh.data
      (by rw [List.length_zipWith, List.length_take_of_le hh.fits,
            List.length_take_of_le (same_size g3 ▸ hh2.fits), Nat.min_self])

/-! ### A buffer without an owner is never released (finding F31) -/

/-- Buffer `b` is allocated, is not a caller array, and no raster pointing to it owns it. -/
structure Leaked (h : Heap α) (b : Nat) : Prop where
  live : Live h b
  notExt : h.nExt ≤ b
  old : b < h.next
  unowned : Unowned h b

theorem writePtr_live {h h' : Heap α} (hi : Inv h) {op : HOp α} (st : Steps h op h') {p : Nat}
    (hw : h.writePtr op = some p) : Live h' p := by
  -- a variable stored through is not rebound and points to a live buffer afterwards as well
  have hi' := st.inv hi
  rcases writePtr_cases hw with ⟨x, o, g1, g2, g3⟩ | ⟨i, v, e⟩
  · have hx := slots_frame st x ((writePtr_of_writesVia (h := h) g1).2 x)
    obtain ⟨_, cells, hc, _⟩ := hi'.no_dangling x o p (hx ▸ g2) g3
    exact ⟨cells, hc⟩
  · subst e
    cases st with
    | extWrite _ _ _ cells he => exact hi'.ext_live p he

theorem leaked_step {h h' : Heap α} (hi : Inv h) {op : HOp α} (st : Steps h op h') {b : Nat}
    (hl : Leaked h b) : Leaked h' b := by
  obtain ⟨c1, c2⟩ := counters_frame st
  refine ⟨?_, by rw [c1]; exact hl.notExt, by have := hl.old; omega, ?_⟩
  · rcases bufs_frame st b with g | g | g | ⟨u, o, _, g2, g3, g4⟩
    · obtain ⟨cells, hc⟩ := hl.live; exact ⟨cells, by rw [g, hc]⟩
    · have := hl.old; omega
    · exact writePtr_live hi st g
    · have := hl.unowned u o g2 g3; rw [this] at g4; cases g4
  · intro u o' hu hp
    rcases slot_origin st u with e | r
    · exact hl.unowned u o' (e ▸ hu) hp
    · rcases r.origin o' b hu hp with g | ⟨_, g⟩ | ⟨t, o, _, g2, g3, g4⟩
      · have := hl.old; omega
      · exact g
      · rw [← g4]; exact hl.unowned t o g2 g3

theorem leaked_run {h h' : Heap α} (hi : Inv h) (ops : List (HOp α)) {b : Nat} (hl : Leaked h b)
    (hr : h.run ops = .ok h') : Leaked h' b :=
  run_induct ops (fun _ _ _ _ i st l => leaked_step i st l) hi hl hr

end Heap
end Pops
