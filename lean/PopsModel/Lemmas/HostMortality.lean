/-
  C11: the loop of `apply_mortality_at`. After the indices `< n` every cohort `j < n` has lost
  `mortKill rate mort[j] j`, read off the cohorts the loop started from (`mech_loop_inv`); the
  specification of the whole action and its effect on the cohorts as a list (`mech_mort_step`) follow.
-/
import PopsModel.Lemmas.HostMech
namespace Pops

theorem mech_ite_sub (x k : Int) (h0 : 0 ≤ k) (h1 : ¬ k > x) : (if x > 0 then x - k else x) = x - k := by
  split <;> omega

/-- Total killed at the cohorts `< n`. -/
def mech_KS (rate : Rat) (mort : List Int) : Nat → Int
  | 0 => 0
  | n + 1 => mech_KS rate mort n + mortKill rate mort[n]! n

/-- The loop of `apply_mortality_at` over a list of indices. -/
def mech_loop (rate : Rat) (l : List Nat) (c : Cell) : Except ErrKind Cell :=
  l.foldlM (fun c idx => mortalityAtIndex rate idx c) c

theorem mech_loop_cons (rate : Rat) (a : Nat) (l : List Nat) (c : Cell) :
    mech_loop rate (a :: l) c = (mortalityAtIndex rate a c).bind (mech_loop rate l) := by
  unfold mech_loop; rw [List.foldlM_cons]; rfl

theorem mech_loop_snoc (rate : Rat) (a : Nat) (l : List Nat) (c : Cell) :
    mech_loop rate (l ++ [a]) c = (mech_loop rate l c).bind (mortalityAtIndex rate a) := by
  induction l generalizing c with
  | nil =>
    show (mortalityAtIndex rate a c).bind (fun c => Except.ok c) = mortalityAtIndex rate a c
    cases mortalityAtIndex rate a c <;> rfl
  | cons b t ih =>
    simp only [List.cons_append, mech_loop_cons]
    cases mortalityAtIndex rate b c with
    | error e => rfl
    | ok c1 => exact ih c1

theorem getElem?_set_apply (l : List Int) (n j : Nat) (f : Int → Int) :
    (l.set n (f l[n]!))[j]? = if j = n then l[n]?.map f else l[j]? := by
  rw [List.getElem?_set]
  by_cases h : n = j
  · subst h
    by_cases hl : n < l.length
    · simp only [if_true, hl, List.getElem!_eq_getElem?_getD, List.getElem?_eq_getElem hl, Option.getD_some,
        Option.map_some]
    · simp only [if_true, hl, if_false]; rw [List.getElem?_eq_none (by omega)]; rfl
  · have h' : ¬ j = n := fun e => h e.symm
    simp only [h, h', if_false]

/-- State of the loop after the indices `< n`, relative to the state `c0` it started from. -/
structure mech_LoopInv (rate : Rat) (c0 : Cell) (n : Nat) (c' : Cell) : Prop where
  mort : ∀ j, c'.mort[j]? = (c0.mort[j]?).map (fun m => m - (if j < n then mortKill rate m j else 0))
  died : c'.died = c0.died + mech_KS rate c0.mort n
  i : c'.i = c0.i - mech_KS rate c0.mort n
  th : c'.th = c0.th - mech_KS rate c0.mort n
  s : c'.s = c0.s
  e : c'.e = c0.e
  r : c'.r = c0.r
  te : c'.te = c0.te
  balance : c'.died + sumL c'.mort = c0.died + sumL c0.mort

theorem mech_loop_inv (rate : Rat) (hr0 : 0 ≤ rate) (c0 : Cell) (n : Nat) :
    ∀ c', mech_loop rate (List.range n) c0 = .ok c' → mech_LoopInv rate c0 n c' := by
  induction n with
  | zero =>
    intro c' h
    cases h
    refine ⟨fun j => ?_, (Int.add_zero _).symm, (Int.sub_zero _).symm, (Int.sub_zero _).symm,
      rfl, rfl, rfl, rfl, rfl⟩
    simp only [Nat.not_lt_zero, if_false, Int.sub_zero, Option.map_id']
  | succ n ih =>
    intro c' h
    rw [List.range_succ, mech_loop_snoc] at h
    cases hcn : mech_loop rate (List.range n) c0 with
    | error e => rw [hcn] at h; cases h
    | ok cn =>
      rw [hcn] at h
      have inv := ih cn hcn
      have hmn : cn.mort[n]! = c0.mort[n]! := by
        rw [List.getElem!_eq_getElem?_getD, List.getElem!_eq_getElem?_getD, inv.mort n]
        simp only [Nat.lt_irrefl, if_false, Int.sub_zero, Option.map_id']
      have hc' := mortalityAtIndex_of_ok rate n cn c' hr0 h
      have hidx := mortKill_index rate cn.mort n
      subst hc'
      refine ⟨fun j => ?_, ?_, ?_, ?_, inv.s, inv.e, inv.r, inv.te, ?_⟩
      · show (cn.mort.set n ((fun m => m - mortKill rate m n) cn.mort[n]!))[j]? = _
        rw [getElem?_set_apply cn.mort n j (fun m => m - mortKill rate m n)]
        by_cases hj : j = n
        · subst hj
          simp only [if_true, inv.mort j, Nat.lt_irrefl, if_false, Int.sub_zero, Nat.lt_succ_self,
            Option.map_id']
        · have e1 : (j < n + 1) ↔ (j < n) :=
            ⟨fun h => Nat.lt_of_le_of_ne (Nat.le_of_lt_succ h) hj, Nat.lt_succ_of_lt⟩
          simp only [hj, if_false, inv.mort j, e1]
      · show cn.died + _ = c0.died + (mech_KS rate c0.mort n + mortKill rate c0.mort[n]! n)
        rw [hmn, inv.died, Int.add_assoc]
      · show cn.i - _ = c0.i - (mech_KS rate c0.mort n + mortKill rate c0.mort[n]! n)
        rw [hmn, inv.i, Int.sub_sub]
      · show cn.th - _ = c0.th - (mech_KS rate c0.mort n + mortKill rate c0.mort[n]! n)
        rw [hmn, inv.th, Int.sub_sub]
      · show cn.died + _ + sumL (cn.mort.set n _) = _
        rw [sumL_set_sub _ _ _ hidx, ← inv.balance]; clear hidx hmn ih; omega

theorem getElem?_subL_range_map (l : List Int) (g : Nat → Int) (j : Nat) :
    (subL l ((List.range l.length).map g))[j]? = l[j]?.map (fun m => m - g j) := by
  unfold subL
  rw [List.getElem?_zipWith, List.getElem?_map]
  by_cases h : j < l.length
  · rw [List.getElem?_range h, List.getElem?_eq_getElem h]; rfl
  · rw [List.getElem?_eq_none (l := l) (by omega)]; rfl

theorem mech_sum_cut (rate : Rat) (mort : List Int) (n len : Nat) :
    sumL ((List.range len).map (fun k => if k < n then mortKill rate mort[k]! k else 0)) =
      mech_KS rate mort (min n len) := by
  induction len with
  | zero => rw [Nat.min_zero]; rfl
  | succ len ih =>
    rw [List.range_succ, List.map_append, sumL_append, ih, List.map_cons, List.map_nil, sumL_cons,
      sumL_nil, Int.add_zero]
    by_cases h : len < n
    · rw [if_pos h, Nat.min_eq_right (Nat.le_of_lt h), Nat.min_eq_right h]; rfl
    · rw [if_neg h, Nat.min_eq_left (Nat.not_lt.mp h), Nat.min_eq_left (Nat.le_succ_of_le (Nat.not_lt.mp h)),
        Int.add_zero]

theorem mech_applyMortality_pos (c : Cell) (rate : Rat) (lag : Int) (h : ¬ rate ≤ 0) :
    c.applyMortality rate lag =
      mech_loop rate (List.range ((c.mort.length : Int) - lag - 1 + 1).toNat) c := by
  unfold Cell.applyMortality mech_loop
  simp only [h, if_false]

theorem mortality_apply_ok (c c' : Cell) (rate : Rat) (lag : Int) (hr0 : ¬ rate ≤ 0)
    (h : (CellOp.mortality rate lag).apply c = .ok c') :
    ∃ cN, mech_loop rate (List.range ((c.mort.length : Int) - lag - 1 + 1).toNat) c = .ok cN ∧
      c' = cN.stepForwardMortality := by
  simp only [CellOp.apply, mech_applyMortality_pos c rate lag hr0] at h
  cases hloop : mech_loop rate (List.range ((c.mort.length : Int) - lag - 1 + 1).toNat) c with
  | error e => rw [hloop] at h; cases h
  | ok cN => rw [hloop] at h; cases h; exact ⟨cN, rfl, rfl⟩

theorem mortalitySpec_of_rate_nonpos (c : Cell) (rate : Rat) (lag : Int) (hr : rate ≤ 0) :
    ∃ c', (CellOp.mortality rate lag).apply c = .ok c' ∧ mortalitySpec rate lag c c' = true := by
  refine ⟨c.stepForwardMortality, ?_, ?_⟩
  · simp only [CellOp.apply, Cell.applyMortality, hr, if_true]; rfl
  · have hk : (List.range c.mort.length).map (fun _ => (0 : Int)) = c.mort.map fun _ => 0 := by
      rw [List.map_const', List.map_const', List.length_range]
    simp only [mortalitySpec, hr, if_true, hk, sumL_zeros, subL_map, Int.sub_zero, List.map_id',
      Cell.stepForwardMortality, Int.add_zero, decide_true, Bool.and_self]

/-- No consistency of the cell is needed here: that only serves for the action not to fail. -/
theorem mortalitySpec_of_ok (c c' : Cell) (rate : Rat) (lag : Int) (hr0 : ¬ rate ≤ 0)
    (hl : 0 ≤ lag) (h : (CellOp.mortality rate lag).apply c = .ok c') :
    mortalitySpec rate lag c c' = true := by
  obtain ⟨cN, hloop, rfl⟩ := mortality_apply_ok c c' rate lag hr0 h
  have hk : ∀ k : Nat, k < ((c.mort.length : Int) - lag - 1 + 1).toNat ↔
      ¬ ((k : Int) > (c.mort.length : Int) - lag - 1) := fun k =>
    Int.lt_toNat.trans (Int.lt_add_one_iff.trans Int.not_lt.symm)
  have hN : ((c.mort.length : Int) - lag - 1 + 1).toNat ≤ c.mort.length :=
    Int.toNat_le.mpr (by rw [Int.sub_add_cancel]; exact Int.sub_le_self _ hl)
  generalize ((c.mort.length : Int) - lag - 1 + 1).toNat = N at hloop hk hN
  have inv := mech_loop_inv rate (Rat.le_of_lt (Rat.not_le.mp hr0)) c N cN hloop
  -- the vector `killed` of the specification, with the loop bound `N` in place of the lag
  have hg' : (fun (k : Nat) =>
      let m : Int := c.mort[k]!
      if rate ≤ 0 then 0
      else if ((k : Nat) : Int) > (c.mort.length : Int) - lag - 1 then 0
      else if m ≤ 0 then 0
      else if k = 0 then m else rfloor (rate * m)) =
      (fun k => if k < N then mortKill rate c.mort[k]! k else 0) := by
    funext k
    simp only [hr0, if_false, mortKill, hk k, ite_not]
  have hmort : cN.mort = subL c.mort ((List.range c.mort.length).map
      (fun k => if k < N then mortKill rate c.mort[k]! k else 0)) := by
    apply List.ext_getElem?
    intro j
    rw [getElem?_subL_range_map, inv.mort j, List.getElem!_eq_getElem?_getD]
    cases c.mort[j]? <;> rfl
  have hsum := mech_sum_cut rate c.mort N c.mort.length
  rw [Nat.min_eq_left hN] at hsum
  simp only [mortalitySpec, hg', hsum, ← hmort, Cell.stepForwardMortality, inv.died, inv.i, inv.th, inv.s, inv.e, inv.r,
    inv.te, decide_true, Bool.and_self]

theorem dom_of_getElem?_map (l : List Int) : ∀ (l' : List Int) (g : Nat → Int → Int),
    (∀ j, l'[j]? = l[j]?.map (g j)) → (∀ j m, 0 ≤ m → 0 ≤ g j m ∧ g j m ≤ m) →
    (∀ x ∈ l, 0 ≤ x) → Dom l l' := by
  induction l with
  | nil =>
    intro l' g h _ _
    cases l' with
    | nil => exact Dom.nil
    | cons y t' => have := h 0; simp at this
  | cons x t ih =>
    intro l' g h hg hn
    cases l' with
    | nil => have := h 0; simp at this
    | cons y t' =>
      have h0 := h 0
      simp only [List.getElem?_cons_zero, Option.map_some, Option.some.injEq] at h0
      have hx := hn x (by simp)
      have := hg 0 x hx
      refine .cons ⟨by omega, by omega⟩ (ih t' (fun j => g (j + 1)) ?_ (fun j m hm => hg (j + 1) m hm)
        (fun z hz => hn z (by simp [hz])))
      intro j
      have := h (j + 1)
      simpa only [List.getElem?_cons_succ] using this

theorem mortKill_front (rate : Rat) (m : Int) (hm : 0 ≤ m) : m - mortKill rate m 0 = 0 := by
  unfold mortKill
  split
  · omega
  · rw [if_pos rfl]; exact Int.sub_self m

theorem mech_mort_step (c c1 : Cell) (rate : Rat) (lag : Int) (hr0 : 0 < rate) (hr1 : rate ≤ 1)
    (x0 : Int) (t : List Int) (hc : c.mort = x0 :: t)
    (hl : lag < (c.mort.length : Int)) (hnn : ∀ x ∈ c.mort, 0 ≤ x)
    (h : (CellOp.mortality rate lag).apply c = .ok c1) :
    ∃ t', c1.mort = t' ++ [0] ∧ Dom t t' ∧ c1.died = c.died + (sumL c.mort - sumL t') := by
  have hr0' : 0 ≤ rate := Rat.le_of_lt hr0
  obtain ⟨cN, hloop, rfl⟩ := mortality_apply_ok c c1 rate lag (Rat.not_le.mpr hr0) h
  have hNpos : 0 < ((c.mort.length : Int) - lag - 1 + 1).toNat :=
    Int.lt_toNat.mpr (by rw [Int.sub_add_cancel]; exact Int.sub_pos.mpr hl)
  generalize ((c.mort.length : Int) - lag - 1 + 1).toNat = N at hloop hNpos
  have inv := mech_loop_inv rate hr0' c N cN hloop
  have hdom : Dom c.mort cN.mort := by
    apply dom_of_getElem?_map c.mort cN.mort
      (fun j m => m - (if j < N then mortKill rate m j else 0)) inv.mort ?_ hnn
    intro j m hm
    by_cases hj : j < N
    · rw [if_pos hj]
      exact ⟨Int.sub_nonneg.mpr (mortKill_le rate hr0' hr1 m j hm),
        Int.sub_le_self _ (mortKill_nonneg rate hr0' m j)⟩
    · rw [if_neg hj, Int.sub_zero]; exact ⟨hm, Int.le_refl _⟩
  have h0 := inv.mort 0
  have hbal := inv.balance
  clear hl
  rw [hc] at hdom h0 hbal
  cases hcN : cN.mort with
  | nil => rw [hcN] at hdom; cases hdom
  | cons y t' =>
    rw [hcN] at hdom h0 hbal
    obtain ⟨hy, hdt⟩ := dom_cons.mp hdom
    simp only [List.getElem?_cons_zero, Option.map_some, Option.some.injEq, hNpos, if_true] at h0
    -- the front cohort dies completely
    rw [mortKill_front rate x0 (Int.le_trans hy.1 hy.2)] at h0
    subst h0
    refine ⟨t', ?_, hdt, ?_⟩
    · show rotateLeft cN.mort = _
      rw [hcN]; rfl
    · show cN.died = _
      rw [hc]; rw [sumL_cons] at hbal; clear hNpos; omega

end Pops
