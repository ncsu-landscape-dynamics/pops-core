/-
  The constructor's loop as an inductive specification (`Tiles`). From `S` on: the same loop by step
  index, which Props/C07 does not use (it goes through `Tiles.calendar` in Lemmas/Calendar).
-/
import PopsModel.Lemmas.Date
namespace Pops
open Date

/-- Step lengths in the domain of C07: at least one unit; day steps at most 28 days. -/
def StepOK (u : StepUnit) (n : Nat) : Prop := 1 ≤ n ∧ (u = .day → n ≤ 28)

/-- A successor function that keeps dates valid and strictly increases them. -/
def GoodSucc (nx : Date → Date) : Prop := ∀ t : Date, t.Valid → (nx t).Valid ∧ t.ord < (nx t).ord

theorem iter_good {f : Date → Date} (hf : GoodSucc f) (n : Nat) (t : Date) (hv : t.Valid) :
    (iter f n t).Valid ∧ t.ord + n ≤ (iter f n t).ord := by
  induction n generalizing t with
  | zero => simp [iter, hv]
  | succ k ih =>
    obtain ⟨v1, o1⟩ := hf t hv
    obtain ⟨v2, o2⟩ := ih (f t) v1
    simp only [iter]; refine ⟨v2, ?_⟩; omega

theorem iter_goodSucc {f : Date → Date} (hf : GoodSucc f) {n : Nat} (h : 1 ≤ n) : GoodSucc (iter f n) :=
  fun t hv => ⟨(iter_good hf n t hv).1, by have := (iter_good hf n t hv).2; omega⟩

theorem increaseDate_good (u : StepUnit) (n : Nat) (h : StepOK u n) : GoodSucc (increaseDate u n) := by
  obtain ⟨h1, h2⟩ := h
  cases u with
  | day => exact fun t hv => incDays_spec t n hv (by omega) (by have := h2 rfl; omega)
  | week => exact iter_goodSucc incWeek_spec h1
  | month => exact iter_goodSucc (fun t hv => ⟨(incMonth_spec t hv).1, (incMonth_spec t hv).2.1⟩) h1

/-- Specification of the constructor's loop: steps are produced while the running date is `<= end`. -/
inductive Tiles (nx : Date → Date) (end_ : Date) : Date → List Step → Prop
  | nil {date : Date} : date.le end_ = false → Tiles nx end_ date []
  | cons {date : Date} {rest : List Step} : date.le end_ = true → Tiles nx end_ (nx date) rest →
      Tiles nx end_ date (⟨date, (nx date).subtractDay⟩ :: rest)

theorem stepsLoop_tiles (u : StepUnit) (n : Nat) (h : StepOK u n) (end_ : Date) (he : end_.Valid)
    (fuel : Nat) (date : Date) (hv : date.Valid) (hf : (end_.ord - date.ord + 2).toNat ≤ fuel) :
    Tiles (increaseDate u n) end_ date (stepsLoop u n end_ fuel date) := by
  induction fuel generalizing date with
  | zero =>
    simp only [stepsLoop]
    apply Tiles.nil
    have := le_iff_ord hv.bounded he.bounded
    cases hle : date.le end_
    · rfl
    · have := this.mp hle; omega
  | succ k ih =>
    simp only [stepsLoop]
    cases hle : date.le end_
    · simp; exact Tiles.nil hle
    · simp
      obtain ⟨v1, o1⟩ := increaseDate_good u n h date hv
      exact Tiles.cons hle (ih _ v1 (by omega))

/-- The k-th start. -/
abbrev S (nx : Date → Date) (date : Date) (k : Nat) : Date := iter nx k date

theorem Tiles.struct {nx : Date → Date} {end_ date : Date} {L : List Step}
    (h : Tiles nx end_ date L) :
    (∀ k, k < L.length → L[k]? = some ⟨S nx date k, (S nx date (k+1)).subtractDay⟩ ∧
        (S nx date k).le end_ = true) ∧ (S nx date L.length).le end_ = false := by
  induction h with
  | nil hle => simp [S, iter, hle]
  | @cons date rest hle _ ih =>
    obtain ⟨ih1, ih2⟩ := ih
    refine ⟨?_, ?_⟩
    · intro k hk
      cases k with
      | zero => simp [S, iter, hle]
      | succ j =>
        have := ih1 j (by simpa using hk)
        simpa [S, iter] using this
    · simpa [S, iter] using ih2

theorem S_valid {nx : Date → Date} (hg : GoodSucc nx) (date : Date) (hv : date.Valid) (k : Nat) :
    (S nx date k).Valid := (iter_good hg k date hv).1

theorem S_step {nx : Date → Date} (date : Date) (k : Nat) : S nx date (k+1) = nx (S nx date k) :=
  iter_succ_outer nx k date

theorem S_lt_succ {nx : Date → Date} (hg : GoodSucc nx) (date : Date) (hv : date.Valid) (k : Nat) :
    (S nx date k).ord < (S nx date (k+1)).ord := by
  rw [S_step]; exact (hg _ (S_valid hg date hv k)).2

theorem S_strict {nx : Date → Date} (hg : GoodSucc nx) (date : Date) (hv : date.Valid) {j k : Nat}
    (h : j < k) : (S nx date j).ord < (S nx date k).ord := by
  induction k with
  | zero => omega
  | succ i ih =>
    have := S_lt_succ hg date hv i
    by_cases hj : j = i
    · rw [hj]; exact this
    · have := ih (by omega); omega

/-- In a strictly increasing sequence, every point of `[S 0, S N)` lies in exactly one `[S k, S (k+1))`. -/
theorem S_locate {nx : Date → Date} (date : Date) (N : Nat)
    (x : Int) (h0 : (S nx date 0).ord ≤ x) (hN : x < (S nx date N).ord) :
    ∃ k, k < N ∧ (S nx date k).ord ≤ x ∧ x < (S nx date (k+1)).ord := by
  induction N with
  | zero => omega
  | succ i ih =>
    by_cases hx : x < (S nx date i).ord
    · obtain ⟨k, hk, a, b⟩ := ih hx
      exact ⟨k, by omega, a, b⟩
    · exact ⟨i, by omega, by omega, hN⟩

/-- Membership in a step, on valid dates, is membership in the half-open rank interval. -/
theorem contains_iff {nx : Date → Date} (hg : GoodSucc nx) (date : Date) (hv : date.Valid) (k : Nat)
    (x : Date) (hx : x.Valid) :
    (Step.contains ⟨S nx date k, (S nx date (k+1)).subtractDay⟩ x = true) ↔
      ((S nx date k).ord ≤ x.ord ∧ x.ord < (S nx date (k+1)).ord) := by
  have v1 := S_valid hg date hv k
  have v2 := S_valid hg date hv (k+1)
  have v3 := subDay_valid _ v2
  simp only [Step.contains, Bool.and_eq_true]
  rw [ge_iff_ord hx.bounded v1.bounded, le_iff_ord hx.bounded v3.bounded,
    lt_iff_le_subDay x _ hx v2]

end Pops
